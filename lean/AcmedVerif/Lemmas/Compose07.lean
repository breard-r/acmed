/-
Vocabulary and helper lemmas for `Props/C07Compose.lean` (non-interference between certificates):
C07's words — certificate, attempt, failing, healthy — on top of the lock model of C12.
-/
import AcmedVerif.Lemmas.Locks

namespace AcmedVerif.Compose07
open AcmedVerif.Locks

/-- The attempt fails: `request_certificate` returns `Err` after `k` statement-level segments. -/
def Fails (sh : AttemptShape) : Prop := ∃ k, sh.failAfter = some k

/-- The attempt runs to the end (certificate written, hooks called). -/
def Healthy (sh : AttemptShape) : Prop := sh.failAfter = none

/-- Every one of the consecutive attempts `rounds` of a certificate's renewal loop
(`main_event_loop.rs:158-223`: attempt, post-operation hooks, re-queue) fails. -/
def KeepsFailing (rounds : List AttemptShape) : Prop := ∀ sh ∈ rounds, Fails sh

/-- Lock program of a certificate making the attempts `rounds` one after the other. -/
def certLocks (rounds : List AttemptShape) : List Op := (rounds.map attemptLocks).flatten

/-- Certificate `c` of the family `certs` fails where `failing c` says (`none`: it does not). -/
def withFailures (certs : List AttemptShape) (failing : Nat → Option Nat) : List AttemptShape :=
  certs.mapIdx fun c sh => { sh with failAfter := failing c }

theorem withFailures_getElem? (certs : List AttemptShape) (failing : Nat → Option Nat) (c : Nat) :
    (withFailures certs failing)[c]? =
      (certs[c]?).map fun sh => { sh with failAfter := failing c } := by
  simp [withFailures, List.getElem?_mapIdx]

theorem every_shape_fails_or_healthy (sh : AttemptShape) : Fails sh ∨ Healthy sh := by
  unfold Fails Healthy
  cases sh.failAfter with
  | none => exact .inr rfl
  | some k => exact .inl ⟨k, rfl⟩

/-- The path of a healthy attempt is the whole of `request_certificate`, and its last segment is
`write_certificate` + hooks. -/
theorem healthy_program (sh : AttemptShape) (h : Healthy sh) :
    attemptLocks sh = (segments sh).flatten ∧
    ∃ pre, attemptLocks sh = pre ++ ios sh.storeIos := by
  have h1 : attemptLocks sh = (segments sh).flatten := by
    unfold attemptLocks; rw [h]; rfl
  refine ⟨h1, ?_⟩
  rw [h1]
  simp only [segments, segmentsWith, List.flatten_append, List.flatten_cons, List.flatten_nil,
    List.append_nil, ← List.append_assoc]
  exact ⟨_, rfl⟩

end AcmedVerif.Compose07
