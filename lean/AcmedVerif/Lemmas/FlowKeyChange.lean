/-
Which key signs the key-change request of an attempt (`Model/Flow.lean`, current tree): lemmas for
`Props/C04Bind.lean` `rollover_outer_signed_by_recorded_key`.
-/
import AcmedVerif.Lemmas.Flow

namespace AcmedVerif.Flow

/-- Not a key-change request. -/
def NoKC : Ev → Prop
  | .exch .keyChange _ _ _ => False
  | _ => True

/-- If a key-change request, then `kid`-authenticated and signed by `rec`. -/
def KCBy (rec : KeyId) : Ev → Prop
  | .exch .keyChange a s _ => a = .kid ∧ s = rec
  | _ => True

theorem NoKC.kcBy {rec : KeyId} {e : Ev} (h : NoKC e) : KCBy rec e := by
  cases e with
  | exch k a s r => cases k <;> first | exact h.elim | trivial
  | _ => trivial

theorem AllEv.bind_at {P : Ev → Prop} {m : M α} {f : α → M β} {w : World}
    (hm : Adds (AllEv P) m w) (hf : ∀ a w1, m w = (.val a, w1) → Adds (AllEv P) (f a) w1) :
    Adds (AllEv P) (m >>= f) w :=
  TR.bind_at hm hf (AllEv.tlaw P).app fun _ h => h

theorem NoKC.tr {m : M α} (h : Sat (TR (AllEv NoKC)) m) (rec : KeyId) (w : World) :
    Adds (AllEv (KCBy rec)) m w :=
  (AllEv.mono (fun _ => NoKC.kcBy) h).run w

theorem NoKC.acct : AcctSteps (TR (AllEv NoKC)) fun k => k ≠ .keyChange :=
  AllEv.acct NoKC _ (fun k _ _ hk => by cases k <;> first | trivial | exact hk rfl)
    (fun _ => ⟨trivial, trivial⟩) trivial

theorem NoKC.saveAccount : Sat (TR (AllEv NoKC)) saveAccount := NoKC.acct.saveAccount
theorem NoKC.register : Sat (TR (AllEv NoKC)) register := NoKC.acct.register nofun
theorem NoKC.updateContacts : Sat (TR (AllEv NoKC)) updateContacts :=
  NoKC.acct.updateContacts nofun nofun
theorem NoKC.newOrder : Sat (TR (AllEv NoKC)) newOrder := NoKC.acct.newOrder nofun nofun
theorem NoKC.refreshDirectory : Sat (TR (AllEv NoKC)) refreshDirectory :=
  .refreshDirectory NoKC.acct.law (NoKC.acct.exchange _ _ nofun)

theorem ARest.noKC {e : Ev} (h : ARest e) : NoKC e := by
  cases e with
  | exch k a s r =>
    cases k <;> first | trivial | (simp [ARest] at h)
  | _ => trivial

theorem NoKC.afterSync (v : Variant) (cfg : Cfg) : Sat (TR (AllEv NoKC)) (afterSync v cfg) :=
  afterSync_sat (AllEv.tlaw NoKC) v cfg NoKC.newOrder fun _ he => AllEv.single he.noKC

/-- The roll-over step: its key-change request (if one is sent) is `kid`-authenticated and signed
by the recorded key; whatever precedes (the check of the account, since 1fb1c1a) or follows (account
save, the re-registration after `accountDoesNotExist`, the check signed by the current key) contains
no other key change. -/
theorem updateKey_kcBy (v : Variant) (w : World) : Adds (AllEv (KCBy w.acc.recKey)) (updateKey v) w := by
  obtain ⟨es, he, hs, _⟩ := updateKey_shape v w
  refine ⟨es, he, fun e hm => ?_⟩
  cases e with
  | exch k a s r =>
    rcases hs.exch_mem hm with ⟨rfl, h⟩ | rfl | ⟨rfl, _⟩
    · exact h
    · trivial
    · trivial
  | _ => trivial

theorem synchronize_kcBy (w : World) : Adds (AllEv (KCBy w.acc.recKey)) (synchronize .current) w := by
  have L := (AllEv.tlaw (KCBy w.acc.recKey)).law
  have hcon : ∀ (c : Prop) [Decidable c] w1,
      Adds (AllEv (KCBy w.acc.recKey)) (if c then updateContacts else pure ()) w1 :=
    fun _ _ w1 => (Sat.ite (AllEv.mono (fun _ => NoKC.kcBy) NoKC.updateContacts) (.pure L _)).run w1
  unfold Adds
  cases hu : w.acc.hasUrl with
  | false => rw [sync_eq_noUrl _ w hu]; exact NoKC.tr NoKC.register _ w
  | true =>
    cases hb : w.acc.bindingInSync with
    | false =>
      rw [sync_eq_binding _ w hu hb]
      exact AllEv.bind_at (NoKC.tr NoKC.register _ w) fun _ w1 _ => hcon _ w1
    | true =>
      rw [sync_eq_keyFirst _ w hu hb rfl]
      refine AllEv.bind_at ?_ fun _ w1 _ => hcon _ w1
      split
      · exact updateKey_kcBy _ w
      · exact (Sat.pure L _).run w

theorem attemptM_kcBy (cfg : Cfg) (w : World) :
    Adds (AllEv (KCBy w.acc.recKey)) (attemptM .current cfg) w := by
  unfold Adds
  rw [attemptM_eq]
  refine AllEv.bind_at (NoKC.tr NoKC.refreshDirectory _ w) fun _ w1 h1 => ?_
  rw [← refreshDirectory_acc h1]
  exact AllEv.bind_at (synchronize_kcBy w1) fun _ w2 _ => NoKC.tr (NoKC.afterSync .current cfg) _ w2

end AcmedVerif.Flow
