/-
From the event trace of `Model/Http.lean` (where a request of a redirect chain is an ordinary
`getSend`) to the instants the judge `Spec.C09.holds` looks at (`stamp`), and counting requests
(`sends`).
-/
import AcmedVerif.Lemmas.Http

namespace AcmedVerif.HttpRedirect
open AcmedVerif.Http

/-- The admission instant under which each request of a trace went out.  `as` = the instants at
which the limiter admitted, in order (`Limiter.State.hist`): the k-th `admit` event of the trace is
the k-th of them.  A send event is stamped with the instant of the latest `admit` before it (`cur`;
the instant is NOT used up, so two requests behind one admission get the same stamp — what the
library did before commit 1dd071b).  The trace is read as far as `as` reaches. -/
def stamp : Nat → List Nat → List Ev → List Nat
  | _, _, [] => []
  | cur, ts, e :: es =>
    match e with
    | .admit =>
      match ts with
      | [] => []
      | t :: ts' => stamp t ts' es
    | .getSend _ => cur :: stamp cur ts es
    | .postSend _ _ _ => cur :: stamp cur ts es
    | _ => stamp cur ts es

/-- The admission instants of the requests of a trace. -/
def sendInstants (as : List Nat) (evs : List Ev) : List Nat := stamp 0 as evs

/-- Number of requests put on the wire. -/
def sends (evs : List Ev) : Nat := (evs.filter Ev.isSend).length

/-- In a trace where every send is immediately preceded by its own `admit`, the stamps are distinct
admissions, in order: a sublist of the admission instants. -/
theorem stamp_sublist (evs : List Ev) :
    ∀ (p : Bool) (cur : Nat) (ts : List Nat), limitedAux p evs = true →
      (stamp cur ts evs).Sublist ((if p then [cur] else []) ++ ts) := by
  induction evs with
  | nil => intro p cur ts _; exact List.nil_sublist _
  | cons e es ih =>
    intro p cur ts h
    rw [limitedAux_cons, Bool.and_eq_true] at h
    obtain ⟨hp, h⟩ := h
    cases e with
    | admit =>
      cases ts with
      | nil => exact List.nil_sublist _
      | cons t ts' => exact (ih true t ts' h).trans (List.sublist_append_right _ _)
    | getSend u =>
      obtain rfl : p = true := by simpa [Ev.isSend] using hp
      exact (ih false cur ts h).cons_cons cur
    | postSend u n r =>
      obtain rfl : p = true := by simpa [Ev.isSend] using hp
      exact (ih false cur ts h).cons_cons cur
    | _ => exact (ih false cur ts h).trans (List.sublist_append_right _ _)

theorem sendInstants_sublist (as : List Nat) (evs : List Ev) (h : limited evs = true) :
    (sendInstants as evs).Sublist as := by
  have := stamp_sublist evs false 0 as h
  simpa [sendInstants] using this

theorem sends_append (e1 e2 : List Ev) : sends (e1 ++ e2) = sends e1 + sends e2 := by
  simp [sends, List.filter_append]

@[simp] theorem sends_nil : sends [] = 0 := rfl
@[simp] theorem sends_admit (es : List Ev) : sends (.admit :: es) = sends es := rfl
@[simp] theorem sends_getSend (u) (es : List Ev) : sends (.getSend u :: es) = sends es + 1 := rfl
@[simp] theorem sends_postSend (u n r) (es : List Ev) :
    sends (.postSend u n r :: es) = sends es + 1 := rfl
@[simp] theorem sends_recvGet (a) (es : List Ev) : sends (.recvGet a :: es) = sends es := rfl
@[simp] theorem sends_recvPost (a) (es : List Ev) : sends (.recvPost a :: es) = sends es := rfl
@[simp] theorem sends_retryWait (es : List Ev) : sends (.retryWait :: es) = sends es := rfl
@[simp] theorem sends_pollWait (i) (es : List Ev) : sends (.pollWait i :: es) = sends es := rfl

theorem getLoop_sends (fuel u : Nat) (st : Http.State) :
    sends (getLoop fuel u st).evs ≤ fuel ∧
      (recvd (getLoop fuel u st).evs).length ≤ sends (getLoop fuel u st).evs :=
  getLoop_induct
    (motive := fun fuel _ _ o => sends o.evs ≤ fuel ∧ (recvd o.evs).length ≤ sends o.evs)
    (fun _ _ => ⟨Nat.le_refl 0, Nat.le_refl 0⟩)
    (fun _ _ _ _ => ⟨Nat.succ_le_succ (Nat.zero_le _), Nat.zero_le _⟩)
    (fun _ _ _ _ _ _ _ _ _ => ⟨Nat.succ_le_succ (Nat.zero_le _), Nat.le_refl 1⟩)
    (fun fuel u _ a _ _ _ o _ _ _ _ ih => by
      simp only [sends_append, recvd_append, List.length_append]
      -- the block `admit, getSend u, recvGet a` is one request and one answer
      show 1 + _ ≤ fuel + 1 ∧ 1 + _ ≤ 1 + _
      omega)
    fuel u st

/-- With a nonce picked and a working builder, `transmit` puts exactly one request on the wire: the
POST to the call's URL with that nonce. -/
theorem transmit_sends_one (mode : NonceMode) (url i : Nat) (st st1 : Http.State) (sent : Option Nat)
    (hp : pickNonce mode st = some (sent, st1)) :
    sends (transmit mode true url i st).2.2 = 1 ∧
    posts (transmit mode true url i st).2.2 = [⟨url, sent, i⟩] := by
  rcases transmit_cases mode true url i st with ⟨hn, -⟩ | ⟨sent', st1', hp', ⟨hb, -⟩ | ⟨-, -, ht⟩ |
    ⟨-, a, rest, -, ht⟩⟩
  · rw [hp] at hn; cases hn
  · cases hb
  · rw [hp] at hp'; cases hp'; rw [ht]; exact ⟨rfl, rfl⟩
  · rw [hp] at hp'; cases hp'; rw [ht]; split <;> exact ⟨rfl, rfl⟩

end AcmedVerif.HttpRedirect
