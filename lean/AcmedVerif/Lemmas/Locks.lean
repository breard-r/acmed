/-
Lemmas about `Model/Locks.lean` (C12).  In order: the discipline `WO` and its Boolean twin; one task step
(`Op.after`); invariants along runs — each a property of single task states that `exec` preserves
(`Run.task_inv`), except mutual exclusion (`held_step`); progress by climbing ranks (`climb`, `no_waiter_in_stuck`); the step
count (`run_measure`); the finite presentation (`toSys`, `stepL`, `runL`, `stuckL`) against `Step`/`Run`;
traced runs `RunT` and the judge's holder table (`Corr`); the segments of `request_certificate` (`wo_pair` …
`wo_segmentsWith`).
-/
import AcmedVerif.Model.Locks
import AcmedVerif.Spec.C12

namespace AcmedVerif.Locks

variable {rank : Nat → Nat} {G : Grant} {s s' : Sys} {t : Nat}

theorem holdsLock_iff (h : Held) (l : Nat) : holdsLock h l = true ↔ ∃ m, (l, m) ∈ h := by
  simp [holdsLock]

theorem mem_release {h : Held} {l : Nat} {x : Nat × Mode} : x ∈ release h l ↔ x ∈ h ∧ x.1 ≠ l := by
  simp [release]

theorem woB_iff (rank : Nat → Nat) : ∀ (p : List Op) (h : Held), woB rank h p = true ↔ WO rank h p
  | [], h => by simp [woB, WO]
  | o :: p, h => by
    cases o <;> simp only [woB, WO, Bool.and_eq_true, List.all_eq_true, decide_eq_true_eq, woB_iff rank p]

instance (rank : Nat → Nat) (h : Held) (p : List Op) : Decidable (WO rank h p) :=
  decidable_of_iff _ (woB_iff rank p h)

instance (rank : Nat → Nat) (p : List Op) : Decidable (WellOrdered rank p) :=
  inferInstanceAs (Decidable (WO rank [] p))

theorem wo_append (rank : Nat → Nat) {q : List Op} (hq : WO rank [] q) :
    ∀ (p : List Op) (h : Held), WO rank h p → WO rank h (p ++ q)
  | [], h, hp => by
    have : h = [] := hp
    subst this
    simpa using hq
  | .acq l m :: p, h, hp => ⟨hp.1, wo_append rank hq p _ hp.2⟩
  | .rel l :: p, h, hp => ⟨hp.1, wo_append rank hq p _ hp.2⟩
  | .io :: p, h, hp => wo_append rank hq p h hp

theorem wo_flatten (rank : Nat → Nat) :
    ∀ (segs : List (List Op)), (∀ seg ∈ segs, WO rank [] seg) → WO rank [] segs.flatten
  | [], _ => rfl
  | seg :: segs, h => by
    rw [List.flatten_cons]
    exact wo_append rank (wo_flatten rank segs fun s hs => h s (List.mem_cons_of_mem _ hs)) seg []
      (h seg List.mem_cons_self)

theorem wo_ios (rank : Nat → Nat) (h : Held) (p : List Op) :
    ∀ k, WO rank h (ios k ++ p) ↔ WO rank h p
  | 0 => by simp [ios]
  | k + 1 => by
    have := wo_ios rank h p k
    simpa [ios, List.replicate_succ, WO] using this

theorem wo_iosOnly (rank : Nat → Nat) (k : Nat) : WO rank [] (ios k) := by
  simpa using (wo_ios rank [] [] k).2 rfl

theorem woB_stripIo (rank : Nat → Nat) :
    ∀ (p : List Op) (h : Held), woB rank h (stripIo p) = woB rank h p
  | [], _ => rfl
  | o :: p, h => by
    have ih := woB_stripIo rank p
    simp only [stripIo] at ih
    cases o <;> simp [stripIo, woB, ih]

/-- The held set after one operation. -/
def Op.after : Op → Held → Held
  | .acq l m, h => (l, m) :: h
  | .rel l, h => release h l
  | .io, h => h

theorem exec_cons {ts : TaskSt} {o : Op} {p : List Op} (h : ts.rest = o :: p) :
    exec ts = some ⟨o.after ts.held, p⟩ := by
  unfold exec; rw [h]; cases o <;> rfl

theorem exec_nil {ts : TaskSt} (h : ts.rest = []) : exec ts = none := by
  unfold exec; rw [h]

theorem exec_some {ts ts' : TaskSt} (h : exec ts = some ts') :
    ∃ o p, ts.rest = o :: p ∧ ts' = ⟨o.after ts.held, p⟩ := by
  cases hr : ts.rest with
  | nil => rw [exec_nil hr] at h; cases h
  | cons o p => rw [exec_cons hr] at h; cases h; exact ⟨o, p, rfl, rfl⟩

theorem wo_cons {h : Held} {o : Op} {p : List Op} (hw : WO rank h (o :: p)) :
    WO rank (o.after h) p := by
  cases o with
  | acq l m => exact hw.2
  | rel l => exact hw.2
  | io => exact hw

theorem wo_exec {ts ts' : TaskSt} (hw : WO rank ts.held ts.rest)
    (h : exec ts = some ts') : WO rank ts'.held ts'.rest := by
  obtain ⟨o, p, hr, rfl⟩ := exec_some h
  rw [hr] at hw
  exact wo_cons hw

theorem update_same (s : Sys) (t : Nat) (ts : TaskSt) : update s t ts t = ts := by
  simp [update]

theorem update_other (s : Sys) {t u : Nat} (ts : TaskSt) (h : u ≠ t) : update s t ts u = s u := by
  simp [update, h]

theorem Step.eq_update {o : Op} {p : List Op}
    (hs : Step G s t s') (hr : (s t).rest = o :: p) : s' = update s t ⟨o.after (s t).held, p⟩ := by
  obtain ⟨_, ts', he, rfl⟩ := hs
  rw [exec_cons hr] at he
  cases he; rfl

theorem Step.exists_cons (hs : Step G s t s') :
    ∃ o p, (s t).rest = o :: p :=
  let ⟨_, _, he, _⟩ := hs
  let ⟨o, p, hr, _⟩ := exec_some he
  ⟨o, p, hr⟩

theorem Step.of_cons {o : Op} {p : List Op} (hr : (s t).rest = o :: p)
    (hg : ∀ l m, o = .acq l m → G s l m) : Step G s t (update s t ⟨o.after (s t).held, p⟩) :=
  ⟨fun l m p' h => hg l m (by rw [hr] at h; cases h; rfl), _, exec_cons hr, rfl⟩

/-- A property of single task states that `exec` preserves stays true of each task along a run. -/
theorem Run.task_inv {P : TaskSt → Prop} (hP : ∀ ts ts', P ts → exec ts = some ts' → P ts')
    {s0 s : Sys} {k : Nat} (hr : Run G s0 k s) {u : Nat} (h0 : P (s0 u)) : P (s u) := by
  induction hr with
  | nil => exact h0
  | @snoc _ s _ t _ hs ih =>
    obtain ⟨_, ts', he, rfl⟩ := hs
    by_cases hu : u = t
    · subst hu; rw [update_same]; exact hP _ _ ih he
    · rw [update_other s ts' hu]; exact ih

/-- Every task obeys the discipline from where it stands. -/
def Inv (rank : Nat → Nat) (s : Sys) : Prop := ∀ t, WO rank (s t).held (s t).rest

theorem inv_of_init {progs : Nat → List Op}
    (hwo : ∀ t, WellOrdered rank (progs t)) {k : Nat} (hr : Run G (init progs) k s) :
    Inv rank s :=
  fun u => Run.task_inv (fun _ _ => wo_exec) hr (hwo u)

theorem held_nil_of_done (hi : Inv rank s) {c : Nat}
    (h : (s c).rest = []) : (s c).held = [] := by
  have := hi c
  rw [h] at this
  exact this

/-- A write holder excludes every other holder, in every mode. -/
def Mutex (s : Sys) : Prop :=
  ∀ t u l m, (l, Mode.w) ∈ (s t).held → (l, m) ∈ (s u).held → u = t ∧ m = Mode.w

theorem held_step (hs : Step G s t s') {u : Nat} {x : Nat × Mode}
    (hx : x ∈ (s' u).held) :
    x ∈ (s u).held ∨ (u = t ∧ G s x.1 x.2 ∧ ∃ p, (s t).rest = .acq x.1 x.2 :: p) := by
  obtain ⟨o, p, hr⟩ := hs.exists_cons
  rw [hs.eq_update hr] at hx
  by_cases hu : u = t
  · subst hu
    rw [update_same] at hx
    cases o with
    | acq l m =>
      rcases List.mem_cons.1 hx with rfl | h
      · exact .inr ⟨rfl, hs.1 l m p hr, p, hr⟩
      · exact .inl h
    | rel l => exact .inl (mem_release.1 hx).1
    | io => exact .inl hx
  · rw [update_other s _ hu] at hx; exact .inl hx

theorem mutex_init (progs : Nat → List Op) : Mutex (init progs) :=
  fun _ _ _ _ h => nomatch h

theorem mutex_step (hG : ∀ s l m, G s l m → safeGrant s l m)
    (hm : Mutex s) (hs : Step G s t s') : Mutex s' := by
  intro a b l m ha hb
  rcases held_step hs ha with ha | ⟨rfl, ga, p, hp⟩ <;>
    rcases held_step hs hb with hb | ⟨rfl, gb, q, hq⟩
  · exact hm a b l m ha hb
  · -- the new entry meets an old writer: refused by the grant rule
    cases m with
    | w => exact absurd ha (hG s l _ gb a _)
    | r => exact absurd ha (hG s l _ gb a)
  · -- the new entry is a writer: nobody held the lock
    exact absurd hb (hG s l _ ga b m)
  · rw [hp] at hq; cases hq; exact ⟨rfl, rfl⟩

theorem mutex_run (hG : ∀ s l m, G s l m → safeGrant s l m) {s0 s : Sys} {k : Nat}
    (hm : Mutex s0) (hr : Run G s0 k s) : Mutex s := by
  induction hr with
  | nil => exact hm
  | snoc _ hs ih => exact mutex_step hG ih hs

/-- Held locks, most recent first, have strictly decreasing ranks. -/
def Sorted (rank : Nat → Nat) (h : Held) : Prop := h.Pairwise fun x y => rank y.1 < rank x.1

theorem wo_sorted_exec (ts ts' : TaskSt)
    (h : WO rank ts.held ts.rest ∧ Sorted rank ts.held) (he : exec ts = some ts') :
    WO rank ts'.held ts'.rest ∧ Sorted rank ts'.held := by
  refine ⟨wo_exec h.1 he, ?_⟩
  obtain ⟨hw, hs⟩ := h
  obtain ⟨o, p, hr, rfl⟩ := exec_some he
  rw [hr] at hw
  cases o with
  | acq l m => exact List.Pairwise.cons hw.1 hs
  | rel l => exact List.Pairwise.filter _ hs
  | io => exact hs

theorem sorted_of_init {progs : Nat → List Op}
    (hwo : ∀ t, WellOrdered rank (progs t)) {k : Nat} (hr : Run G (init progs) k s)
    (t : Nat) : Sorted rank (s t).held :=
  (Run.task_inv wo_sorted_exec hr ⟨hwo t, List.Pairwise.nil⟩).2

/-- Nobody can step. -/
def Stuck (G : Grant) (s : Sys) : Prop := ∀ u s', ¬ Step G s u s'

section StuckState
variable (hG : ∀ s l m, canGrant s l m → G s l m) (hst : Stuck G s)
include hG hst

theorem blocked_of_stuck {u : Nat} (hu : (s u).rest ≠ []) :
    ∃ l m p, (s u).rest = .acq l m :: p ∧ ¬ canGrant s l m := by
  obtain ⟨o, p, hr⟩ := List.exists_cons_of_ne_nil hu
  cases o with
  | acq l m =>
    exact ⟨l, m, p, hr, fun hc => hst u _ (Step.of_cons hr fun _ _ h => by cases h; exact hG s l m hc)⟩
  | _ => exact absurd (Step.of_cons hr fun _ _ h => by cases h) (hst u _)

/-- In a stuck state the lock a task waits for is held by somebody. -/
theorem holder_of_waiter {t l : Nat} {m : Mode} {p : List Op} (hr : (s t).rest = .acq l m :: p) :
    ∃ u m', (l, m') ∈ (s u).held := by
  have refused : ∀ {t m p}, (s t).rest = .acq l m :: p → ¬ canGrant s l m := fun hr => by
    obtain ⟨_, _, _, hr', hng⟩ := blocked_of_stuck hG hst (by rw [hr]; exact List.cons_ne_nil _ _)
    rw [hr] at hr'; cases hr'; exact hng
  have writer : ∀ {t p}, (s t).rest = .acq l .w :: p → ∃ u m', (l, m') ∈ (s u).held := fun hr =>
    Classical.byContradiction fun hcon => refused hr fun u m' hmem => hcon ⟨u, m', hmem⟩
  cases m with
  | w => exact writer hr
  | r =>
    -- a refused reader meets a write holder, or a waiting writer, itself refused
    refine Classical.byContradiction fun hcon => refused hr ⟨fun u hmem => hcon ⟨u, _, hmem⟩, ?_⟩
    exact fun u p' hu => hcon (writer hu)

variable (hi : Inv rank s)
include hi

theorem holder_waits_higher {u l : Nat} {m : Mode} (hh : (l, m) ∈ (s u).held) :
    ∃ l' m' p', (s u).rest = .acq l' m' :: p' ∧ rank l < rank l' := by
  have hne : (s u).rest ≠ [] := fun hnil => by
    rw [held_nil_of_done hi hnil] at hh; cases hh
  obtain ⟨l', m', p', hr, _⟩ := blocked_of_stuck hG hst hne
  have hw := hi u
  rw [hr] at hw
  exact ⟨l', m', p', hr, hw.1 (l, m) hh⟩

/-- The climbing lemma: in a stuck state, a task waiting for `l` yields one waiting for a lock of higher
rank. -/
theorem climb {t l : Nat} {m : Mode} {p : List Op} (hr : (s t).rest = .acq l m :: p) :
    ∃ u l' m' p', (s u).rest = .acq l' m' :: p' ∧ rank l < rank l' :=
  let ⟨u, _, hh⟩ := holder_of_waiter hG hst hr
  ⟨u, holder_waits_higher hG hst hi hh⟩

/-- Climbing cannot go on: `d` bounds the distance from `rank l` to the bound `B`, each `climb` shortens it,
and at distance 0 the rank would reach `B`.  So a stuck state has no waiter at all. -/
theorem no_waiter_in_stuck {B : Nat} (hB : ∀ l, rank l < B) :
    ∀ (d : Nat) (t l : Nat) (m : Mode) (p : List Op),
      B ≤ rank l + d → (s t).rest = .acq l m :: p → False
  | 0, _, l, _, _, hb, _ => by have := hB l; omega
  | d + 1, _, l, _, _, hb, hr => by
    obtain ⟨u, l', m', p', hr', hlt⟩ := climb hG hst hi hr
    exact no_waiter_in_stuck hB d u l' m' p' (by omega) hr'

end StuckState

/-- Progress in EVERY state satisfying the per-task discipline (no reachability needed). -/
theorem progress {rank : Nat → Nat} {B : Nat} (hB : ∀ l, rank l < B) {G : Grant}
    (hG : ∀ s l m, canGrant s l m → G s l m) {s : Sys} (hi : Inv rank s)
    {t : Nat} (ht : (s t).rest ≠ []) : ∃ u s', Step G s u s' := by
  apply Classical.byContradiction
  intro hcon
  have hst : Stuck G s := fun u s' hs => hcon ⟨u, s', hs⟩
  obtain ⟨l, m, p, hr, _⟩ := blocked_of_stuck hG hst ht
  exact no_waiter_in_stuck hG hst hi hB B t l m p (by omega) hr

theorem remaining_update_ge (s : Sys) (ts : TaskSt) :
    ∀ n, n ≤ t → remaining n (update s t ts) = remaining n s
  | 0, _ => rfl
  | n + 1, h => by
    simp only [remaining, update_other s ts (Nat.ne_of_lt h), remaining_update_ge s ts n (Nat.le_of_lt h)]

theorem remaining_update_lt (s : Sys) (ts : TaskSt) :
    ∀ n, t < n →
      remaining n (update s t ts) + (s t).rest.length = remaining n s + ts.rest.length
  | n + 1, h => by
    simp only [remaining]
    by_cases hn : n = t
    · subst hn
      rw [update_same, remaining_update_ge s ts n (Nat.le_refl _)]
      exact Nat.add_right_comm _ _ _
    · rw [update_other s ts hn, Nat.add_right_comm,
        remaining_update_lt s ts n (Nat.lt_of_le_of_ne (Nat.le_of_lt_succ h) (Ne.symm hn)),
        Nat.add_right_comm]

theorem rest_nil_run {s0 s : Sys} {k u : Nat} (hr : Run G s0 k s)
    (hu : (s0 u).rest = []) : (s u).rest = [] :=
  Run.task_inv (P := fun ts => ts.rest = []) (fun _ _ h he => by rw [exec_nil h] at he; cases he) hr hu

theorem step_measure {t n : Nat} (hfin : ∀ u, n ≤ u → (s u).rest = [])
    (hs : Step G s t s') : remaining n s' + 1 = remaining n s := by
  obtain ⟨o, p, hop⟩ := hs.exists_cons
  have htn : t < n := Nat.lt_of_not_le fun hge => by rw [hfin t hge] at hop; cases hop
  have := remaining_update_lt s ⟨o.after (s t).held, p⟩ n htn
  rw [← hs.eq_update hop, hop] at this
  simp only [List.length_cons] at this
  omega

theorem run_measure {s0 s : Sys} {k n : Nat} (hfin : ∀ u, n ≤ u → (s0 u).rest = [])
    (hr : Run G s0 k s) : remaining n s + k = remaining n s0 := by
  induction hr with
  | nil => rfl
  | @snoc _ s _ _ hr' hs ih =>
    have := step_measure (s := s) (n := n) (fun u hu => rest_nil_run hr' (hfin u hu)) hs
    omega

theorem Run.cons {s s1 s2 : Sys} {t k : Nat} (h1 : Step G s t s1)
    (h2 : Run G s1 k s2) : Run G s (k + 1) s2 := by
  induction h2 with
  | nil => exact Run.snoc Run.nil h1
  | snoc _ hs ih => exact Run.snoc ih hs

theorem toSys_of_le {ls : List TaskSt} {u : Nat} (h : ls.length ≤ u) : toSys ls u = idle := by
  simp [toSys, List.getD_eq_getElem?_getD, h]

theorem toSys_of_lt {ls : List TaskSt} {u : Nat} (h : u < ls.length) : toSys ls u = ls[u] := by
  simp [toSys, List.getD_eq_getElem?_getD, h]

theorem forall_toSys (ls : List TaskSt) (P : TaskSt → Prop) :
    (∀ u, P (toSys ls u)) ↔ P idle ∧ ∀ ts ∈ ls, P ts := by
  constructor
  · refine fun h => ⟨toSys_of_le (Nat.le_refl _) ▸ h ls.length, fun ts hts => ?_⟩
    obtain ⟨i, hi, rfl⟩ := List.getElem_of_mem hts
    rw [← toSys_of_lt hi]; exact h i
  · intro h u
    by_cases hu : u < ls.length
    · rw [toSys_of_lt hu]; exact h.2 _ (List.getElem_mem hu)
    · rw [toSys_of_le (Nat.le_of_not_lt hu)]; exact h.1

theorem wantsWrite_iff (ts : TaskSt) (l : Nat) :
    wantsWrite ts l = true ↔ ∃ p, ts.rest = .acq l .w :: p := by
  unfold wantsWrite
  split
  · next l' p hr => simp [hr]
  · next hne => simpa using fun p hp => hne l p hp

theorem canGrantL_iff (ls : List TaskSt) (l : Nat) (m : Mode) :
    canGrantL ls l m = true ↔ canGrant (toSys ls) l m := by
  cases m with
  | w =>
    rw [canGrant, forall_toSys ls fun ts => ∀ m, (l, m) ∉ ts.held]
    simp [canGrantL, idle, ← Bool.not_eq_true, holdsLock_iff]
  | r =>
    rw [canGrant, forall_toSys ls fun ts => (l, Mode.w) ∉ ts.held,
      forall_toSys ls fun ts => ∀ p, ts.rest ≠ .acq l .w :: p]
    simp [canGrantL, idle, ← Bool.not_eq_true, wantsWrite_iff, forall_and]

theorem enabledL_iff (ls : List TaskSt) (t : Nat) :
    enabledL ls t = true ↔ Enabled canGrant (toSys ls) t := by
  unfold enabledL Enabled
  show (match (toSys ls t).rest with
    | .acq l m :: _ => canGrantL ls l m
    | _ => true) = true ↔ _
  split
  · next l m p hr =>
    rw [canGrantL_iff, hr]
    exact ⟨fun h _ _ _ hr' => by cases hr'; exact h, fun h => h l m p rfl⟩
  · next hne => exact ⟨fun _ l' m' p' hr' => absurd hr' (hne l' m' p'), fun _ => rfl⟩

theorem toSys_set (ls : List TaskSt) (ht : t < ls.length) (ts : TaskSt) :
    toSys (ls.set t ts) = update (toSys ls) t ts := by
  funext u
  unfold toSys update
  by_cases hu : u = t
  · subst hu
    simp [List.getD_eq_getElem?_getD, ht]
  · have : t ≠ u := fun h => hu h.symm
    simp [List.getD_eq_getElem?_getD, List.getElem?_set_ne this, hu]

theorem stepL_sound {ls ls' : List TaskSt} (h : stepL ls t = some ls') :
    Step canGrant (toSys ls) t (toSys ls') := by
  unfold stepL at h
  split at h
  · next hc =>
    rw [Bool.and_eq_true, decide_eq_true_eq] at hc
    split at h
    · next ts' he =>
      cases h
      exact ⟨(enabledL_iff ls t).1 hc.2, ts', he, toSys_set ls hc.1 ts'⟩
    · cases h
  · cases h

theorem stepL_complete {ls : List TaskSt} {s' : Sys}
    (h : Step canGrant (toSys ls) t s') : t < ls.length ∧ ∃ ls', stepL ls t = some ls' := by
  obtain ⟨o, p, hop⟩ := h.exists_cons
  have hlt : t < ls.length := Nat.lt_of_not_le fun hge => by
    rw [toSys_of_le hge] at hop; cases hop
  obtain ⟨hen, ts', he, _⟩ := h
  rw [toSys_of_lt hlt] at he
  exact ⟨hlt, ls.set t ts', by simp [stepL, hlt, (enabledL_iff ls t).2 hen, he]⟩

def stuckL (ls : List TaskSt) : Bool := (List.range ls.length).all fun t => (stepL ls t).isNone

theorem stuckL_sound {ls : List TaskSt} (h : stuckL ls = true) : Stuck canGrant (toSys ls) := by
  intro u s' hs
  obtain ⟨hlt, ls', hl⟩ := stepL_complete hs
  have := List.all_eq_true.1 h u (List.mem_range.2 hlt)
  rw [hl] at this
  cases this

theorem runL_sound : ∀ (sched : List Nat) {ls ls' : List TaskSt},
    runL ls sched = some ls' → Run canGrant (toSys ls) sched.length (toSys ls')
  | [], _, _, h => by cases h; exact Run.nil
  | t :: sched, ls, ls', h => by
    simp only [runL] at h
    split at h
    · next ls1 h1 => exact Run.cons (stepL_sound h1) (runL_sound sched h)
    · cases h

theorem toSys_initL (ps : List (List Op)) : toSys (initL ps) = init fun t => ps.getD t [] := by
  funext u
  unfold toSys initL init
  by_cases h : u < ps.length
  · simp [List.getD_eq_getElem?_getD, h]
  · have : ps.length ≤ u := by omega
    simp [List.getD_eq_getElem?_getD, this, idle]

theorem wo_getD {ps : List (List Op)} (hwo : ∀ p ∈ ps, WellOrdered rank p)
    (t : Nat) : WellOrdered rank (ps.getD t []) := by
  rw [List.getD_eq_getElem?_getD]
  cases h : ps[t]? with
  | none => rfl
  | some p => exact hwo p (List.mem_of_getElem? h)

theorem remaining_shift (s : Sys) :
    ∀ n, remaining (n + 1) s = (s 0).rest.length + remaining n fun t => s (t + 1)
  | 0 => by simp [remaining]
  | n + 1 => by
    have := remaining_shift s n
    simp only [remaining] at this ⊢
    omega

theorem remaining_init_list :
    ∀ ps : List (List Op), remaining ps.length (init fun t => ps.getD t []) = totalOps ps
  | [] => rfl
  | p :: ps => by
    have ih := remaining_init_list ps
    rw [List.length_cons, remaining_shift]
    have : (fun t => init (fun t => (p :: ps).getD t []) (t + 1)) = init fun t => ps.getD t [] := by
      funext u; simp [init]
    rw [this, ih]
    simp [init, totalOps]

theorem remaining_eq_zero (h : ∀ t, (s t).rest = []) : ∀ n, remaining n s = 0
  | 0 => rfl
  | n + 1 => by simp [remaining, remaining_eq_zero h n, h n]

theorem Step.mono {G G' : Grant} (h : ∀ s l m, G s l m → G' s l m)
    (hs : Step G s t s') : Step G' s t s' :=
  ⟨fun l m p hr => h s l m (hs.1 l m p hr), hs.2⟩

theorem Run.mono {G G' : Grant} (h : ∀ s l m, G s l m → G' s l m) {s0 s : Sys} {k : Nat}
    (hr : Run G s0 k s) : Run G' s0 k s := by
  induction hr with
  | nil => exact Run.nil
  | snoc _ hs ih => exact Run.snoc ih (Step.mono h hs)

theorem Stuck.anti {G G' : Grant} (h : ∀ s l m, G s l m → G' s l m) {s : Sys}
    (hst : Stuck G' s) : Stuck G s := fun u s' hs => hst u s' (Step.mono h hs)

/-- A task that write-acquires a lock it holds itself, alone in the system, is stuck under every
reader/writer lock (the lock is not re-entrant). -/
theorem stuck_self_wait (hG : ∀ s l m, G s l m → safeGrant s l m)
    {t l : Nat} {m : Mode} {p : List Op} (hr : (s t).rest = .acq l .w :: p)
    (hh : (l, m) ∈ (s t).held) (hoth : ∀ u, u ≠ t → (s u).rest = []) : Stuck G s := by
  intro u s' hs
  by_cases hu : u = t
  · subst hu
    exact hG s l Mode.w (hs.1 l Mode.w p hr) u m hh
  · obtain ⟨o, q, hq⟩ := hs.exists_cons
    rw [hoth u hu] at hq; cases hq

/-- A run together with the global trace `(task, op)` it emits. -/
inductive RunT (G : Grant) (s0 : Sys) : List (Nat × Op) → Sys → Prop
  | nil : RunT G s0 [] s0
  | snoc {evs : List (Nat × Op)} {s s' : Sys} {t : Nat} {o : Op} {p : List Op} :
      RunT G s0 evs s → Step G s t s' → (s t).rest = o :: p → RunT G s0 (evs ++ [(t, o)]) s'

theorem RunT.toRun {s0 s : Sys} {evs : List (Nat × Op)} (h : RunT G s0 evs s) :
    Run G s0 evs.length s := by
  induction h with
  | nil => exact Run.nil
  | snoc _ hs _ ih => rw [List.length_append]; exact Run.snoc ih hs

theorem Run.toRunT {G : Grant} {s0 s : Sys} {k : Nat} (h : Run G s0 k s) :
    ∃ evs, evs.length = k ∧ RunT G s0 evs s := by
  induction h with
  | nil => exact ⟨[], rfl, RunT.nil⟩
  | @snoc k s s' t _ hs ih =>
    obtain ⟨evs, hl, hr⟩ := ih
    obtain ⟨o, p, hop⟩ := hs.exists_cons
    exact ⟨evs ++ [(t, o)], by simp [hl], RunT.snoc hr hs hop⟩

open AcmedVerif.Spec.C12 in
theorem perTask_run {progs : Nat → List Op} {evs : List (Nat × Op)}
    (h : RunT G (init progs) evs s) (t : Nat) : perTask evs t ++ (s t).rest = progs t := by
  induction h with
  | nil => simp [perTask, init]
  | @snoc evs s s' u o p _ hs hop ih =>
    rw [hs.eq_update hop, ← ih]
    by_cases hu : t = u
    · subst hu
      simp [perTask, List.filter_append, update_same, hop]
    · have : (u == t) = false := by simpa using fun h => hu h.symm
      simp [perTask, List.filter_append, this, update_other _ _ hu]

open AcmedVerif.Spec.C12 in
theorem mrun_snoc : ∀ (es : List (Nat × Op)) (hs : Holders) (e : Nat × Op),
    mrun hs (es ++ [e]) = (mrun hs es).bind fun hs' => mstep hs' e
  | [], hs, e => by
    simp only [List.nil_append, mrun, Option.bind_some]
    cases mstep hs e <;> rfl
  | x :: es, hs, e => by
    simp only [List.cons_append, mrun]
    cases mstep hs x with
    | none => rfl
    | some hs' => exact mrun_snoc es hs' e

open AcmedVerif.Spec.C12 in
/-- The checker's holder table mirrors the model's `held` sets. -/
def Corr (hs : Holders) (s : Sys) : Prop := ∀ t l m, (t, l, m) ∈ hs ↔ (l, m) ∈ (s t).held

open AcmedVerif.Spec.C12 in
theorem Corr.update {hs hs' : Holders} {h' : Held} {p : List Op} (hc : Corr hs s)
    (ht : ∀ l m, (t, l, m) ∈ hs' ↔ (l, m) ∈ h')
    (ho : ∀ u l m, u ≠ t → ((u, l, m) ∈ hs' ↔ (u, l, m) ∈ hs)) : Corr hs' (update s t ⟨h', p⟩) := by
  intro u l m
  by_cases hu : u = t
  · subst hu; rw [update_same]; exact ht l m
  · rw [update_other s _ hu, ho u l m hu]; exact hc u l m

open AcmedVerif.Spec.C12 in
theorem Corr.all {hs : Holders} (hc : Corr hs s) {q : Nat × Nat × Mode → Bool}
    (h : ∀ u l m, (l, m) ∈ (s u).held → q (u, l, m) = true) : hs.all q = true :=
  List.all_eq_true.2 fun ⟨u, l, m⟩ hm => h u l m ((hc u l m).1 hm)

open AcmedVerif.Spec.C12 in
theorem corr_step (hG : ∀ s l m, G s l m → safeGrant s l m)
    {hs : Holders} {o : Op} {p : List Op} (hc : Corr hs s)
    (hi : Inv rank s) (hstep : Step G s t s') (hop : (s t).rest = o :: p) :
    ∃ hs', mstep hs (t, o) = some hs' ∧ Corr hs' s' := by
  rw [hstep.eq_update hop]
  cases o with
  | acq l0 m0 =>
    have hg := hG s l0 m0 (hstep.1 l0 m0 p hop)
    have corr' : Corr ((t, l0, m0) :: hs) (update s t ⟨(l0, m0) :: (s t).held, p⟩) :=
      hc.update (fun l m => by simp [← hc t l m]) (fun u l m hu => by simp [hu])
    cases m0 with
    | w =>
      have : (hs.all fun h => h.2.1 != l0) = true := hc.all fun u l m hh => by
        simp only [bne_iff_ne, ne_eq]
        rintro rfl
        exact hg u m hh
      exact ⟨_, by simp only [mstep, this, if_true], corr'⟩
    | r =>
      have : (hs.all fun h => !(h.2.1 == l0 && h.2.2 == Mode.w)) = true := hc.all fun u l m hh => by
        simp only [Bool.not_eq_true', Bool.and_eq_false_iff, beq_eq_false_iff_ne, ne_eq]
        refine Decidable.or_iff_not_imp_left.2 fun hl hm => ?_
        rw [Decidable.not_not.1 hl, hm] at hh
        exact hg u hh
      exact ⟨_, by simp only [mstep, this, if_true], corr'⟩
  | rel l0 =>
    have hw := hi t
    rw [hop] at hw
    obtain ⟨m1, hm1⟩ := (holdsLock_iff _ _).1 hw.1
    have hany : (hs.any fun h => h.1 == t && h.2.1 == l0) = true := by
      rw [List.any_eq_true]
      exact ⟨(t, l0, m1), (hc t l0 m1).2 hm1, by simp⟩
    refine ⟨hs.filter fun h => !(h.1 == t && h.2.1 == l0), by simp only [mstep, hany, if_true],
      hc.update (fun l m => ?_) fun u l m hu => ?_⟩
    · simp [Op.after, mem_release, hc t l m]
    · simp [hu]
  | io => exact ⟨hs, rfl, hc.update (hc t) fun _ _ _ _ => Iff.rfl⟩

open AcmedVerif.Spec.C12 in
theorem corr_run (hG : ∀ s l m, G s l m → safeGrant s l m)
    {progs : Nat → List Op} (hwo : ∀ t, WellOrdered rank (progs t))
    {evs : List (Nat × Op)} (h : RunT G (init progs) evs s) :
    ∃ hs, mrun [] evs = some hs ∧ Corr hs s := by
  induction h with
  | nil => exact ⟨[], rfl, fun t l m => by simp [init]⟩
  | snoc hr hstep hop ih =>
    obtain ⟨hs, hm, hc⟩ := ih
    obtain ⟨hs', hm', hc'⟩ := corr_step hG hc (inv_of_init hwo hr.toRun) hstep hop
    exact ⟨hs', by rw [mrun_snoc, hm]; exact hm', hc'⟩

theorem acmedRank_account_lt_endpoint (i j : Nat) :
    acmedRank (accountLock i) < acmedRank (endpointLock j) := by
  unfold acmedRank accountLock endpointLock
  rw [Nat.mul_mod_right, Nat.mul_add_mod]
  decide

theorem wo_single (rank : Nat → Nat) (l : Nat) (m : Mode) (k : Nat) :
    WO rank [] ([.acq l m] ++ ios k ++ [.rel l]) := by
  simp [WO, wo_ios, holdsLock, release]

section Segments
variable {rank : Nat → Nat} {a e : Nat} (hr : rank a < rank e)
include hr

/-- The account lock, then the endpoint lock, `k` exchanges, released in reverse order: `post` and
`accountOp` are the two choices of the account mode. -/
theorem wo_pair (m : Mode) (k : Nat) :
    WO rank [] ([.acq a m, .acq e .w] ++ ios k ++ [.rel e, .rel a]) := by
  have hne : a ≠ e := fun h => by subst h; omega
  simp [WO, wo_ios, holdsLock, release, hr, hne]

theorem wo_post (k : Nat) : WO rank [] (post a e k) := wo_pair hr .r k

theorem wo_accountOp (k : Nat) : WO rank [] (accountOp a e k) := wo_pair hr .w k

theorem wo_challSegs (c : ChallShape) : ∀ seg ∈ challSegs a e c, WO rank [] seg := by
  simp only [challSegs, List.forall_mem_cons]
  exact ⟨wo_single rank a .r 0, wo_iosOnly rank _, wo_post hr _, nofun⟩

theorem wo_authzSegs : ∀ z : AuthzShape, ∀ seg ∈ authzSegs a e z, WO rank [] seg
  | .valid f => by simp [authzSegs, wo_post hr]
  | .pending f cs p cl => by
    simp only [authzSegs, List.forall_mem_append, List.forall_mem_cons, List.mem_flatten,
      List.mem_map]
    refine ⟨⟨⟨wo_post hr _, nofun⟩, ?_⟩, wo_post hr _, wo_iosOnly rank _, nofun⟩
    rintro seg ⟨_, ⟨c, _, rfl⟩, hseg⟩
    exact wo_challSegs hr c seg hseg

theorem wo_orderSegs (o1 : Nat) : ∀ rr : Option (Nat × Nat), ∀ seg ∈ orderSegs a e o1 rr, WO rank [] seg
  | none => by simp [orderSegs, wo_post hr]
  | some (reg, o2) => by simp [orderSegs, wo_post hr, wo_accountOp hr]

end Segments

theorem wo_segmentsWith (order : Nat → Nat → Nat → Option (Nat × Nat) → List (List Op))
    (sh : AttemptShape)
    (hr : rank (accountLock sh.account) < rank (endpointLock sh.endpoint))
    (ho : ∀ seg ∈ order (accountLock sh.account) (endpointLock sh.endpoint) sh.order1Ios sh.reReg,
      WO rank [] seg) :
    ∀ seg ∈ segmentsWith order sh, WO rank [] seg := by
  simp only [segmentsWith, List.forall_mem_append, List.forall_mem_cons, List.mem_flatten,
    List.mem_map]
  refine ⟨⟨⟨⟨wo_single rank _ .r 0, wo_single rank _ .w _, wo_accountOp hr _, nofun⟩, ho⟩, ?_⟩,
    wo_post hr _, wo_iosOnly rank _, wo_post hr _, wo_post hr _, wo_post hr _, wo_iosOnly rank _, nofun⟩
  rintro seg ⟨_, ⟨z, _, rfl⟩, hseg⟩
  exact wo_authzSegs hr z seg hseg

theorem mem_cut {c : Option Nat} {segs : List (List Op)} {seg : List Op} (h : seg ∈ cut c segs) :
    seg ∈ segs := by
  cases c with
  | none => exact h
  | some k => exact List.mem_of_mem_take h

end AcmedVerif.Locks
