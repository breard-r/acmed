/- Lemmas about Model/Glob.lean: the LIFO `todo` machine read as a depth-first traversal (`Outs`: what a stack of
elements returns, element by element), regions of the path space, and "no path twice" for patterns without a
`**` component. -/
import AcmedVerif.Lemmas.GlobCnf

namespace AcmedVerif.Glob
open AcmedVerif.Spec.C14Glob (withSep inDir)

/-- What a stack of elements returns, top first: the popped element's own result, then everything its pushed
elements return, then the rest of the stack. -/
inductive Outs (fs : FsView) (rd : Bool) : List Item → List Str → Prop
  | nil : Outs fs rd [] []
  | cons {it : Item} {todo : List Item} {o2 o3 : List Str} :
      Outs fs rd (step fs rd it).2 o2 → Outs fs rd todo o3 →
      Outs fs rd (it :: todo) ((step fs rd it).1 ++ o2 ++ o3)

theorem Outs.append_inv {fs : FsView} {rd : Bool} : ∀ (a b : List Item) (o : List Str), Outs fs rd (a ++ b) o →
    ∃ oa ob, Outs fs rd a oa ∧ Outs fs rd b ob ∧ o = oa ++ ob := by
  intro a
  induction a with
  | nil => intro b o h; exact ⟨[], o, .nil, h, rfl⟩
  | cons it a ih =>
    intro b o h
    cases h with
    | cons h2 h3 =>
      obtain ⟨oa, ob, ha, hb, rfl⟩ := ih b _ h3
      exact ⟨_, ob, .cons h2 ha, hb, by simp⟩

theorem Outs.nil_inv {fs : FsView} {rd : Bool} {o : List Str} (h : Outs fs rd [] o) : o = [] := by
  cases h; rfl

theorem Outs.single_inv {fs : FsView} {rd : Bool} {it : Item} {o : List Str} (h : Outs fs rd [it] o) :
    ∃ o2, Outs fs rd (step fs rd it).2 o2 ∧ o = (step fs rd it).1 ++ o2 := by
  cases h with
  | cons h2 h3 => rw [h3.nil_inv]; exact ⟨_, h2, by simp⟩

theorem Outs.single {fs : FsView} {rd : Bool} {it : Item} {o2 : List Str} (h : Outs fs rd (step fs rd it).2 o2) :
    Outs fs rd [it] ((step fs rd it).1 ++ o2) := by
  simpa using Outs.cons h .nil

theorem Outs.err_inv {fs : FsView} {rd : Bool} {o : List Str} (h : Outs fs rd [.err] o) : o = [] := by
  obtain ⟨o2, h2, rfl⟩ := h.single_inv
  exact h2.nil_inv

theorem run_outs (fs : FsView) (rd : Bool) : ∀ (fuel : Nat) (todo : List Item) (acc ps : List Str),
    run fs rd fuel todo acc = some ps → ∃ o, Outs fs rd todo o ∧ ps = acc ++ o := by
  intro fuel
  induction fuel with
  | zero =>
    intro todo acc ps h
    cases todo with
    | nil => simp [run] at h; subst h; exact ⟨[], .nil, by simp⟩
    | cons _ _ => simp [run] at h
  | succ f ih =>
    intro todo acc ps h
    cases todo with
    | nil => simp [run] at h; subst h; exact ⟨[], .nil, by simp⟩
    | cons it todo =>
      simp only [run] at h
      obtain ⟨o, ho, rfl⟩ := ih _ _ _ h
      obtain ⟨oa, ob, ha, hb, rfl⟩ := Outs.append_inv _ _ _ ho
      exact ⟨_, .cons ha hb, by simp⟩

theorem outs_of_run {fs : FsView} {rd : Bool} {fuel : Nat} {todo : List Item} {ps : List Str}
    (h : run fs rd fuel todo [] = some ps) : Outs fs rd todo ps := by
  obtain ⟨o, ho, rfl⟩ := run_outs fs rd _ _ _ _ h
  exact ho

theorem Outs.det {fs : FsView} {rd : Bool} {todo : List Item} {o1 : List Str} (h1 : Outs fs rd todo o1) :
    ∀ {o2 : List Str}, Outs fs rd todo o2 → o1 = o2 := by
  induction h1 with
  | nil => intro o2 h2; cases h2; rfl
  | cons _ _ ih2 ih3 =>
    intro o2 h2
    cases h2 with
    | cons h2' h3' => rw [ih2 h2', ih3 h3']

theorem run_fuel_irrelevant (fs : FsView) (rd : Bool) (f1 f2 : Nat) (todo : List Item) (p1 p2 : List Str)
    (h1 : run fs rd f1 todo [] = some p1) (h2 : run fs rd f2 todo [] = some p2) : p1 = p2 :=
  (outs_of_run h1).det (outs_of_run h2)

theorem glob_fuel_cases (fs : FsView) (f1 f2 : Nat) (p : Str) :
    glob fs f1 p = glob fs f2 p ∨ glob fs f1 p = .outOfFuel ∨ glob fs f2 p = .outOfFuel := by
  unfold glob
  cases Pattern.new p with
  | error e => left; rfl
  | ok _ =>
    simp only
    by_cases ha : (p.head? != some '/') = true
    · left; simp [ha]
    · simp only [ha]
      cases hd : dirPatterns p with
      | error e => left; rfl
      | ok pats =>
        simp only
        cases h1 : run fs (p.getLast? == some '/') f1 (fillTodo fs pats (fromPath fs ['/'])) [] with
        | none => right; left; rfl
        | some p1 =>
          cases h2 : run fs (p.getLast? == some '/') f2 (fillTodo fs pats (fromPath fs ['/'])) [] with
          | none => right; right; rfl
          | some p2 => left; rw [run_fuel_irrelevant fs _ f1 f2 _ p1 p2 h1 h2]

theorem outs_matched (fs : FsView) (rd : Bool) (pw : PathW) :
    Outs fs rd [.ok pw none] (if (!rd || pw.isDirectory) = true then [pw.path] else []) := by
  have h := Outs.single (fs := fs) (rd := rd) (it := .ok pw none) (o2 := []) (by simp only [step]; split <;> exact .nil)
  simp only [step] at h
  cases rd <;> cases hd : pw.isDirectory <;> rw [hd] at h <;> exact h

theorem outs_child {fs : FsView} {rd : Bool} {pat : Pattern} {rest : List Pattern} {pw : PathW} {o : List Str}
    (hnr : pat.isRecursive = false) (h : Outs fs rd [.ok pw (some (pat :: rest))] o) :
    o = [] ∨ ((∃ name, fileName pw.path = some name ∧ pat.matches name = true) ∧
      Outs fs rd (addNext rest (fillTodo fs rest) pw) o) := by
  obtain ⟨o2, h2, rfl⟩ := h.single_inv
  have hs : step fs rd (.ok pw (some (pat :: rest))) = matchNormally fs rd pw (pat :: rest) := by
    simp only [step, hnr, Bool.false_eq_true, if_false]
  rw [hs] at h2 ⊢
  generalize hp : pat :: rest = pats at h2 ⊢
  revert h2
  -- the branches of `matchNormally`, as in `matchNormally_in`
  fun_cases matchNormally fs rd pw pats
  case case3 name hfn hm hre hd =>
    cases hp
    intro h2
    have hm' := outs_matched fs rd pw
    rw [if_pos hd] at hm'
    rw [h2.nil_inv]
    exact .inr ⟨⟨name, hfn, hm⟩, by unfold addNext; rw [if_pos hre]; exact hm'⟩
  case case5 name hfn hm hre =>
    cases hp
    exact fun h2 => .inr ⟨⟨name, hfn, hm⟩, by unfold addNext; rw [if_neg hre]; exact h2⟩
  all_goals exact fun h2 => .inl h2.nil_inv

/-- The element's path is inside `q` (and its patterns are cut at the separators). -/
def ItemIn (q : Str) : Item → Prop
  | .err => True
  | .ok p none => InDir q p.path
  | .ok p (some pats) => Lit pats ∧ InDir q p.path

/-- Inside `q`, `add` - and with it `fill_todo` - only pushes elements inside `q`. -/
theorem addNext_in (fs : FsView) (hwf : fs.WF) (q : Str) (hq : q ≠ []) : ∀ (rest : List Pattern) (next : PathW),
    Lit rest → InDir q next.path → ∀ it ∈ addNext rest (fillTodo fs rest) next, ItemIn q it := by
  intro rest
  induction rest with
  | nil =>
    intro next _ hin it hit
    rw [List.mem_singleton.1 hit]
    exact hin
  | cons pat rest ih =>
    intro path hl hin
    have hadd : ∀ (s : Str), s.head? ≠ some '/' →
        ∀ it ∈ addNext rest (fillTodo fs rest) (fromPath fs (joinPath path.path s)), ItemIn q it :=
      fun s hs => ih _ hl.tail (InDir.join hq hin hs)
    show ∀ it ∈ fillTodo fs (pat :: rest) path, ItemIn q it
    generalize hp : pat :: rest = pats
    -- the branches of `fillTodo`: 2, 3 a literal component, there or not; 4, 5 a directory listed, or not listable;
    -- 6 not a directory
    fun_cases fillTodo fs pats path with
    | case2 _ _ _ s hs => cases hp; exact hadd s (hl pat (by simp) s hs)
    | case4 _ _ _ _ _ entries he _ specials =>
      cases hp
      intro it hit
      rcases List.mem_append.1 hit with hit | hit
      · dsimp only [specials] at hit
        split at hit
        · rcases List.mem_append.1 hit with hit | hit <;> split at hit
          · exact hadd _ (by simp) it hit
          · cases hit
          · exact hadd _ (by simp) it hit
          · cases hit
        · cases hit
      · obtain ⟨e, hemem, rfl⟩ := List.mem_map.1 hit
        have hv := hwf.names _ _ he e ((mem_sortAsc e entries).1 hemem)
        exact ⟨hl, fromDirEntry_path fs _ _ ▸ InDir.join hq hin (head_ne_sep_of_noSep (validName_noSep hv))⟩
    | case5 => intro it hit; rw [List.mem_singleton.1 hit]; trivial
    | case1 | case3 | case6 => exact fun _ h => nomatch h

theorem fillTodo_in (fs : FsView) (hwf : fs.WF) (q : Str) (hq : q ≠ []) : ∀ (pats : List Pattern) (path : PathW),
    Lit pats → InDir q path.path → ∀ it ∈ fillTodo fs pats path, ItemIn q it
  | [], _, _, _ => nofun
  | pat :: rest, path, hl, hin => addNext_in fs hwf q hq (pat :: rest) path hl hin

theorem matchNormally_in (fs : FsView) (hwf : fs.WF) (q : Str) (hq : q ≠ []) (rd : Bool) (path : PathW)
    (pats : List Pattern) (hl : Lit pats) (hin : InDir q path.path) :
    (∀ p ∈ (matchNormally fs rd path pats).1, InDir q p) ∧
    (∀ it ∈ (matchNormally fs rd path pats).2, ItemIn q it) := by
  -- the branches of `matchNormally`: 3, 4 the last pattern matches, the path is returned or is no directory;
  -- 5 a pattern matches and more follow; 1, 2, 6 no pattern, no file name, no match
  have nothing : (∀ p ∈ ([] : List Str), InDir q p) ∧ ∀ it ∈ ([] : List Item), ItemIn q it := ⟨nofun, nofun⟩
  fun_cases matchNormally fs rd path pats with
  | case3 => exact ⟨fun p hp => List.mem_singleton.1 hp ▸ hin, nothing.2⟩
  | case5 => exact ⟨nothing.1, fillTodo_in fs hwf q hq _ path hl.tail hin⟩
  | _ => exact nothing

theorem step_in (fs : FsView) (hwf : fs.WF) (q : Str) (hq : q ≠ []) (rd : Bool) (it : Item) (hit : ItemIn q it) :
    (∀ p ∈ (step fs rd it).1, InDir q p) ∧ (∀ it' ∈ (step fs rd it).2, ItemIn q it') := by
  -- the branches of `step`: 3 an element already matched; 6, 7 `**` on a directory, last or not; 9 `**` on something
  -- else; 10 no `**`; the others return and push nothing
  have nothing : (∀ p ∈ ([] : List Str), InDir q p) ∧ ∀ it ∈ ([] : List Item), ItemIn q it := ⟨nofun, nofun⟩
  fun_cases step fs rd it
  case case3 => exact ⟨fun p hp => List.mem_singleton.1 hp ▸ hit, nothing.2⟩
  case case6 hcol _ _ _ =>
    exact ⟨fun p hp => List.mem_singleton.1 hp ▸ hit.2, fillTodo_in fs hwf q hq _ _ (hcol ▸ hit.1.collapse) hit.2⟩
  case case7 hcol _ _ _ _ _ hm =>
    have hlc := hit.1.collapse
    rw [hcol] at hlc
    have hmn := matchNormally_in fs hwf q hq rd _ _ hlc.tail hit.2
    rw [hm] at hmn
    exact ⟨hmn.1, fun it' h => (List.mem_append.1 h).elim (hmn.2 it') (fillTodo_in fs hwf q hq _ _ hlc hit.2 it')⟩
  case case9 hcol _ _ =>
    have hlc := hit.1.collapse
    rw [hcol] at hlc
    exact matchNormally_in fs hwf q hq rd _ _ hlc.tail hit.2
  case case10 => exact matchNormally_in fs hwf q hq rd _ _ hit.1 hit.2
  all_goals exact nothing

theorem outs_in (fs : FsView) (hwf : fs.WF) (q : Str) (hq : q ≠ []) (rd : Bool) {todo : List Item} {o : List Str}
    (h : Outs fs rd todo o) : (∀ it ∈ todo, ItemIn q it) → ∀ r ∈ o, InDir q r := by
  induction h with
  | nil => intro _ r hr; simp at hr
  | cons _ _ ih2 ih3 =>
    rename_i it todo o2 o3 _ _
    intro hall r hr
    have hs := step_in fs hwf q hq rd it (hall it (by simp))
    rcases List.mem_append.1 hr with hr | hr
    · rcases List.mem_append.1 hr with hr | hr
      · exact hs.1 r hr
      · exact ih2 hs.2 r hr
    · exact ih3 (fun it' h' => hall it' (List.mem_cons_of_mem _ h')) r hr

theorem noSep_append_cancel (a b x y : Str) (ha : '/' ∉ a) (hb : '/' ∉ b) (hx : x = [] ∨ x.head? = some '/')
    (hy : y = [] ∨ y.head? = some '/') (h : a ++ x = b ++ y) : a = b := by
  -- `a` is what comes before the first separator
  have key : ∀ (a x : Str), '/' ∉ a → (x = [] ∨ x.head? = some '/') → (a ++ x).takeWhile (· != '/') = a := by
    intro a x ha hx
    rw [List.takeWhile_append_of_pos fun c hc => bne_iff_ne.2 fun (e : c = '/') => ha (e ▸ hc)]
    rcases hx with rfl | hx
    · simp
    · cases x with
      | nil => simp
      | cons d x' => simp at hx; simp [hx]
  rw [← key a x ha hx, h, key b y hb hy]

theorem InDir.of_joinPath {p a r : Str} (hp : p ≠ []) (ha : Proper a) (h : InDir (joinPath p a) r) :
    ∃ x, r = withSep p ++ (a ++ x) ∧ (x = [] ∨ x.head? = some '/') := by
  rw [joinPath_eq hp (head_ne_sep_of_noSep ha.2)] at h
  rcases h with rfl | ⟨t, rfl⟩
  · exact ⟨[], by simp, .inl rfl⟩
  · rw [withSep_of_getLast (ha.getLast_append _)]
    exact ⟨'/' :: t, by simp, .inr rfl⟩

theorem region_disjoint (p a b r : Str) (hp : p ≠ []) (ha : Proper a) (hb : Proper b)
    (h1 : InDir (joinPath p a) r) (h2 : InDir (joinPath p b) r) : a = b := by
  obtain ⟨x, rfl, hx⟩ := h1.of_joinPath hp ha
  obtain ⟨y, hy, hy'⟩ := h2.of_joinPath hp hb
  exact noSep_append_cancel a b x y ha.2 hb.2 hx hy' (List.append_cancel_left hy)

def NonRec (pats : List Pattern) : Prop := ∀ p ∈ pats, p.isRecursive = false

theorem NonRec.tail {p : Pattern} {rest : List Pattern} (h : NonRec (p :: rest)) : NonRec rest :=
  fun q hq => h q (List.mem_cons_of_mem _ hq)

/-- The class for which "no path twice" is proved: no component of the pattern is `**`. -/
def nonRecursive (pattern : Str) : Bool :=
  match dirPatterns pattern with
  | .ok ps => ps.all (!·.isRecursive)
  | .error _ => true

theorem NonRec.of_nonRecursive {pattern : Str} {pats : List Pattern} (h : nonRecursive pattern = true)
    (hp : dirPatterns pattern = .ok pats) : NonRec pats := by
  simp only [nonRecursive, hp, List.all_eq_true, Bool.not_eq_true'] at h
  exact h

/-- What one group of elements returns: nothing twice, everything under `q`. -/
structure Group (q : Str) (o : List Str) : Prop where
  nodup : o.Nodup
  inside : ∀ r ∈ o, InDir q r

theorem Group.nil (q : Str) : Group q [] := ⟨List.nodup_nil, by simp⟩

theorem Group.single (q : Str) : Group q [q] := ⟨by simp, by simp [InDir]⟩

theorem nodup_append_of_disjoint {α} {a b : List α} (ha : a.Nodup) (hb : b.Nodup) (hd : ∀ x ∈ a, x ∉ b) :
    (a ++ b).Nodup := by
  rw [List.nodup_append]
  exact ⟨ha, hb, fun x hx y hy hxy => hd x hx (hxy ▸ hy)⟩

section NoDup
variable (fs : FsView) (hwf : fs.WF) (rd : Bool)

/-- Whatever `fill_todo` pushes for the patterns `rest`, from any path, returns no path twice. -/
def OutsNodup (rest : List Pattern) : Prop :=
  ∀ (path : PathW), path.path ≠ [] → ∀ o, Outs fs rd (fillTodo fs rest path) o → o.Nodup

include hwf

theorem add_group (rest : List Pattern) (hl : Lit rest) (ih : OutsNodup fs rd rest) (next : PathW) (hn : next.path ≠ [])
    (o : List Str) (h : Outs fs rd (addNext rest (fillTodo fs rest) next) o) : Group next.path o := by
  unfold addNext at h
  split at h
  · rw [h.det (outs_matched fs rd next)]
    split
    · exact Group.single _
    · exact Group.nil _
  · refine ⟨ih next hn o h, ?_⟩
    exact outs_in fs hwf next.path hn rd h
      (fun it hit => fillTodo_in fs hwf next.path hn rest next hl (InDir.refl _) it hit)

theorem child_group (pat : Pattern) (rest : List Pattern) (hnr : pat.isRecursive = false) (hl : Lit (pat :: rest))
    (ih : OutsNodup fs rd rest) (pw : PathW) (hn : pw.path ≠ []) (o : List Str)
    (h : Outs fs rd [Item.ok pw (some (pat :: rest))] o) : Group pw.path o := by
  rcases outs_child hnr h with rfl | ⟨_, h⟩
  · exact Group.nil _
  · exact add_group fs hwf rd rest hl.tail ih pw hn o h

theorem children_groups (p : Str) (hp : p ≠ []) (pat : Pattern) (rest : List Pattern) (hnr : pat.isRecursive = false)
    (hl : Lit (pat :: rest)) (ih : OutsNodup fs rd rest) :
    ∀ (es : List (Str × EntryType)), (∀ e ∈ es, validName e.1 = true) → (es.map (·.1)).Nodup → ∀ o,
      Outs fs rd (es.map fun e => Item.ok (fromDirEntry fs (joinPath p e.1) e.2) (some (pat :: rest))) o →
      o.Nodup ∧ ∀ r ∈ o, ∃ e ∈ es, InDir (joinPath p e.1) r := by
  intro es
  induction es with
  | nil => intro _ _ o h; simp at h; rw [h.nil_inv]; simp
  | cons e es ihes =>
    intro hv hnd o h
    simp only [List.map_cons] at h hnd
    obtain ⟨oa, ob, ha, hb, rfl⟩ := Outs.append_inv [_] _ _ h
    have hg := child_group fs hwf rd pat rest hnr hl ih _ (by rw [fromDirEntry_path]; exact joinPath_ne_nil _ _ hp) oa ha
    rw [fromDirEntry_path] at hg
    have hrest := ihes (fun x hx => hv x (List.mem_cons_of_mem _ hx)) (List.nodup_cons.1 hnd).2 ob hb
    refine ⟨nodup_append_of_disjoint hg.nodup hrest.1 ?_, ?_⟩
    · intro r hra hrb
      obtain ⟨e', he', hin'⟩ := hrest.2 r hrb
      have := region_disjoint p e.1 e'.1 r hp (.of_valid (hv e (by simp)))
        (.of_valid (hv e' (List.mem_cons_of_mem _ he'))) (hg.inside r hra) hin'
      exact (List.nodup_cons.1 hnd).1 (by rw [this]; exact List.mem_map.2 ⟨e', he', rfl⟩)
    · intro r hr
      rcases List.mem_append.1 hr with hr | hr
      · exact ⟨e, by simp, hg.inside r hr⟩
      · obtain ⟨e', he', hin'⟩ := hrest.2 r hr
        exact ⟨e', List.mem_cons_of_mem _ he', hin'⟩

theorem fillTodo_nodup : ∀ (pats : List Pattern), NonRec pats → Lit pats → OutsNodup fs rd pats := by
  intro pats
  induction pats with
  | nil => intro _ _ path _ o h; simp [fillTodo] at h; rw [h.nil_inv]; simp
  | cons pat rest ih =>
    intro hnr hl path hp o h
    have ihr := ih hnr.tail hl.tail
    have hpat : pat.isRecursive = false := hnr pat (by simp)
    have hadd : ∀ (s : Str), s.head? ≠ some '/' → ∀ o,
        Outs fs rd (addNext rest (fillTodo fs rest) (fromPath fs (joinPath path.path s))) o →
        Group (joinPath path.path s) o :=
      fun s _ o h => add_group fs hwf rd rest hl.tail ihr _ (joinPath_ne_nil _ _ hp) o h
    generalize hpats : pat :: rest = pats at h
    revert h
    -- the branches of `fillTodo`, as in `fillTodo_in`
    fun_cases fillTodo fs pats path with
    | case2 _ _ _ s hs => cases hpats; exact fun h => (hadd s (hl pat (by simp) s hs) o h).nodup
    | case4 _ _ _ _ _ entries he children specials =>
      cases hpats
      intro h
      obtain ⟨osp, och, hsp, hch, rfl⟩ := Outs.append_inv _ _ _ h
      have hv : ∀ e ∈ sortAsc entries, validName e.1 = true :=
        fun e hm => hwf.names _ _ he e ((mem_sortAsc e entries).1 hm)
      have hchildren := children_groups fs hwf rd path.path hp pat rest hpat hl ihr (sortAsc entries) hv
        (nodup_map_fst_sortAsc _ (hwf.nodup _ _ he)) och hch
      have hdd : Proper ['.', '.'] := ⟨by simp, by decide⟩
      have hd : Proper ['.'] := ⟨by simp, by decide⟩
      have hspecial : osp.Nodup ∧ ∀ r ∈ osp, InDir (joinPath path.path ['.', '.']) r ∨ InDir (joinPath path.path ['.']) r := by
        dsimp only [specials] at hsp
        split at hsp
        · obtain ⟨o1, o2, h1, h2, rfl⟩ := Outs.append_inv _ _ _ hsp
          have g1 : Group (joinPath path.path ['.', '.']) o1 := by
            split at h1
            · exact hadd _ (by simp) o1 h1
            · rw [h1.nil_inv]; exact Group.nil _
          have g2 : Group (joinPath path.path ['.']) o2 := by
            split at h2
            · exact hadd _ (by simp) o2 h2
            · rw [h2.nil_inv]; exact Group.nil _
          refine ⟨nodup_append_of_disjoint g1.nodup g2.nodup ?_, ?_⟩
          · intro r hr1 hr2
            have := region_disjoint path.path _ _ r hp hdd hd (g1.inside r hr1) (g2.inside r hr2)
            exact absurd this (by decide)
          · intro r hr
            rcases List.mem_append.1 hr with hr | hr
            · exact .inl (g1.inside r hr)
            · exact .inr (g2.inside r hr)
        · rw [hsp.nil_inv]; simp
      refine nodup_append_of_disjoint hspecial.1 hchildren.1 ?_
      intro r hr1 hr2
      obtain ⟨e, hemem, hin⟩ := hchildren.2 r hr2
      have hve := hv e hemem
      rcases hspecial.2 r hr1 with hs | hs
      · have := region_disjoint path.path _ _ r hp hdd (.of_valid hve) hs hin
        exact validName_ne_dotdot hve this.symm
      · have := region_disjoint path.path _ _ r hp hd (.of_valid hve) hs hin
        exact validName_ne_dot hve this.symm
    | case5 => intro h; rw [h.err_inv]; exact List.nodup_nil
    | case1 | case3 | case6 => intro h; rw [h.nil_inv]; exact List.nodup_nil

end NoDup

end AcmedVerif.Glob
