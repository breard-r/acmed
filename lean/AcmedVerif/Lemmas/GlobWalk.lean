/- Lemmas about Model/Glob.lean, walk level: names and paths as text, "inside a directory" as a literal prefix,
what a file system may answer, and component patterns cut at the separators. -/
import AcmedVerif.Lemmas.Glob
import AcmedVerif.Spec.C14Glob

namespace AcmedVerif.Glob
open AcmedVerif.Spec.C14Glob (withSep inDir)

theorem validName_ne_nil {n : Str} (h : validName n = true) : n ≠ [] := by
  intro h0; subst h0; simp [validName] at h

theorem validName_noSep {n : Str} (h : validName n = true) : '/' ∉ n := by
  simp [validName] at h; exact h.1.1.2

theorem validName_ne_dot {n : Str} (h : validName n = true) : n ≠ ['.'] := by
  simp [validName] at h; exact h.1.2

theorem validName_ne_dotdot {n : Str} (h : validName n = true) : n ≠ ['.', '.'] := by
  simp [validName] at h; exact h.2

theorem head_ne_sep_of_noSep {n : Str} (h : '/' ∉ n) : n.head? ≠ some '/' := by
  cases n with
  | nil => simp
  | cons c t => simp at h ⊢; exact fun hc => h.1 hc.symm

/-- `/c1/c2/…` (empty for no component). -/
def chain (cs : List Str) : Str := cs.flatMap ('/' :: ·)

/-- The absolute path with components `cs`; the root for none. -/
def absDir (cs : List Str) : Str := if cs.isEmpty then ['/'] else chain cs

theorem chain_cons (c : Str) (t : List Str) : chain (c :: t) = '/' :: c ++ chain t := by
  simp [chain]

theorem chain_append_singleton (cs : List Str) (c : Str) : chain (cs ++ [c]) = chain cs ++ '/' :: c := by
  simp [chain]

theorem absDir_append_singleton (cs : List Str) (c : Str) : absDir (cs ++ [c]) = chain cs ++ '/' :: c := by
  simp [absDir, chain_append_singleton]

theorem absDir_ne_nil (cs : List Str) : absDir cs ≠ [] := by
  unfold absDir
  cases cs with
  | nil => simp
  | cons c t => simp [chain]

/-- A component: not empty, no separator inside. -/
def Proper (c : Str) : Prop := c ≠ [] ∧ '/' ∉ c

theorem Proper.of_valid {c : Str} (h : validName c = true) : Proper c := ⟨validName_ne_nil h, validName_noSep h⟩

theorem Proper.getLast_append {c : Str} (hc : Proper c) (x : Str) : (x ++ c).getLast? ≠ some '/' := by
  obtain ⟨a, ha⟩ : ∃ a, c.getLast? = some a := Option.isSome_iff_exists.1 (by simpa using hc.1)
  rw [List.getLast?_append, ha]
  exact fun h => hc.2 (List.mem_of_getLast? (ha.trans h))

theorem chain_getLast (cs : List Str) (hne : cs ≠ []) (hv : ∀ c ∈ cs, Proper c) :
    (chain cs).getLast? ≠ some '/' := by
  obtain ⟨xs, c, rfl⟩ : ∃ xs c, cs = xs ++ [c] := ⟨cs.dropLast, cs.getLast hne, (List.dropLast_concat_getLast hne).symm⟩
  rw [chain_append_singleton, List.append_cons]
  exact (hv c (by simp)).getLast_append _

theorem prefix_withSep (p : Str) : p <+: withSep p := by
  unfold withSep
  split
  · exact List.prefix_refl _
  · exact List.prefix_append _ _

theorem withSep_of_getLast {p : Str} (h : p.getLast? ≠ some '/') : withSep p = p ++ ['/'] := by
  simp [withSep, h]

theorem withSep_ne_nil (p : Str) : withSep p ≠ [] := by
  unfold withSep
  split
  · rintro rfl; contradiction
  · simp

theorem withSep_absDir (cs : List Str) (hv : ∀ c ∈ cs, Proper c) : withSep (absDir cs) = chain cs ++ ['/'] := by
  cases cs with
  | nil => rfl
  | cons c t => exact withSep_of_getLast (chain_getLast _ (by simp) hv)

theorem joinPath_eq {p s : Str} (hp : p ≠ []) (hs : s.head? ≠ some '/') : joinPath p s = withSep p ++ s := by
  have h1 : (s.head? == some '/') = false := by simpa using hs
  have h2 : p.isEmpty = false := by simpa using hp
  unfold joinPath withSep
  by_cases hl : p.getLast? = some '/' <;> simp [h1, h2, hl]

theorem joinPath_ne_nil (p s : Str) (hp : p ≠ []) : joinPath p s ≠ [] := by
  unfold joinPath
  split
  · rename_i h; intro h0; rw [h0] at h; simp at h
  · split <;> simp [hp]

theorem joinPath_absDir (cs : List Str) (hv : ∀ c ∈ cs, Proper c) (s : Str) (hs : s.head? ≠ some '/') :
    joinPath (absDir cs) s = chain cs ++ '/' :: s := by
  rw [joinPath_eq (absDir_ne_nil cs) hs, withSep_absDir cs hv, List.append_assoc]; rfl

theorem joinPath_absDir_comp (cs : List Str) (hv : ∀ c ∈ cs, validName c = true) (c : Str) (hc : validName c = true) :
    joinPath (absDir cs) c = absDir (cs ++ [c]) := by
  rw [joinPath_absDir cs (fun c hc => .of_valid (hv c hc)) c (head_ne_sep_of_noSep (validName_noSep hc)),
    absDir_append_singleton]

theorem splitSep_ne_nil (l : List Char) : splitSep l ≠ [] := by
  cases l with
  | nil => simp [splitSep]
  | cons c t =>
    simp only [splitSep]
    split
    · simp
    · split <;> simp

theorem splitSep_append_sep (q r : List Char) : splitSep (q ++ '/' :: r) = splitSep q ++ splitSep r := by
  induction q with
  | nil => simp [splitSep, isSep]
  | cons c q ih =>
    simp only [List.cons_append, splitSep]
    split
    · simp [ih]
    · rw [ih]
      cases hq : splitSep q with
      | nil => exact absurd hq (splitSep_ne_nil q)
      | cons h t => simp

theorem splitSep_noSep {n : Str} (h : '/' ∉ n) : splitSep n = [n] := by
  induction n with
  | nil => rfl
  | cons c t ih =>
    simp at h
    have hc : isSep c = false := by simp [isSep]; exact fun hc => h.1 hc.symm
    simp [splitSep, hc, ih h.2]

theorem splitSep_pieces_noSep (l : List Char) : ∀ c ∈ splitSep l, '/' ∉ c := by
  fun_induction splitSep l with
  | case1 => simp
  | case2 c cs hc ih => simpa using ih
  | case3 c cs hc h t heq ih =>
    rw [heq] at ih
    have hc' : '/' ≠ c := fun e => hc (by simp [isSep, ← e])
    simpa [hc'] using ih
  | case4 c cs hc heq _ => exact absurd heq (splitSep_ne_nil cs)

theorem splitTerminator_pieces_noSep (l : List Char) : ∀ c ∈ splitTerminator l, '/' ∉ c := by
  intro c hc
  simp only [splitTerminator] at hc
  split at hc
  · exact splitSep_pieces_noSep l c ((List.dropLast_sublist _).mem hc)
  · exact splitSep_pieces_noSep l c hc

theorem fileName_join (q name : Str) (h : validName name = true) : fileName (q ++ '/' :: name) = some name := by
  unfold fileName
  rw [splitSep_append_sep, splitSep_noSep (validName_noSep h), List.filter_append]
  have hk : (fun c : Str => !c.isEmpty && c != ['.']) name = true := by
    have h1 := validName_ne_nil h
    have h2 := validName_ne_dot h
    simp [h2]
    cases name with
    | nil => exact absurd rfl h1
    | cons a b => simp
  simp only [List.filter_cons, hk, if_true, List.filter_nil]
  have h3 := validName_ne_dotdot h
  simp [h3]

theorem fileName_joinPath {p name : Str} (hp : p ≠ []) (h : validName name = true) :
    fileName (joinPath p name) = some name := by
  obtain ⟨q, hq⟩ : ∃ q, withSep p = q ++ ['/'] := by
    unfold withSep
    split
    · rename_i hl; exact List.getLast?_eq_some_iff.1 (by simpa using hl)
    · exact ⟨p, rfl⟩
  rw [joinPath_eq hp (head_ne_sep_of_noSep (validName_noSep h)), hq, List.append_assoc]
  exact fileName_join q name h

/-- `p` is `dir` or continues `dir` after a separator. -/
def InDir (dir p : Str) : Prop := p = dir ∨ withSep dir <+: p

theorem inDir_iff (dir p : Str) : inDir dir p = true ↔ InDir dir p := by
  simp [inDir, InDir, List.isPrefixOf_iff_prefix]

theorem InDir.refl (dir : Str) : InDir dir dir := .inl rfl

theorem InDir.join {dir p s : Str} (hd : dir ≠ []) (h : InDir dir p) (hs : s.head? ≠ some '/') :
    InDir dir (joinPath p s) := by
  have hp : p ≠ [] := by
    rcases h with rfl | ⟨t, rfl⟩
    · exact hd
    · exact fun h0 => withSep_ne_nil _ (List.append_eq_nil_iff.1 h0).1
  rw [joinPath_eq hp hs]
  right
  rcases h with rfl | h
  · exact List.prefix_append _ _
  · exact h.trans ((prefix_withSep p).trans (List.prefix_append _ _))

/-- Directory entries have proper, distinct names (what `read_dir` gives on a real file system). -/
structure FsView.WF (fs : FsView) : Prop where
  names : ∀ p es, fs.readDir p = some es → ∀ e ∈ es, validName e.1 = true
  nodup : ∀ p es, fs.readDir p = some es → (es.map (·.1)).Nodup

theorem lookup_mem {α β} [BEq α] [LawfulBEq α] (l : List (α × β)) (k : α) (v : β) (h : l.lookup k = some v) :
    (k, v) ∈ l := by
  obtain ⟨l₁, l₂, rfl, _⟩ := List.lookup_eq_some_iff.1 h
  simp

theorem view_wf (L : Listing) (hL : L.wf = true) : L.view.WF := by
  have key : ∀ p es, L.view.readDir p = some es →
      ∃ info : DirInfo, namesOk (info.entries.map (·.1)) = true ∧ es.map (·.1) = info.entries.map (·.1) := by
    intro p es h
    simp only [Listing.view] at h
    split at h
    · rename_i loc _
      split at h
      · rename_i info hinfo
        split at h
        · cases h
          have hm := lookup_mem L loc info hinfo
          simp only [Listing.wf, List.all_eq_true] at hL
          exact ⟨info, hL _ hm, by rw [List.map_map]; rfl⟩
        · cases h
      · cases h
    · cases h
  constructor
  · intro p es h e he
    obtain ⟨info, hok, hmap⟩ := key p es h
    simp only [namesOk, Bool.and_eq_true, List.all_eq_true, decide_eq_true_eq] at hok
    apply hok.1
    rw [← hmap]; exact List.mem_map.2 ⟨e, he, rfl⟩
  · intro p es h
    obtain ⟨info, hok, hmap⟩ := key p es h
    simp only [namesOk, Bool.and_eq_true, decide_eq_true_eq] at hok
    rw [hmap]; exact hok.2

theorem perm_sortAsc (l : List (Str × EntryType)) : (sortAsc l).Perm l := by
  have ins : ∀ (x : Str × EntryType) (l : List (Str × EntryType)), (insertAsc x l).Perm (x :: l) := by
    intro x l
    induction l with
    | nil => exact .refl _
    | cons y ys ih =>
      simp only [insertAsc]
      split
      · exact (ih.cons y).trans (.swap x y ys)
      · exact .refl _
  induction l with
  | nil => exact .refl _
  | cons x xs ih => exact (ins x _).trans (ih.cons x)

theorem mem_sortAsc (a : Str × EntryType) (l : List (Str × EntryType)) : a ∈ sortAsc l ↔ a ∈ l :=
  (perm_sortAsc l).mem_iff

theorem nodup_map_fst_sortAsc (l : List (Str × EntryType)) (h : (l.map (·.1)).Nodup) : ((sortAsc l).map (·.1)).Nodup :=
  ((perm_sortAsc l).map _).nodup_iff.2 h

theorem fromDirEntry_path (fs : FsView) (p : Str) (t : EntryType) : (fromDirEntry fs p t).path = p := by
  cases t <;> rfl

/-- No literal component starts with a separator (components are cut AT the separators). -/
def Lit (pats : List Pattern) : Prop := ∀ p ∈ pats, ∀ s, patternAsStr p = some s → s.head? ≠ some '/'

theorem Lit.tail {p : Pattern} {rest : List Pattern} (h : Lit (p :: rest)) : Lit rest :=
  fun q hq => h q (List.mem_cons_of_mem _ hq)

theorem collapseRec_mem : ∀ (rest : List Pattern) (p q : Pattern), q ∈ collapseRec p rest → q = p ∨ q ∈ rest := by
  intro rest
  induction rest with
  | nil => intro p q h; simp [collapseRec] at h; exact .inl h
  | cons r rest ih =>
    intro p q h
    simp only [collapseRec] at h
    split at h
    · rcases ih r q h with h | h
      · exact .inr (by simp [h])
      · exact .inr (List.mem_cons_of_mem _ h)
    · simpa using h

theorem Lit.collapse {p : Pattern} {rest : List Pattern} (h : Lit (p :: rest)) : Lit (collapseRec p rest) := by
  intro q hq
  rcases collapseRec_mem rest p q hq with rfl | hq
  · exact h _ (by simp)
  · exact h _ (List.mem_cons_of_mem _ hq)

end AcmedVerif.Glob
