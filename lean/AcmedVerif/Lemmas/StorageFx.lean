/-
Lemmas about `Model/StorageFx.lean`: the open/write/`set_owner` part of `writeFileFx` is the
hook-free `Storage.writeFile` started on the file system the pre hooks left.
-/
import AcmedVerif.Model.StorageFx
import AcmedVerif.Lemmas.Storage

namespace AcmedVerif.StorageFx
open AcmedVerif.Fs AcmedVerif.Storage

/-- `env` with hooks that always succeed (same databases, same `chown` permission). -/
def okEnv (env : Env) : Env := { env with hookOk := fun _ => true }

theorem okEnv_hookOk (env : Env) (h : HookType) : (okEnv env).hookOk h = true := rfl

theorem setOwner_okEnv (env : Env) (proc : Proc) (s : Settings) (fs : Fs) (t : FileType) (p : Path) :
    setOwner (okEnv env) proc s fs t p = setOwner env proc s fs t p := rfl

theorem ownedF_okEnv (env : Env) (proc : Proc) (s : Settings) (t : FileType) (f : File) :
    ownedF (okEnv env) proc s t f = ownedF env proc s t f := rfl

theorem finalFile_okEnv (trunc : Trunc) (env : Env) (proc : Proc) (s : Settings) (old : Option File)
    (t : FileType) (data : List UInt8) :
    finalFile trunc (okEnv env) proc s old t data = finalFile trunc env proc s old t data := rfl

/-- The file system the pre hooks leave. -/
def afterPre (fx : HookType → List Effect) (fs : Fs) (p : Path) : FxState :=
  applyEffects p fs (fx (preHook (get fs p).isNone))

theorem applyEffects_nil (p : Path) (fs : Fs) : applyEffects p fs [] = { fs := fs, kept := true } :=
  rfl

/-- Pre hooks failed: the effects happened, nothing was written. -/
theorem writeFileFx_pre_failed (trunc : Trunc) (ma : ModeArg) (env : Env)
    (fx : HookType → List Effect) (proc : Proc) (s : Settings) (fs : Fs) (t : FileType) (p : Path)
    (data : List UInt8) (h : env.hookOk (preHook (get fs p).isNone) = false) :
    (writeFileFx trunc ma env fx proc s fs t p data).fs = (afterPre fx fs p).fs ∧
    (writeFileFx trunc ma env fx proc s fs t p data).result = .err .preHook ∧
    (writeFileFx trunc ma env fx proc s fs t p data).afterWrite = none := by
  simp [writeFileFx, afterPre, h]

theorem writeFileFx_atOpen (trunc : Trunc) (ma : ModeArg) (env : Env)
    (fx : HookType → List Effect) (proc : Proc) (s : Settings) (fs : Fs) (t : FileType) (p : Path)
    (data : List UInt8) :
    (writeFileFx trunc ma env fx proc s fs t p data).atOpen = get (afterPre fx fs p).fs p := by
  unfold writeFileFx afterPre
  simp only
  split
  · rfl
  · split <;> rfl

/-- **Bridge.** Pre hooks passed: what the post hooks see is the file the hook-free `writeFile`
leaves when it is started on the file system the pre hooks left. -/
theorem writeFileFx_afterWrite (trunc : Trunc) (env : Env) (fx : HookType → List Effect)
    (proc : Proc) (s : Settings) (fs : Fs) (t : FileType) (p : Path) (data : List UInt8)
    (h : env.hookOk (preHook (get fs p).isNone) = true) :
    (writeFileFx trunc .always env fx proc s fs t p data).afterWrite =
      get (writeFile trunc (okEnv env) proc s (afterPre fx fs p).fs t p data).fs p := by
  unfold writeFileFx writeFile afterPre
  simp only [h, okEnv_hookOk, openMode, Bool.not_true, Bool.false_eq_true, if_false]
  rw [setOwner_okEnv]
  generalize setOwner env proc s _ t p = r
  cases r with
  | error e => rfl
  | ok v => cases v; rfl

/-- `open` looks at the mode argument only when the path is absent: handing the mode over only
`if is_new` makes no difference when `is_new` says whether the path is absent at `open` time. -/
theorem openCreate_openMode (proc : Proc) (fs : Fs) (p : Path) (ma : ModeArg) (m : Nat) (trunc : Trunc) :
    openCreate proc fs p (openMode ma (get fs p).isNone m) trunc = openCreate proc fs p m trunc := by
  unfold openCreate
  cases ma <;> cases get fs p <;> rfl

end AcmedVerif.StorageFx
