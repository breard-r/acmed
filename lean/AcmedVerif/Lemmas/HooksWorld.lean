/-
The shipped hooks (`Gen/DefaultHooks.lean`) run in `Model/HooksWorld.lean`: which rows each group runs,
what each row does, one cycle and any number of issuances per group.  Used by `Props/C20.lean`.
-/
import AcmedVerif.Model.HooksWorld
import AcmedVerif.Gen.DefaultHooks
import AcmedVerif.Spec.C20

namespace AcmedVerif.HooksWorld
open AcmedVerif.Gen

section assoc
variable {β : Type}

theorem lookup_erase_self (k : String) (l : List (String × β)) : lookup k (erase k l) = none := by
  induction l with
  | nil => rfl
  | cons e r ih =>
    obtain ⟨k', v⟩ := e
    by_cases h : k' = k
    · simpa [erase, h] using ih
    · simpa [erase, h, lookup] using ih

theorem lookup_erase_ne (k k' : String) (l : List (String × β)) (hne : k' ≠ k) :
    lookup k' (erase k l) = lookup k' l := by
  induction l with
  | nil => rfl
  | cons e r ih =>
    obtain ⟨k2, v⟩ := e
    by_cases h : k2 = k
    · subst h
      have : ¬ k2 = k' := fun e => hne e.symm
      simpa [erase, lookup, this] using ih
    · by_cases h2 : k2 = k'
      · subst h2
        simp [erase, lookup, hne]
      · simpa [erase, h, lookup, h2] using ih

theorem lookup_insert_self (k : String) (v : β) (l : List (String × β)) :
    lookup k (insert k v l) = some v := by
  simp [insert, lookup]

theorem lookup_insert_ne (k k' : String) (v : β) (l : List (String × β)) (hne : k' ≠ k) :
    lookup k' (insert k v l) = lookup k' l := by
  have : k ≠ k' := fun e => hne e.symm
  simp [insert, lookup, this, lookup_erase_ne k k' l hne]

end assoc

theorem getLast?_append_ne_nil {α : Type} (a b : List α) (h : b ≠ []) :
    (a ++ b).getLast? = b.getLast? := by
  rw [List.getLast?_append]
  cases hb : b.getLast? with
  | none => rw [List.getLast?_eq_none_iff] at hb; exact absurd hb h
  | some x => rfl

theorem ne_all_reverse {x : Char} {t : List Char} (h : x ∉ t) : ∀ c ∈ t.reverse, (c != x) = true :=
  fun _ hc => bne_iff_ne.2 fun e => h (e ▸ List.mem_reverse.1 hc)

theorem dirnameL_append (d t : List Char) (ht : '/' ∉ t) : dirnameL (d ++ '/' :: t) = d := by
  simp [dirnameL, List.dropWhile_append_of_pos (ne_all_reverse ht)]

theorem rsplitColon_append (h p : List Char) (hp : ':' ∉ p) :
    rsplitColon (h ++ ':' :: p) = some (h, p) := by
  simp [rsplitColon, List.dropWhile_append_of_pos (ne_all_reverse hp),
    List.takeWhile_append_of_pos (ne_all_reverse hp)]

theorem rsplitColon_none (cs : List Char) (h : ':' ∉ cs) : rsplitColon cs = none := by
  have e := List.dropWhile_append_of_pos (l₂ := []) (ne_all_reverse h)
  rw [List.append_nil] at e
  simp [rsplitColon, e]

theorem renderTok_lit (vars env : String → Option String) (s : String) :
    renderTok vars env (.lit s) = s := rfl

theorem renderTok_var (vars env : String → Option String) (s : String) :
    renderTok vars env (.var s) = (vars s).getD "" := rfl

theorem renderTok_envLit (vars env : String → Option String) (n d : String) :
    renderTok vars env (.envDefault n (.lit d)) = envOr env n d := by
  simp only [renderTok, envOr, renderDflt]

theorem renderTok_envVar (vars env : String → Option String) (n v : String) :
    renderTok vars env (.envDefault n (.var v)) = envOr env n ((vars v).getD "") := by
  simp only [renderTok, envOr, renderDflt]

/-- What the mkdir hook creates. -/
def httpDocDir (env : String → Option String) (c : Challenge) : String :=
  envOr env "HTTP_ROOT" "/var/www" ++ "/" ++ c.identifier ++ "/.well-known/acme-challenge"

theorem httpDocPath_eq (env : String → Option String) (c : Challenge) :
    httpDocPath env c = httpDocDir env c ++ "/" ++ c.fileName := by
  have : "/.well-known/acme-challenge/" = "/.well-known/acme-challenge" ++ "/" := by decide +kernel
  simp only [httpDocPath, httpDocDir, this, String.append_assoc]

def hookNamed (n : String) : GHook := (defaultHooks.find? fun h => h.name == n).getD default

/-- Rows of the shipped table, called after their `name` fields. -/
def mkdirHook : GHook := defaultHooks.getD 0 default
def echoHook : GHook := defaultHooks.getD 1 default
def chmodHook : GHook := defaultHooks.getD 2 default
def httpCleanHook : GHook := defaultHooks.getD 3 default
def startTcpHook : GHook := defaultHooks.getD 4 default
def startUnixHook : GHook := defaultHooks.getD 5 default
def killHook : GHook := defaultHooks.getD 6 default
def rmPidHook : GHook := defaultHooks.getD 7 default
def rmSockHook : GHook := defaultHooks.getD 8 default
def gitInitHook : GHook := defaultHooks.getD 9 default
def gitAddHook : GHook := defaultHooks.getD 10 default
def gitCommitHook : GHook := defaultHooks.getD 11 default

theorem hookNamed_of_idx {n : String} {i : Nat}
    (h : defaultHooks.findIdx? (·.name == n) = some i) : hookNamed n = defaultHooks.getD i default := by
  rw [hookNamed, List.find?_eq_bind_findIdx?_getElem?, h]
  rfl

def httpGroup : List GHook := groupHooks defaultHooks defaultGroups "http-01-echo"
def tcpGroup : List GHook := groupHooks defaultHooks defaultGroups "tls-alpn-01-tacd-tcp"
def unixGroup : List GHook := groupHooks defaultHooks defaultGroups "tls-alpn-01-tacd-unix"
def gitGroup : List GHook := groupHooks defaultHooks defaultGroups "git"
def oldTcpGroup : List GHook :=
  groupHooks (oldDefaultHooks defaultHooks) (oldDefaultGroups defaultGroups) "tls-alpn-01-tacd-tcp"
def oldUnixGroupHooks : List GHook :=
  groupHooks (oldDefaultHooks defaultHooks) (oldDefaultGroups defaultGroups) "tls-alpn-01-tacd-unix"

/-- One statement, used as rewrite rules: the kernel resolves every name once. -/
theorem group_tables :
    ofType httpGroup "challenge-http-01" = [mkdirHook, echoHook, chmodHook] ∧
    ofType httpGroup "challenge-http-01-clean" = [httpCleanHook] ∧
    ofType tcpGroup "challenge-tls-alpn-01" = [startTcpHook] ∧
    ofType tcpGroup "challenge-tls-alpn-01-clean" = [killHook, rmPidHook] ∧
    ofType unixGroup "challenge-tls-alpn-01" = [startUnixHook] ∧
    ofType unixGroup "challenge-tls-alpn-01-clean" = [killHook, rmPidHook, rmSockHook] ∧
    ofType gitGroup "file-pre-create" = [gitInitHook] ∧
    ofType gitGroup "file-pre-edit" = [gitInitHook] ∧
    ofType gitGroup "file-post-create" = [gitAddHook, gitCommitHook] ∧
    ofType gitGroup "file-post-edit" = [gitAddHook, gitCommitHook] ∧
    ofType oldTcpGroup "challenge-tls-alpn-01" = [oldStartTcp] ∧
    ofType oldTcpGroup "challenge-tls-alpn-01-clean" = [killHook, rmPidHook] ∧
    ofType oldUnixGroupHooks "challenge-tls-alpn-01" = [startUnixHook] ∧
    ofType oldUnixGroupHooks "challenge-tls-alpn-01-clean" = [killHook, rmPidHook] := by
  decide +kernel

theorem vars_identifier (c : Challenge) : c.vars "identifier" = some c.identifier := by
  rw [Challenge.vars]

theorem vars_identifierTlsAlpn (c : Challenge) :
    c.vars "identifier_tls_alpn" = some c.identifierTlsAlpn := by rw [Challenge.vars]

theorem vars_fileName (c : Challenge) : c.vars "file_name" = some c.fileName := by
  rw [Challenge.vars]

theorem vars_proof (c : Challenge) : c.vars "proof" = some c.proof := by rw [Challenge.vars]

theorem fileVars_name (d n : String) : fileVars d n "file_name" = some n := by rw [fileVars]

theorem fileVars_directory (d n : String) : fileVars d n "file_directory" = some d := by
  rw [fileVars]

/-- Unfolding `runHook` on a table row leaves a goal the kernel confirms only by running `parseCmd`
on the strings: hence these two lemmas, the `vars` equations above, and `parseCmd.eq_k` (plain
`parseCmd` also tries the catch-all). -/
theorem runHook_hard {w : World} {h : GHook} {vars env : String → Option String} {c : Cmd}
    (hs : h.stdout = none) (ha : h.allowFailure = false)
    (hc : parseCmd h.cmd (h.args.map fun t => render t vars env) = some c) :
    runHook w h vars env = ((exec w c).1, (exec w c).2.2) := by
  simp only [runHook, hs, hc, ha, Bool.or_false]

theorem runHook_soft {w : World} {h : GHook} {vars env : String → Option String} {c : Cmd}
    (hs : h.stdout = none) (ha : h.allowFailure = true)
    (hc : parseCmd h.cmd (h.args.map fun t => render t vars env) = some c) :
    runHook w h vars env = ((exec w c).1, true) := by
  simp only [runHook, hs, hc, ha, Bool.or_true]

theorem run_rows (w : World) (c : Challenge) (env : String → Option String) :
    runHook w mkdirHook c.vars env = ((exec w (.mkdirP "0755" (httpDocDir env c))).1, true) ∧
    runHook w echoHook c.vars env =
      (match createFile w (httpDocPath env c) with
       | none => (w, false)
       | some w1 => (writeContent w1 (httpDocPath env c) (c.proof ++ "\n"), true)) ∧
    runHook w chmodHook c.vars env = ((exec w (.chmodAR (httpDocPath env c))).1, true) ∧
    runHook w httpCleanHook c.vars env = ((exec w (.rmF (httpDocPath env c))).1, true) ∧
    runHook w startTcpHook c.vars env =
      (tacdStart w (pidDocPath env c) c.identifierTlsAlpn c.proof (tcpDocListen env c), true) ∧
    runHook w oldStartTcp c.vars env =
      (tacdStart w (pidDocPath env c) c.identifierTlsAlpn c.proof (envOr env "TACD_PORT" "5001"),
        true) ∧
    runHook w startUnixHook c.vars env =
      (tacdStart w (pidDocPath env c) c.identifierTlsAlpn c.proof ("unix:" ++ unixDocSock env c),
        true) ∧
    runHook w killHook c.vars env = ((exec w (.pkillF (pidDocPath env c))).1, true) ∧
    runHook w rmPidHook c.vars env = ((exec w (.rmF (pidDocPath env c))).1, true) ∧
    runHook w rmSockHook c.vars env = ((exec w (.rmF (unixDocSock env c))).1, true) := by
  refine ⟨runHook_soft rfl rfl ?_, ?_, runHook_soft rfl rfl ?_, runHook_soft rfl rfl ?_,
    runHook_hard (c := .tacd _ _ _ _) rfl rfl ?_, runHook_hard (c := .tacd _ _ _ _) rfl rfl ?_,
    runHook_hard (c := .tacd _ _ _ _) rfl rfl ?_, runHook_soft rfl rfl ?_, runHook_soft rfl rfl ?_,
    runHook_soft rfl rfl ?_⟩
  all_goals simp only [mkdirHook, echoHook, chmodHook, httpCleanHook, startTcpHook, oldStartTcp,
    startUnixHook, killHook, rmPidHook, rmSockHook, defaultHooks, List.getD_cons_zero,
    List.getD_cons_succ, runHook, List.map, render, renderTok_envLit, renderTok_envVar,
    renderTok_lit, renderTok_var, vars_identifier, vars_identifierTlsAlpn, vars_fileName,
    vars_proof, Option.getD_some, String.append_empty, parseCmd.eq_1, parseCmd.eq_2, parseCmd.eq_3,
    parseCmd.eq_4, parseCmd.eq_5, parseCmd.eq_6, httpDocDir, httpDocPath, pidDocPath, tcpDocListen,
    unixDocSock, String.append_assoc, exec, Bool.or_false]
  cases createFile w _ <;> rfl

theorem run_gitRows (w : World) (d n : String) (env : String → Option String) :
    runHook w gitInitHook (fileVars d n) env =
      ((exec w (.gitInit d)).1, (exec w (.gitInit d)).2.2) ∧
    runHook w gitAddHook (fileVars d n) env = ((exec w (.gitAdd d n)).1, true) ∧
    runHook w gitCommitHook (fileVars d n) env = ((exec w (.gitCommit d n n)).1, true) := by
  refine ⟨runHook_hard rfl rfl ?_, runHook_soft rfl rfl ?_, runHook_soft rfl rfl ?_⟩
  all_goals simp only [gitInitHook, gitAddHook, gitCommitHook, defaultHooks, List.getD_cons_zero,
    List.getD_cons_succ, List.map, render, renderTok_envLit, renderTok_lit, renderTok_var,
    fileVars_name, fileVars_directory, Option.getD_some, String.append_empty, parseCmd.eq_7,
    parseCmd.eq_8, parseCmd.eq_9]

/-! Rewrite with these, do not unfold `cycle`: a projection of `runHooks … group …` that no
hypothesis matches syntactically makes the kernel evaluate the group's table. -/

section
variable (hooks : List GHook) (t1 t2 : String) (v : World → Challenge → Bool)
  (env : String → Option String) (w : World) (c : Challenge)

theorem cycle_verdict :
    (cycle hooks t1 t2 v env w c).2.1 = v (runHooks w hooks t1 c.vars env).1 c := rfl

theorem issuances_cons (cs : List Challenge) :
    issuances hooks t1 t2 v env w (c :: cs) =
      (((cycle hooks t1 t2 v env w c).1 && (cycle hooks t1 t2 v env w c).2.1 &&
          (cycle hooks t1 t2 v env w c).2.2.1) ::
        (issuances hooks t1 t2 v env (cycle hooks t1 t2 v env w c).2.2.2 cs).1,
       (issuances hooks t1 t2 v env (cycle hooks t1 t2 v env w c).2.2.2 cs).2) := rfl

end

theorem cycle_of_eq {hooks : List GHook} {t1 t2 : String} {v : World → Challenge → Bool}
    {env : String → Option String} {w w1 w2 : World} {c : Challenge} {b1 b2 : Bool}
    (h1 : runHooks w hooks t1 c.vars env = (w1, b1))
    (h2 : runHooks w1 hooks t2 c.vars env = (w2, b2)) :
    cycle hooks t1 t2 v env w c = (b1, v w1 c, b2, w2) := by
  simp only [cycle, h1, h2]

theorem issuances_all (hooks : List GHook) (t1 t2 : String) (v : World → Challenge → Bool)
    (env : String → Option String) {Inv Post : World → Prop} (cs : List Challenge)
    (hstep : ∀ w, ∀ c ∈ cs, Inv w →
      (cycle hooks t1 t2 v env w c).1 = true ∧ (cycle hooks t1 t2 v env w c).2.1 = true ∧
      (cycle hooks t1 t2 v env w c).2.2.1 = true ∧ Inv (cycle hooks t1 t2 v env w c).2.2.2 ∧
      Post (cycle hooks t1 t2 v env w c).2.2.2) :
    ∀ w, Inv w →
      (issuances hooks t1 t2 v env w cs).1 = cs.map (fun _ => true) ∧
      Inv (issuances hooks t1 t2 v env w cs).2 ∧
      (cs ≠ [] → Post (issuances hooks t1 t2 v env w cs).2) := by
  induction cs with
  | nil => intro w hw; exact ⟨rfl, hw, fun h => absurd rfl h⟩
  | cons c rest ih =>
    intro w hw
    obtain ⟨h1, h2, h3, hi, hp⟩ := hstep w c List.mem_cons_self hw
    obtain ⟨i1, i2, i3⟩ := ih (fun w c hc => hstep w c (List.mem_cons_of_mem _ hc)) _ hi
    rw [issuances_cons, h1, h2, h3, i1]
    refine ⟨rfl, i2, fun _ => ?_⟩
    cases rest with
    | nil => exact hp
    | cons c2 r2 => exact i3 (List.cons_ne_nil _ _)

section
variable (w : World) (env : String → Option String) (c : Challenge)

theorem isBlocked_of_prefix (w : World) (p q : String) (hpq : p.toList <+: q.toList)
    (hq : isBlocked w q = false) : isBlocked w p = false := by
  unfold isBlocked at hq ⊢
  rw [Bool.eq_false_iff] at hq ⊢
  intro hp
  apply hq
  rw [List.any_eq_true] at hp ⊢
  obtain ⟨b, hb, hbp⟩ := hp
  refine ⟨b, hb, ?_⟩
  rw [List.isPrefixOf_iff_prefix] at hbp ⊢
  exact hbp.trans hpq

/-- The token is a non-empty file name: no '/' (ACME tokens are base64url). -/
def TokenOk (c : Challenge) : Prop := c.fileName ≠ "" ∧ '/' ∉ c.fileName.toList

/-- What must hold of the machine for the http-01-echo hooks to work: the proof path can be created
(its directory is not under an unwritable prefix), nothing that is not a regular file sits at the
proof path, and the challenge directory either exists or nothing else sits at its path. -/
structure HttpReady (w : World) (env : String → Option String) (c : Challenge) : Prop where
  notBlocked : isBlocked w (httpDocPath env c) = false
  notDir : httpDocPath env c ∉ w.dirs
  notSock : httpDocPath env c ∉ w.socks
  dirOk : httpDocDir env c ∈ w.dirs ∨ existsPath w (httpDocDir env c) = false

theorem httpDir_prefix :
    (httpDocDir env c).toList <+: (httpDocPath env c).toList := by
  rw [httpDocPath_eq]
  simp only [String.toList_append, List.append_assoc]
  exact List.prefix_append _ _

theorem httpPath_ne_dir :
    httpDocPath env c ≠ httpDocDir env c := by
  intro h
  have := congrArg String.length h
  rw [httpDocPath_eq] at this
  simp only [String.length_append] at this
  have h1 : ("/" : String).length = 1 := by decide
  omega

theorem dirname_httpPath (ht : TokenOk c) :
    dirname (httpDocPath env c) = httpDocDir env c := by
  rw [httpDocPath_eq]
  unfold dirname
  have : (httpDocDir env c ++ "/" ++ c.fileName).toList =
      (httpDocDir env c).toList ++ '/' :: c.fileName.toList := by
    simp [String.toList_append]
  rw [this, dirnameL_append _ _ ht.2, String.ofList_toList]

theorem httpPath_last (ht : TokenOk c) :
    ((httpDocPath env c).toList.getLast? == some '/') = false := by
  rw [httpDocPath_eq]
  have hne : c.fileName.toList ≠ [] := by
    intro h
    apply ht.1
    rw [← String.toList_inj]; simpa using h
  simp only [String.toList_append]
  rw [getLast?_append_ne_nil _ _ hne]
  rw [Bool.eq_false_iff]
  intro h
  have h2 : c.fileName.toList.getLast? = some '/' := by simpa using h
  exact ht.2 (List.mem_of_getLast? h2)

theorem exec_mkdir (w : World) (m d : String) (hb : isBlocked w d = false)
    (hd : d ∈ w.dirs ∨ existsPath w d = false) :
    (exec w (.mkdirP m d)).1 = { w with dirs := if d ∈ w.dirs then w.dirs else d :: w.dirs } := by
  by_cases h : d ∈ w.dirs
  · simp [exec, h]
  · have he : existsPath w d = false := by
      rcases hd with hd | hd
      · exact absurd hd h
      · exact hd
    simp [exec, h, hb, he]

theorem createFile_some (w : World) (f : String) (hb : isBlocked w f = false) (hd : f ∉ w.dirs)
    (hs : f ∉ w.socks) (hl : (f.toList.getLast? == some '/') = false) (hp : dirname f ∈ w.dirs) :
    ∃ e0, createFile w f = some { w with files := insert f e0 w.files } := by
  unfold createFile
  simp only [hb, hd, hs, hl, hp, decide_false, decide_true, Bool.or_false, Bool.or_true,
    Bool.not_true, Bool.false_eq_true, if_false]
  cases getFile w f with
  | none => exact ⟨_, rfl⟩
  | some e => exact ⟨_, rfl⟩

theorem http_challenge_spec
    (hr : HttpReady w env c) (ht : TokenOk c) :
    ∃ w1, runHooks w httpGroup "challenge-http-01" c.vars env = (w1, true) ∧
      getFile w1 (httpDocPath env c) = some ⟨c.proof ++ "\n", true⟩ ∧
      w1.blocked = w.blocked ∧ w1.socks = w.socks ∧ httpDocDir env c ∈ w1.dirs ∧
      ∀ p ∈ w1.dirs, p = httpDocDir env c ∨ p ∈ w.dirs := by
  have hbd : isBlocked w (httpDocDir env c) = false :=
    isBlocked_of_prefix w _ _ (httpDir_prefix env c) hr.notBlocked
  have h1 := exec_mkdir w "0755" (httpDocDir env c) hbd hr.dirOk
  generalize hw1 : (exec w (.mkdirP "0755" (httpDocDir env c))).1 = w1 at h1
  have hd1 : httpDocDir env c ∈ w1.dirs := by
    rw [h1]; by_cases h : httpDocDir env c ∈ w.dirs <;> simp [h]
  have hsub : ∀ p ∈ w1.dirs, p = httpDocDir env c ∨ p ∈ w.dirs := by
    rw [h1]; intro p hp
    by_cases h : httpDocDir env c ∈ w.dirs
    · simp only [h, if_true] at hp; exact Or.inr hp
    · simp only [h, if_false, List.mem_cons] at hp; exact hp
  have hnd1 : httpDocPath env c ∉ w1.dirs := by
    intro h
    rcases hsub _ h with h | h
    · exact httpPath_ne_dir env c h
    · exact hr.notDir h
  have hb1 : isBlocked w1 (httpDocPath env c) = false := by
    rw [h1]; exact hr.notBlocked
  have hs1 : httpDocPath env c ∉ w1.socks := by rw [h1]; exact hr.notSock
  obtain ⟨e0, h2⟩ := createFile_some w1 (httpDocPath env c) hb1 hnd1 hs1 (httpPath_last env c ht)
    (by rw [dirname_httpPath env c ht]; exact hd1)
  simp only [runHooks, group_tables, runList, run_rows, hw1, h2, if_true]
  simp only [writeContent, getFile, lookup_insert_self, exec]
  refine ⟨_, rfl, lookup_insert_self _ _ _, ?_, ?_, hd1, hsub⟩
  · rw [h1]
  · rw [h1]

theorem http_challenge_fails_of_dir
    (hd : httpDocPath env c ∈ w.dirs) :
    (runHooks w httpGroup "challenge-http-01" c.vars env).2 = false := by
  have hd1 : httpDocPath env c ∈ (exec w (.mkdirP "0755" (httpDocDir env c))).1.dirs := by
    simp only [exec]
    split
    · exact hd
    · split
      · exact hd
      · exact List.mem_cons_of_mem _ hd
  have hc : createFile (exec w (.mkdirP "0755" (httpDocDir env c))).1 (httpDocPath env c) = none := by
    simp only [createFile, hd1, decide_true, Bool.or_true, Bool.true_or, if_true]
  simp only [runHooks, group_tables, runList, run_rows, hc, if_true, Bool.false_eq_true,
    if_false]

theorem exec_rmF (w : World) (p : String) (hd : p ∉ w.dirs) (hb : isBlocked w p = false) :
    (exec w (.rmF p)).1 = { w with files := erase p w.files, pidFiles := erase p w.pidFiles,
                                   socks := w.socks.filter fun s => s ≠ p } := by
  simp [exec, hd, hb]

theorem http_clean_spec
    (hb : isBlocked w (httpDocPath env c) = false) (hd : httpDocPath env c ∉ w.dirs) :
    ∃ w2, runHooks w httpGroup "challenge-http-01-clean" c.vars env = (w2, true) ∧
      getFile w2 (httpDocPath env c) = none ∧ w2.blocked = w.blocked ∧ w2.dirs = w.dirs ∧
      ∀ p ∈ w2.socks, p ∈ w.socks := by
  simp only [runHooks, group_tables, runList, run_rows, exec_rmF w _ hd hb, if_true]
  exact ⟨_, rfl, lookup_erase_self _ _, rfl, rfl, fun p hp => (List.mem_filter.1 hp).1⟩

def httpCycle (env : String → Option String) (w : World) (c : Challenge) :
    Bool × Bool × Bool × World :=
  cycle httpGroup "challenge-http-01" "challenge-http-01-clean"
    (fun w c => http01Validates w env c) env w c

theorem http_cycle_spec
    (hr : HttpReady w env c) (ht : TokenOk c) :
    (httpCycle env w c).1 = true ∧ (httpCycle env w c).2.1 = true ∧
    (httpCycle env w c).2.2.1 = true ∧
    getFile (httpCycle env w c).2.2.2 (httpDocPath env c) = none ∧
    (httpCycle env w c).2.2.2.blocked = w.blocked ∧
    (∀ p ∈ (httpCycle env w c).2.2.2.socks, p ∈ w.socks) ∧
    httpDocDir env c ∈ (httpCycle env w c).2.2.2.dirs ∧
    (∀ p ∈ (httpCycle env w c).2.2.2.dirs, p = httpDocDir env c ∨ p ∈ w.dirs) := by
  obtain ⟨w1, e1, h2, h3, h4, h5, h6⟩ := http_challenge_spec w env c hr ht
  have hd1 : httpDocPath env c ∉ w1.dirs := fun h =>
    (h6 _ h).elim (httpPath_ne_dir env c) hr.notDir
  obtain ⟨w2, e2, k2, k3, k4, k5⟩ := http_clean_spec w1 env c
    (by rw [isBlocked, h3]; exact hr.notBlocked) hd1
  rw [httpCycle, cycle_of_eq e1 e2]
  refine ⟨rfl, ?_, rfl, k2, k3.trans h3, fun p hp => h4 ▸ k5 p hp, k4 ▸ h5, k4 ▸ h6⟩
  show http01Validates w1 env c = true
  rw [http01Validates, h2]
  simp

theorem http_ready_preserved (w : World) (env : String → Option String) (c c2 : Challenge)
    (hr : HttpReady w env c) (ht : TokenOk c) (hr2 : HttpReady w env c2)
    (hid : c2.identifier = c.identifier) : HttpReady (httpCycle env w c).2.2.2 env c2 := by
  obtain ⟨_, _, _, _, h5, h6, h7, h8⟩ := http_cycle_spec w env c hr ht
  have hdd : httpDocDir env c2 = httpDocDir env c := by simp [httpDocDir, hid]
  refine ⟨?_, ?_, ?_, ?_⟩
  · have := hr2.notBlocked
    unfold isBlocked at this ⊢
    rw [h5]; exact this
  · intro h
    rcases h8 _ h with h | h
    · exact httpPath_ne_dir env c2 (by rw [hdd]; exact h)
    · exact hr2.notDir h
  · intro h; exact hr2.notSock (h6 _ h)
  · left; rw [hdd]; exact h7

theorem parseListen_tcp (host port : String) (n : Nat)
    (hu : "unix:".toList.isPrefixOf (host ++ ":" ++ port).toList = false)
    (hc : ':' ∉ port.toList) (hp : parsePort port.toList = some n) (hh : host ≠ "") :
    parseListen (host ++ ":" ++ port) = some (.tcp host n) := by
  unfold parseListen
  simp only [hu, Bool.false_eq_true, if_false]
  have h1 : (host ++ ":" ++ port).toList = host.toList ++ ':' :: port.toList := by
    simp [String.toList_append]
  have hne : host.toList ≠ [] := by
    intro h; apply hh; rw [← String.toList_inj]; simpa using h
  rw [h1, rsplitColon_append _ _ hc]
  simp only [hp, hne, if_false, String.ofList_toList]

theorem unix_toList : "unix:".toList = ['u', 'n', 'i', 'x', ':'] := by decide +kernel

theorem parseListen_unix (s : String) : parseListen ("unix:" ++ s) = some (.unix s) := by
  unfold parseListen
  simp [String.toList_append, unix_toList, String.ofList_toList]

theorem parseListen_no_colon (s : String) (h : ':' ∉ s.toList) : parseListen s = none := by
  unfold parseListen
  have hu : "unix:".toList.isPrefixOf s.toList = false := by
    rw [Bool.eq_false_iff]
    intro hp
    rw [List.isPrefixOf_iff_prefix, unix_toList] at hp
    obtain ⟨t, ht⟩ := hp
    apply h
    rw [← ht]; simp
  simp only [hu, Bool.false_eq_true, if_false, rsplitColon_none _ h]

/-- The world once `tacd` runs as responder `r` with pid file `P`. -/
def started (w : World) (P : String) (r : Responder) (socks : List String) : World :=
  { w with nextPid := w.nextPid + 1, pidFiles := insert P w.nextPid w.pidFiles, socks := socks,
           responders := r :: w.responders }

/-- Pid file creatable and not locked, `host` local, `host:port` free; `pids`: the model's own. -/
structure TcpReady (w : World) (P host : String) (port : Nat) : Prop where
  pidNotBlocked : isBlocked w P = false
  pidNotDir : P ∉ w.dirs
  pidFree : pidLocked w P = false
  isLocal : host ∈ w.localHosts
  free : tcpBound w host port = false
  pids : ∀ r ∈ w.responders, r.pid < w.nextPid

theorem tacdStart_tcp (w : World) (P d e A host : String) (port : Nat)
    (hr : TcpReady w P host port) (hA : parseListen A = some (.tcp host port)) :
    tacdStart w P d e A = started w P ⟨w.nextPid, .tcp host port, d, e⟩ w.socks := by
  have hf := hr.free
  simp [tcpBound] at hf
  simp [tacdStart, started, hr.pidNotBlocked, hr.pidFree, hA, hr.isLocal, tcpBound, hf]
  intro x hx hl
  exact absurd hl (hf.2 x hx)

theorem filter_kill (r0 : Responder) (rs : List Responder) (n : Nat) (hp : r0.pid = n)
    (h : ∀ r ∈ rs, r.pid < n) :
    List.filter (fun r => decide (r.pid ≠ n)) (r0 :: rs) = rs := by
  rw [List.filter_cons]
  simp only [hp, ne_eq, not_true_eq_false, decide_false, Bool.false_eq_true, if_false]
  rw [List.filter_eq_self]
  intro r hr
  have := h r hr
  simp; omega

theorem exec_rmF_same_dirs (W w : World) (p : String) (hd : p ∉ w.dirs) (hb : isBlocked w p = false)
    (h1 : W.dirs = w.dirs) (h2 : W.blocked = w.blocked) :
    (exec W (.rmF p)).1 = { W with files := erase p W.files, pidFiles := erase p W.pidFiles,
                                   socks := W.socks.filter fun s => s ≠ p } := by
  apply exec_rmF
  · rw [h1]; exact hd
  · unfold isBlocked at hb ⊢; rw [h2]; exact hb

theorem exec_pkill_some (w : World) (P : String) (pid : Nat) (h : getPid w P = some pid) :
    (exec w (.pkillF P)).1 =
      { w with responders := w.responders.filter fun r => decide (r.pid ≠ pid) } := by
  simp [exec, h]

/-- The world after one complete tcp cycle from a ready world. -/
def afterTcp (w : World) (P : String) : World :=
  { w with nextPid := w.nextPid + 1, files := erase P w.files,
           pidFiles := erase P (insert P w.nextPid w.pidFiles),
           socks := w.socks.filter fun s => s ≠ P }

def tcpCycle (env : String → Option String) (l : Listen) (w : World) (c : Challenge) :
    Bool × Bool × Bool × World :=
  cycle tcpGroup "challenge-tls-alpn-01" "challenge-tls-alpn-01-clean"
    (fun w c => tlsAlpnValidates w l c) env w c

theorem tcp_challenge_spec (host : String)
    (port : Nat) (hr : TcpReady w (pidDocPath env c) host port)
    (hA : parseListen (tcpDocListen env c) = some (.tcp host port)) :
    runHooks w tcpGroup "challenge-tls-alpn-01" c.vars env =
      (started w (pidDocPath env c) ⟨w.nextPid, .tcp host port, c.identifierTlsAlpn, c.proof⟩ w.socks,
        true) := by
  simp only [runHooks, group_tables, runList, run_rows,
    tacdStart_tcp w _ _ _ _ host port hr hA, if_true]

theorem kill_rm_after_start (hooks : List GHook)
    (hk : ofType hooks "challenge-tls-alpn-01-clean" =
      [killHook, rmPidHook])
    (w : World) (env : String → Option String) (c : Challenge) (r0 : Responder)
    (hp : r0.pid = w.nextPid)
    (hnb : isBlocked w (pidDocPath env c) = false) (hnd : pidDocPath env c ∉ w.dirs)
    (hpids : ∀ r ∈ w.responders, r.pid < w.nextPid) (socks : List String) :
    runHooks (started w (pidDocPath env c) r0 socks) hooks "challenge-tls-alpn-01-clean" c.vars env =
      ({ w with nextPid := w.nextPid + 1, files := erase (pidDocPath env c) w.files,
                pidFiles := erase (pidDocPath env c) (insert (pidDocPath env c) w.nextPid w.pidFiles),
                socks := socks.filter fun s => s ≠ pidDocPath env c }, true) := by
  simp only [runHooks, hk, runList, run_rows, if_true, started]
  rw [exec_pkill_some _ _ w.nextPid (by simp [getPid, lookup_insert_self])]
  rw [exec_rmF_same_dirs _ w _ hnd hnb ?_ ?_]
  · simp only [filter_kill r0 w.responders w.nextPid hp hpids]
  · rfl
  · rfl

theorem tcp_cycle_spec (host : String)
    (port : Nat) (hr : TcpReady w (pidDocPath env c) host port)
    (hA : parseListen (tcpDocListen env c) = some (.tcp host port)) :
    tcpCycle env (.tcp host port) w c = (true, true, true, afterTcp w (pidDocPath env c)) := by
  rw [tcpCycle, cycle_of_eq (tcp_challenge_spec w env c host port hr hA)
    (kill_rm_after_start tcpGroup (by simp only [group_tables]) w env c _ rfl hr.pidNotBlocked hr.pidNotDir hr.pids
      w.socks)]
  simp [tlsAlpnValidates, afterTcp, started]

theorem tcpReady_after (w : World) (P host : String) (port : Nat) (hr : TcpReady w P host port) :
    TcpReady (afterTcp w P) P host port := by
  refine ⟨?_, hr.pidNotDir, ?_, hr.isLocal, ?_, ?_⟩
  · exact hr.pidNotBlocked
  · simp [pidLocked, getPid, afterTcp, lookup_erase_self]
  · exact hr.free
  · intro r h
    have := hr.pids r h
    simp only [afterTcp]; omega

theorem existsPath_false_iff (w : World) (p : String) :
    existsPath w p = false ↔
      p ∉ w.dirs ∧ getFile w p = none ∧ getPid w p = none ∧ p ∉ w.socks := by
  simp [existsPath, and_assoc]

/-- Pid file and socket creatable, pid file not locked, nothing at `S`, `P ≠ S`. -/
structure UnixReady (w : World) (P S : String) : Prop where
  pidNotBlocked : isBlocked w P = false
  pidNotDir : P ∉ w.dirs
  pidFree : pidLocked w P = false
  sockNotBlocked : isBlocked w S = false
  sockFree : existsPath w S = false
  pids : ∀ r ∈ w.responders, r.pid < w.nextPid
  ne : P ≠ S

theorem tacdStart_unix (w : World) (P d e S : String) (hr : UnixReady w P S) :
    tacdStart w P d e ("unix:" ++ S) = started w P ⟨w.nextPid, .unix S, d, e⟩ (S :: w.socks) := by
  obtain ⟨h1, h2, h3, h4⟩ := (existsPath_false_iff w S).1 hr.sockFree
  have he : existsPath { w with nextPid := w.nextPid + 1, pidFiles := insert P w.nextPid w.pidFiles } S
      = false := by
    rw [existsPath_false_iff]
    refine ⟨h1, h2, ?_, h4⟩
    simp only [getPid] at h3 ⊢
    rw [lookup_insert_ne _ _ _ _ (fun e => hr.ne e.symm)]; exact h3
  have hb : isBlocked { w with nextPid := w.nextPid + 1, pidFiles := insert P w.nextPid w.pidFiles } S
      = false := hr.sockNotBlocked
  simp only [tacdStart, started, hr.pidNotBlocked, hr.pidFree, parseListen_unix, he, hb, Bool.or_self,
    Bool.false_eq_true, if_false]

/-- A left-over socket file makes the bind fail: no responder is added. -/
theorem tacdStart_unix_exists (w : World) (P d e S : String) (hs : S ∈ w.socks) :
    (tacdStart w P d e ("unix:" ++ S)).responders = w.responders := by
  unfold tacdStart
  split
  · rfl
  · have he : existsPath { w with nextPid := w.nextPid + 1, pidFiles := insert P w.nextPid w.pidFiles } S
        = true := by
      simp [existsPath, hs]
    simp only [parseListen_unix, he, Bool.true_or, if_true, cleanPid]

/-- … after one unix cycle. -/
def afterUnix (w : World) (P S : String) : World :=
  { w with nextPid := w.nextPid + 1, files := erase S (erase P w.files),
           pidFiles := erase S (erase P (insert P w.nextPid w.pidFiles)),
           socks := (List.filter (fun s => s ≠ P) (S :: w.socks)).filter fun s => s ≠ S }

/-- The world after one cycle of the group as shipped BEFORE the repair (no rm-sock). -/
def afterUnixOld (w : World) (P S : String) : World :=
  { w with nextPid := w.nextPid + 1, files := erase P w.files,
           pidFiles := erase P (insert P w.nextPid w.pidFiles),
           socks := List.filter (fun s => s ≠ P) (S :: w.socks) }

/-- Generic in the tacd group `hooks`; `tcpCycle` is the instance `tcpGroup`. -/
def unixCycle (hooks : List GHook) (env : String → Option String) (l : Listen) (w : World)
    (c : Challenge) : Bool × Bool × Bool × World :=
  cycle hooks "challenge-tls-alpn-01" "challenge-tls-alpn-01-clean"
    (fun w c => tlsAlpnValidates w l c) env w c

theorem unix_challenge_spec
    (hr : UnixReady w (pidDocPath env c) (unixDocSock env c)) :
    runHooks w unixGroup "challenge-tls-alpn-01" c.vars env =
      (started w (pidDocPath env c) ⟨w.nextPid, .unix (unixDocSock env c), c.identifierTlsAlpn, c.proof⟩
        (unixDocSock env c :: w.socks), true) := by
  simp only [runHooks, group_tables, runList, run_rows,
    tacdStart_unix w _ _ _ _ hr, if_true]

theorem unix_clean_after_start (r0 : Responder)
    (hp : r0.pid = w.nextPid) (hr : UnixReady w (pidDocPath env c) (unixDocSock env c)) :
    runHooks (started w (pidDocPath env c) r0 (unixDocSock env c :: w.socks)) unixGroup
        "challenge-tls-alpn-01-clean" c.vars env =
      (afterUnix w (pidDocPath env c) (unixDocSock env c), true) := by
  have hsd : unixDocSock env c ∉ w.dirs := ((existsPath_false_iff w _).1 hr.sockFree).1
  simp only [runHooks, group_tables, runList, run_rows, if_true, started]
  rw [exec_pkill_some _ _ w.nextPid (by simp [getPid, lookup_insert_self])]
  rw [exec_rmF_same_dirs _ w _ hr.pidNotDir hr.pidNotBlocked ?_ ?_]
  · rw [exec_rmF_same_dirs _ w _ hsd hr.sockNotBlocked ?_ ?_]
    · simp only [filter_kill r0 w.responders w.nextPid hp hr.pids, afterUnix]
    · rfl
    · rfl
  · rfl
  · rfl

theorem unix_cycle_spec
    (hr : UnixReady w (pidDocPath env c) (unixDocSock env c)) :
    unixCycle unixGroup env (.unix (unixDocSock env c)) w c =
      (true, true, true, afterUnix w (pidDocPath env c) (unixDocSock env c)) := by
  rw [unixCycle, cycle_of_eq (unix_challenge_spec w env c hr) (unix_clean_after_start w env c _ rfl hr)]
  simp [tlsAlpnValidates, started]

theorem unixReady_after (w : World) (P S : String) (hr : UnixReady w P S) :
    UnixReady (afterUnix w P S) P S := by
  obtain ⟨h1, h2, h3, h4⟩ := (existsPath_false_iff w S).1 hr.sockFree
  refine ⟨hr.pidNotBlocked, hr.pidNotDir, ?_, hr.sockNotBlocked, ?_, ?_, hr.ne⟩
  · simp [pidLocked, getPid, afterUnix, lookup_erase_ne _ _ _ hr.ne, lookup_erase_self]
  · rw [existsPath_false_iff]
    refine ⟨h1, ?_, ?_, ?_⟩
    · simp [getFile, afterUnix, lookup_erase_self]
    · simp [getPid, afterUnix, lookup_erase_self]
    · simp [afterUnix]
  · intro r h
    have := hr.pids r h
    simp only [afterUnix]; omega

theorem afterUnix_clean (w : World) (P S : String) (hr : UnixReady w P S) :
    getPid (afterUnix w P S) P = none ∧ existsPath (afterUnix w P S) S = false ∧
    (afterUnix w P S).responders = w.responders := by
  refine ⟨?_, (unixReady_after w P S hr).sockFree, rfl⟩
  simp [getPid, afterUnix, lookup_erase_ne _ _ _ hr.ne, lookup_erase_self]

theorem unixOld_challenge_eq :
    runHooks w oldUnixGroupHooks "challenge-tls-alpn-01" c.vars env =
      runHooks w unixGroup "challenge-tls-alpn-01" c.vars env := by
  simp only [runHooks, group_tables]

theorem unixOld_cycle_spec
    (hr : UnixReady w (pidDocPath env c) (unixDocSock env c)) :
    unixCycle oldUnixGroupHooks env (.unix (unixDocSock env c)) w c =
      (true, true, true, afterUnixOld w (pidDocPath env c) (unixDocSock env c)) := by
  rw [unixCycle, cycle_of_eq ((unixOld_challenge_eq w env c).trans (unix_challenge_spec w env c hr))
    (kill_rm_after_start oldUnixGroupHooks (by simp only [group_tables]) w env c _ rfl
      hr.pidNotBlocked hr.pidNotDir hr.pids (unixDocSock env c :: w.socks))]
  simp [tlsAlpnValidates, afterUnixOld, started]

theorem sock_left_old (w : World) (P S : String) (hne : P ≠ S) : S ∈ (afterUnixOld w P S).socks := by
  have h : ¬ S = P := fun e => hne e.symm
  simp [afterUnixOld, h]

/-- Second run of the old group: the start hook "succeeds", no responder is added. -/
theorem unixOld_second_challenge
    (hs : unixDocSock env c ∈ w.socks) :
    (runHooks w oldUnixGroupHooks "challenge-tls-alpn-01" c.vars env).2 = true ∧
    (runHooks w oldUnixGroupHooks "challenge-tls-alpn-01" c.vars env).1.responders = w.responders := by
  simp only [runHooks, group_tables, runList, run_rows, if_true]
  exact ⟨trivial, tacdStart_unix_exists w _ _ _ _ hs⟩

theorem tacdStart_invalid (w : World) (P d e A : String) (h : parseListen A = none) :
    (tacdStart w P d e A).responders = w.responders := by
  unfold tacdStart
  split
  · rfl
  · simp only [h, cleanPid]

theorem tlsAlpnValidates_false (w : World) (l : Listen) (c : Challenge)
    (h : ∀ r ∈ w.responders, r.listen = l → r.ext ≠ c.proof) : tlsAlpnValidates w l c = false := by
  unfold tlsAlpnValidates
  rw [Bool.eq_false_iff]
  intro ht
  rw [List.any_eq_true] at ht
  obtain ⟨r, hr, hc⟩ := ht
  simp only [Bool.and_eq_true, beq_iff_eq] at hc
  exact h r hr hc.1.1 hc.2

theorem tacdStart_locked (w : World) (P d e A : String) (h : pidLocked w P = true) :
    tacdStart w P d e A = w := by
  simp [tacdStart, h]

end

/-- The repository state `git init` leaves for `d`: the existing one, or a fresh empty one. -/
def repoOf (w : World) (d : String) : GitRepo :=
  match lookup d w.git with
  | some r => r
  | none => ⟨[], [], []⟩

theorem gitHead_repoOf (w : World) (d n : String) : gitHead w d n = lookup n (repoOf w d).head := by
  unfold gitHead repoOf
  cases lookup d w.git <;> rfl

theorem gitCommits_repoOf (w : World) (d : String) : gitCommits w d = (repoOf w d).commits := by
  unfold gitCommits repoOf
  cases lookup d w.git <;> rfl

theorem exec_gitInit_spec (w : World) (d : String) (hb : isBlocked w d = false) :
    (exec w (.gitInit d)).2.2 = true ∧ d ∈ (exec w (.gitInit d)).1.dirs ∧
    (exec w (.gitInit d)).1.files = w.files ∧ (exec w (.gitInit d)).1.blocked = w.blocked ∧
    lookup d (exec w (.gitInit d)).1.git = some (repoOf w d) := by
  unfold repoOf
  by_cases hd : d ∈ w.dirs <;> cases hg : lookup d w.git <;>
    simp [exec, hb, hd, hg, lookup_insert_self]

def httpIssuances (env : String → Option String) (w : World) (cs : List Challenge) :
    List Bool × World :=
  issuances httpGroup "challenge-http-01" "challenge-http-01-clean"
    (fun w c => http01Validates w env c) env w cs

def tcpIssuances (env : String → Option String) (l : Listen) (w : World) (cs : List Challenge) :
    List Bool × World :=
  issuances tcpGroup "challenge-tls-alpn-01" "challenge-tls-alpn-01-clean"
    (fun w c => tlsAlpnValidates w l c) env w cs

/-- Generic in `hooks`, like `unixCycle`. -/
def unixIssuances (hooks : List GHook) (env : String → Option String) (l : Listen) (w : World)
    (cs : List Challenge) : List Bool × World :=
  issuances hooks "challenge-tls-alpn-01" "challenge-tls-alpn-01-clean"
    (fun w c => tlsAlpnValidates w l c) env w cs

/-- What the judge is shown if the machine behaves like the model (http-01-echo). -/
def modelObsHttp (env : String → Option String) (w : World) (c : Challenge) : Spec.C20.IssuanceObs :=
  let r1 := runHooks w httpGroup "challenge-http-01" c.vars env
  let f := getFile r1.1 (httpDocPath env c)
  { challenge :=
      { expected := c.proof, proofFileExists := f.isSome,
        proofFileContent := (f.map fun e => e.content).getD "",
        proofFileWorldReadable := (f.map fun e => e.worldReadable).getD false,
        responderReachable := false, validated := http01Validates r1.1 env c },
    leftovers :=
      if (getFile (httpCycle env w c).2.2.2 (httpDocPath env c)).isSome then ["proof file"] else [] }

/-- … and for a tacd group whose CA-side address is `l` and whose socket path (if any) is `sock`. -/
def modelObsTacd (hooks : List GHook) (env : String → Option String) (l : Listen)
    (sock : Option String) (w : World) (c : Challenge) : Spec.C20.IssuanceObs :=
  let r1 := runHooks w hooks "challenge-tls-alpn-01" c.vars env
  let fin := (unixCycle hooks env l w c).2.2.2
  { challenge :=
      { expected := c.proof, proofFileExists := false, proofFileContent := "",
        proofFileWorldReadable := false,
        responderReachable := tlsAlpnValidates r1.1 l c, validated := tlsAlpnValidates r1.1 l c },
    leftovers :=
      (if (getPid fin (pidDocPath env c)).isSome then ["pid file"] else []) ++
      (match sock with
       | some s => if existsPath fin s then ["socket"] else []
       | none => []) ++
      (if fin.responders.any (fun r => r.listen == l) then ["responder"] else []) }

end AcmedVerif.HooksWorld
