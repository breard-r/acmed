/-
Helper lemmas for `Model/Bincode.lean` (C11 persistence clauses, DESIGN Appendix E3).

Two predicates per (decoder, encoded bytes, value): `Exact` (the decoder reads exactly the image
and returns the value and whatever followed) and `PrefixFail` (every strict prefix of the image
fails to decode), closed under sequencing (`Good.bind`), hence under lists, options and records.

Then: map normalisation, sizes, and what ties `load` to the judge `Spec/C11Store.lean`.
-/
import AcmedVerif.Model.Bincode
import AcmedVerif.Spec.C11Store

namespace AcmedVerif.Bincode

def Exact (d : Dec α) (e : Bytes) (v : α) : Prop := ∀ rest, d (e ++ rest) = some (v, rest)

def PrefixFail (d : Dec α) (e : Bytes) : Prop := ∀ p, p <+: e → p ≠ e → d p = none

structure Good (d : Dec α) (e : Bytes) (v : α) : Prop where
  exact : Exact d e v
  pfail : PrefixFail d e

theorem Good.pure (v : α) : Good (Dec.pure v) [] v :=
  ⟨fun _ => rfl, fun _ hp hne => absurd (List.prefix_nil.mp hp) hne⟩

/-- The key sequencing lemma: a strict prefix of `e1 ++ e2` is a strict prefix of `e1`, or `e1`
followed by a strict prefix of `e2`. -/
theorem Good.bind {d : Dec α} {f : α → Dec β} {e1 e2 : Bytes} {a : α} {b : β}
    (h1 : Good d e1 a) (h2 : Good (f a) e2 b) : Good (d.bind f) (e1 ++ e2) b := by
  constructor
  · intro rest
    have := h1.exact (e2 ++ rest)
    simp only [Dec.bind, List.append_assoc, this]
    exact h2.exact rest
  · intro p hp hne
    by_cases hq : e1 <+: p
    · obtain ⟨q, rfl⟩ := hq
      have hq2 : q <+: e2 := (List.prefix_append_right_inj e1).mp hp
      have hne2 : q ≠ e2 := fun h => hne (by rw [h])
      have := h1.exact q
      simp only [Dec.bind, this]
      exact h2.pfail q hq2 hne2
    · have hp1 : p <+: e1 :=
        (List.prefix_or_prefix_of_prefix hp (List.prefix_append e1 e2)).resolve_right hq
      have hne1 : p ≠ e1 := fun h => hq (h ▸ List.prefix_refl _)
      simp only [Dec.bind, h1.pfail p hp1 hne1]

theorem Good.map {d : Dec α} {e : Bytes} {a : α} (g : α → β) (h : Good d e a) :
    Good (d.map g) e (g a) := by
  have := h.bind (f := fun a => Dec.pure (g a)) (Good.pure (g a))
  simpa [Dec.map] using this

theorem Good.bind_nil {d : Dec α} {f : α → Dec β} {e : Bytes} {a : α} {b : β}
    (h1 : Good d e a) (h2 : Good (f a) [] b) : Good (d.bind f) e b := by
  simpa using h1.bind h2

/-! ## Fixed-width integers -/

theorem encLE_length (k n : Nat) : (encLE k n).length = k := by
  induction k generalizing n with
  | zero => rfl
  | succ k ih => simp [encLE, ih]

theorem decLE_short (k : Nat) (p : Bytes) (h : p.length < k) : decLE k p = none := by
  induction k generalizing p with
  | zero => omega
  | succ k ih =>
    cases p with
    | nil => rfl
    | cons b r =>
      have : r.length < k := by simp at h; omega
      simp [decLE, Dec.map, Dec.bind, ih r this]

theorem decLE_exact (k n : Nat) (h : n < 256 ^ k) (rest : Bytes) :
    decLE k (encLE k n ++ rest) = some (n, rest) := by
  induction k generalizing n with
  | zero =>
    have : n = 0 := by simpa using h
    subst this; rfl
  | succ k ih =>
    have h' : n / 256 < 256 ^ k := by
      apply Nat.div_lt_of_lt_mul
      rw [Nat.pow_succ, Nat.mul_comm] at h; exact h
    simp [encLE, decLE, Dec.map, Dec.bind, Dec.pure, ih (n / 256) h', UInt8.toNat_ofNat']
    omega

theorem prefix_length_lt {p e : Bytes} (hp : p <+: e) (hne : p ≠ e) : p.length < e.length :=
  Nat.lt_of_le_of_ne hp.length_le fun he => hne (hp.eq_of_length he)

theorem good_LE (k n : Nat) (h : n < 256 ^ k) : Good (decLE k) (encLE k n) n :=
  ⟨decLE_exact k n h, fun p hp hne =>
    decLE_short k p (encLE_length k n ▸ prefix_length_lt hp hne)⟩

/-! ## Bytes, strings, dates -/

theorem good_takeN (b : Bytes) : Good (takeN b.length) b b := by
  constructor
  · intro rest; simp [takeN]
  · intro p hp hne
    simp [takeN, Nat.not_le.mpr (prefix_length_lt hp hne)]

theorem good_bytes (b : Bytes) (h : wfBytes b = true) : Good decBytes (encBytes b) b :=
  (good_LE 8 _ (of_decide_eq_true h)).bind (good_takeN b)

theorem good_str (u : Bytes → Bool) (s : Bytes) (h : wfStr u s = true) :
    Good (decStr u) (encStr s) s := by
  simp only [wfStr, Bool.and_eq_true] at h
  refine (good_bytes s h.1).bind_nil ?_
  simp only [h.2, if_true]
  exact Good.pure s

theorem good_time (t : Time) (h : wfTime t = true) : Good decTime (encTime t) t := by
  simp only [wfTime, Bool.and_eq_true, decide_eq_true_eq] at h
  have hm : mkTime t.secs t.nanos = some t := by
    simp only [mkTime, Nat.div_eq_of_lt h.2, Nat.mod_eq_of_lt h.2, Nat.add_zero, h.1, if_true]
  refine (good_LE 8 t.secs (by omega)).bind ((good_LE 4 t.nanos (by omega)).bind_nil ?_)
  rw [hm]
  exact Good.pure t

/-! ## Counted lists, options, pairs -/

theorem good_decN {enc : α → Bytes} {d : Dec α} (l : List α)
    (h : ∀ a ∈ l, Good d (enc a) a) : Good (decN d l.length) (encMany enc l) l := by
  induction l with
  | nil => exact Good.pure []
  | cons a as ih =>
    exact (h a List.mem_cons_self).bind ((ih fun x hx => h x (List.mem_cons_of_mem _ hx)).map _)

theorem good_list {enc : α → Bytes} {d : Dec α} (l : List α) (hc : wfCount l = true)
    (h : ∀ a ∈ l, Good d (enc a) a) : Good (decList d) (encList enc l) l :=
  (good_LE 8 _ (of_decide_eq_true hc)).bind (good_decN l h)

theorem good_option_none {enc : α → Bytes} {d : Dec α} :
    Good (decOption d) (encOption enc none) none := by
  refine (good_LE 1 0 (by decide)).bind_nil ?_
  simp only [if_true]
  exact Good.pure none

theorem good_option_some {enc : α → Bytes} {d : Dec α} {a : α} (h : Good d (enc a) a) :
    Good (decOption d) (encOption enc (some a)) (some a) := by
  refine (good_LE 1 1 (by decide)).bind ?_
  simp only [Nat.one_ne_zero, if_false, if_true]
  exact h.map some

theorem good_pair {e1 : α → Bytes} {e2 : β → Bytes} {d1 : Dec α} {d2 : Dec β} {a : α} {b : β}
    (h1 : Good d1 (e1 a) a) (h2 : Good d2 (e2 b) b) :
    Good (decPair d1 d2) (encPair e1 e2 (a, b)) (a, b) :=
  h1.bind (h2.map fun b => (a, b))

theorem good_key (u : Bytes → Bool) (k : KeyRec) (h : wfKey u k = true) :
    Good (decKey u) (encKey k) k := by
  simp only [wfKey, Bool.and_eq_true] at h
  exact (good_time _ h.1.1).bind ((good_bytes _ h.1.2).bind ((good_str u _ h.2).map _))

theorem good_endpoint (u : Bytes → Bool) (e : EndpointRec) (h : wfEndpoint u e = true) :
    Good (decEndpoint u) (encEndpoint e) e := by
  simp only [wfEndpoint, Bool.and_eq_true] at h
  exact (good_time _ h.1.1.1.1.1).bind ((good_str u _ h.1.1.1.1.2).bind
    ((good_str u _ h.1.1.1.2).bind ((good_bytes _ h.1.1.2).bind ((good_bytes _ h.1.2).bind
      ((good_bytes _ h.2).map _)))))

theorem good_eab (u : Bytes → Bool) (e : EabRec) (h : wfEab u e = true) :
    Good (decEab u) (encEab e) e := by
  simp only [wfEab, Bool.and_eq_true] at h
  exact (good_str u _ h.1.1).bind ((good_bytes _ h.1.2).bind ((good_str u _ h.2).map _))

theorem good_eab_option (u : Bytes → Bool) (o : Option EabRec)
    (h : (match o with | none => true | some e => wfEab u e) = true) :
    Good (decOption (decEab u)) (encOption encEab o) o := by
  cases o with
  | none => exact good_option_none
  | some e => exact good_option_some (good_eab u e h)

/-- The whole record.  The endpoints come back as the map built by inserting them in file order. -/
theorem good_account (u : Bytes → Bool) (a : Account) (h : wfAccount u a = true) :
    Good (decodeAccount u) (encodeAccount a) { a with endpoints := normMap a.endpoints } := by
  simp only [wfAccount, Bool.and_eq_true, List.all_eq_true] at h
  obtain ⟨⟨⟨⟨⟨⟨⟨⟨hname, hce⟩, hes⟩, hcc⟩, hcs⟩, hck⟩, hcp⟩, hps⟩, heab⟩ := h
  exact (good_str u _ hname).bind
    (((good_list _ hce fun kv hkv =>
        good_pair (good_str u kv.1 (hes kv hkv).1) (good_endpoint u kv.2 (hes kv hkv).2)).map normMap).bind
    ((good_list _ hcc fun c hc => good_pair (good_str u c.1 (hcs c hc).1) (good_str u c.2 (hcs c hc).2)).bind
    ((good_key u _ hck).bind ((good_list _ hcp fun k hk => good_key u k (hps k hk)).bind
      ((good_eab_option u a.eab heab).map _)))))

/-! ## Map normalisation -/

theorem mapInsert_of_not_mem (k : Bytes) (v : β) (m : List (Bytes × β))
    (h : ∀ kv ∈ m, kv.1 ≠ k) : mapInsert k v m = m ++ [(k, v)] := by
  induction m with
  | nil => rfl
  | cons x m ih =>
    simp [mapInsert, h x List.mem_cons_self, ih fun kv hkv => h kv (List.mem_cons_of_mem _ hkv)]

theorem foldl_insert_of_pairwise (l acc : List (Bytes × β))
    (h : List.Pairwise (fun x y : Bytes × β => x.1 ≠ y.1) (acc ++ l)) :
    l.foldl (fun m kv => mapInsert kv.1 kv.2 m) acc = acc ++ l := by
  induction l generalizing acc with
  | nil => simp
  | cons kv l ih =>
    have hins := mapInsert_of_not_mem kv.1 kv.2 acc fun x hx =>
      (List.pairwise_append.mp h).2.2 x hx kv List.mem_cons_self
    rw [List.foldl_cons, hins, ih _ (by simpa using h)]; simp

theorem distinctKeys_pairwise (l : List (Bytes × β)) (h : distinctKeys l = true) :
    List.Pairwise (fun x y : Bytes × β => x.1 ≠ y.1) l := by
  induction l with
  | nil => exact List.Pairwise.nil
  | cons x l ih =>
    obtain ⟨k, v⟩ := x
    simp only [distinctKeys, Bool.and_eq_true, Bool.not_eq_true', List.any_eq_false] at h
    exact List.Pairwise.cons (fun y hy heq => by simpa [← heq] using h.1 y hy) (ih h.2)

theorem normMap_of_distinct (l : List (Bytes × β)) (h : distinctKeys l = true) :
    normMap l = l := by
  have := foldl_insert_of_pairwise l [] (by simpa using distinctKeys_pairwise l h)
  simpa [normMap] using this

/-! ## Sizes -/

def sizeStr (s : Bytes) : Nat := 8 + s.length
def sizeKey (k : KeyRec) : Nat := 12 + (sizeStr k.key + sizeStr k.alg)
def sizeEndpoint (e : EndpointRec) : Nat :=
  12 + (sizeStr e.accountUrl + (sizeStr e.ordersUrl + (sizeStr e.keyHash +
    (sizeStr e.contactsHash + sizeStr e.eabHash))))
def sizeEab (e : EabRec) : Nat := sizeStr e.identifier + (sizeStr e.key + sizeStr e.alg)
def sizeMany (sz : α → Nat) : List α → Nat
  | [] => 0
  | a :: as => sz a + sizeMany sz as
/-- Number of bytes of the account file. -/
def sizeAccount (a : Account) : Nat :=
  sizeStr a.name + (8 + sizeMany (fun kv => sizeStr kv.1 + sizeEndpoint kv.2) a.endpoints +
    (8 + sizeMany (fun c => sizeStr c.1 + sizeStr c.2) a.contacts + (sizeKey a.currentKey +
      (8 + sizeMany sizeKey a.pastKeys + (match a.eab with | none => 1 | some e => 1 + sizeEab e)))))

theorem encBytes_length (b : Bytes) : (encBytes b).length = sizeStr b := by
  simp [encBytes, encU64, encLE_length, sizeStr]

theorem encStr_length (b : Bytes) : (encStr b).length = sizeStr b := encBytes_length b

theorem encTime_length (t : Time) : (encTime t).length = 12 := by
  simp [encTime, encU64, encU32, encLE_length]

theorem encKey_length (k : KeyRec) : (encKey k).length = sizeKey k := by
  simp [encKey, sizeKey, encTime_length, encBytes_length, encStr_length]

theorem encEndpoint_length (e : EndpointRec) : (encEndpoint e).length = sizeEndpoint e := by
  simp [encEndpoint, sizeEndpoint, encTime_length, encBytes_length, encStr_length]

theorem encEab_length (e : EabRec) : (encEab e).length = sizeEab e := by
  simp [encEab, sizeEab, encBytes_length, encStr_length]

theorem encMany_length {enc : α → Bytes} {sz : α → Nat} (h : ∀ a, (enc a).length = sz a)
    (l : List α) : (encMany enc l).length = sizeMany sz l := by
  induction l with
  | nil => rfl
  | cons a as ih => simp [encMany, sizeMany, h a, ih]

theorem encList_length {enc : α → Bytes} {sz : α → Nat} (h : ∀ a, (enc a).length = sz a)
    (l : List α) : (encList enc l).length = 8 + sizeMany sz l := by
  simp [encList, encU64, encLE_length, encMany_length h l]

theorem encodeAccount_length (a : Account) : (encodeAccount a).length = sizeAccount a := by
  have h1 : ∀ kv : Bytes × EndpointRec,
      (encPair encStr encEndpoint kv).length = sizeStr kv.1 + sizeEndpoint kv.2 := by
    intro kv; simp [encPair, encStr_length, encEndpoint_length]
  have h2 : ∀ c : Bytes × Bytes, (encPair encStr encStr c).length = sizeStr c.1 + sizeStr c.2 := by
    intro c; simp [encPair, encStr_length]
  have h3 : (encOption encEab a.eab).length =
      (match a.eab with | none => 1 | some e => 1 + sizeEab e) := by
    cases a.eab <;> simp [encOption, encU8, encLE_length, encEab_length]
  simp only [encodeAccount, sizeAccount, List.length_append, encStr_length, encList_length h1,
    encList_length h2, encList_length encKey_length, encKey_length, h3]

/-! ## What the harness observes of a `load` -/

def outcomeOf : LoadResult → Spec.C11Store.Outcome
  | .refuse => .refused
  | .loaded _ => .started

def dumpOf : LoadResult → Option Account
  | .refuse => none
  | .loaded a => some a

/-! ## The judge's comparison is reflexive on maps with distinct keys -/

open AcmedVerif.Spec.C11Store in
theorem lookup_of_mem {β : Type} (m : List (Bytes × β)) (hd : distinctKeys m = true)
    (kv : Bytes × β) (h : kv ∈ m) : lookup kv.1 m = some kv.2 := by
  induction m with
  | nil => cases h
  | cons x m ih =>
    obtain ⟨k, v⟩ := x
    simp only [distinctKeys, Bool.and_eq_true, Bool.not_eq_true', List.any_eq_false] at hd
    rcases List.mem_cons.mp h with rfl | hm
    · simp [lookup]
    · have hne : ¬ k = kv.1 := fun heq => by simpa [heq] using hd.1 kv hm
      simp [lookup, hne, ih hd.2 hm]

open AcmedVerif.Spec.C11Store in
theorem sameMap_refl {β : Type} [DecidableEq β] (m : List (Bytes × β))
    (hd : distinctKeys m = true) : sameMap m m = true := by
  have : m.all (fun kv => lookup kv.1 m == some kv.2) = true :=
    List.all_eq_true.mpr fun kv hkv => by simp [lookup_of_mem m hd kv hkv]
  simp [sameMap, hd, this]

open AcmedVerif.Spec.C11Store in
theorem sameAccount_refl (a : Account) (hd : distinctKeys a.endpoints = true) :
    sameAccount a a = true := by
  simp [sameAccount, sameMap_refl a.endpoints hd]

open AcmedVerif.Spec.C11Store in
theorem isStrictPrefix_iff (p l : Bytes) : isStrictPrefix p l = true ↔ p <+: l ∧ p ≠ l := by
  simp only [isStrictPrefix, Bool.and_eq_true, decide_eq_true_eq, beq_iff_eq]
  constructor
  · rintro ⟨hlt, htake⟩
    refine ⟨List.prefix_iff_eq_take.mpr htake.symm, ?_⟩
    intro h; subst h; omega
  · rintro ⟨hp, hne⟩
    exact ⟨prefix_length_lt hp hne, (List.prefix_iff_eq_take.mp hp).symm⟩

end AcmedVerif.Bincode
