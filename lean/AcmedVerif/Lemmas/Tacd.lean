/-
Helper lemmas about `Model/Tacd.lean`: the length-prefixed list walk of `SSL_select_next_proto`,
`str::trim`, the `name=value` split, the survival state machine.
-/
import AcmedVerif.Model.Tacd
import AcmedVerif.Lemmas.Idna

namespace AcmedVerif.Tacd
open AcmedVerif.Idna

theorem getLP1_some (bs p rest : List UInt8) (h : getLP1 bs = some (p, rest)) :
    ∃ n tl, bs = n :: tl ∧ n.toNat ≤ tl.length ∧ p = tl.take n.toNat ∧ rest = tl.drop n.toNat ∧
      rest.length < bs.length := by
  cases bs with
  | nil => simp [getLP1] at h
  | cons n tl =>
    simp only [getLP1] at h
    split at h
    · rename_i hle
      simp only [Option.some.injEq, Prod.mk.injEq] at h
      refine ⟨n, tl, rfl, hle, h.1.symm, h.2.symm, ?_⟩
      rw [← h.2]
      simp only [List.length_drop, List.length_cons]
      omega
    · exact absurd h (by simp)

/-- The fuel of the list walk does not matter once it covers the length. -/
theorem parsePrefixF_fuel (f : Nat) : ∀ (g : Nat) (bs : List UInt8), bs.length ≤ f → bs.length ≤ g →
    parsePrefixF f bs = parsePrefixF g bs := by
  induction f with
  | zero =>
    intro g bs hf _
    have : bs = [] := List.eq_nil_of_length_eq_zero (by omega)
    subst this
    cases g <;> simp [parsePrefixF, getLP1]
  | succ f ih =>
    intro g bs hf hg
    cases g with
    | zero =>
      have : bs = [] := List.eq_nil_of_length_eq_zero (by omega)
      subst this
      simp [parsePrefixF, getLP1]
    | succ g =>
      simp only [parsePrefixF]
      cases h : getLP1 bs with
      | none => rfl
      | some pr =>
        obtain ⟨p, rest⟩ := pr
        obtain ⟨n, tl, rfl, _, _, _, hlt⟩ := getLP1_some bs p rest h
        simp only [List.length_cons] at hf hg hlt
        simp only
        rw [ih g rest (by omega) (by omega)]

theorem parsePrefix_unfold (bs : List UInt8) :
    parsePrefix bs = match getLP1 bs with
      | none => []
      | some (p, rest) => p :: parsePrefix rest := by
  unfold parsePrefix
  cases bs with
  | nil => simp [parsePrefixF, getLP1]
  | cons n tl =>
    simp only [List.length_cons, parsePrefixF]
    cases h : getLP1 (n :: tl) with
    | none => rfl
    | some pr =>
      obtain ⟨p, rest⟩ := pr
      obtain ⟨n', tl', he, _, _, _, hlt⟩ := getLP1_some _ p rest h
      simp only [List.length_cons] at hlt
      simp only
      rw [parsePrefixF_fuel tl.length rest.length rest (by omega) (Nat.le_refl _)]

theorem clientLoop_iff (f : Nat) : ∀ (cpkt s : List UInt8),
    clientLoop f cpkt s = true ↔ s ∈ parsePrefixF f cpkt := by
  induction f with
  | zero => intro cpkt s; simp [clientLoop, parsePrefixF]
  | succ f ih =>
    intro cpkt s
    simp only [clientLoop, parsePrefixF]
    cases h : getLP1 cpkt with
    | none => simp
    | some pr =>
      obtain ⟨c, rest⟩ := pr
      simp only
      by_cases hc : c = s
      · simp [hc]
      · simp only [hc, if_false, ih, List.mem_cons]
        constructor
        · exact Or.inr
        · rintro (e | h')
          · exact absurd e.symm hc
          · exact h'

theorem serverLoop_step (f : Nat) (spkt client s rest : List UInt8)
    (h : getLP1 spkt = some (s, rest)) (hs : ¬ s.length = 0) :
    serverLoop (f + 1) spkt client =
      if clientLoop client.length client s then some s else serverLoop f rest client := by
  rw [serverLoop, h]
  simp only [hs, if_false]

theorem serverLoop_nil (f : Nat) (client : List UInt8) : serverLoop f [] client = none := by
  cases f <;> simp [serverLoop, getLP1]

/-- tacd's callback, with the constant server list unfolded. -/
theorem alpnSelect_eq (client : List UInt8) :
    alpnSelect client =
      match getLP1 client with
      | none => none
      | some (first, _) =>
        if first.length = 0 then none
        else if clientLoop client.length client acmeProto then some acmeProto else none := by
  unfold alpnSelect selectNextProto
  cases getLP1 client with
  | none => rfl
  | some pr =>
    obtain ⟨first, rest⟩ := pr
    simp only
    split
    · rfl
    · have h1 : getLP1 serverList = some (acmeProto, []) := by decide
      have h2 : serverList.length = 11 := by decide
      have h3 : ¬ acmeProto.length = 0 := by decide
      rw [h2, serverLoop_step 10 serverList client acmeProto [] h1 h3, serverLoop_nil]

/-- The first element of the well-formed prefix of `bs`, if any. -/
def firstProto (bs : List UInt8) : Option (List UInt8) := (parsePrefix bs).head?

theorem firstProto_eq (bs : List UInt8) : firstProto bs = (getLP1 bs).map Prod.fst := by
  unfold firstProto
  rw [parsePrefix_unfold]
  cases getLP1 bs with
  | none => rfl
  | some pr => rfl

/-- A list of names that fit the wire format. -/
def NamesOk (names : List (List UInt8)) : Prop := ∀ p ∈ names, 1 ≤ p.length ∧ p.length ≤ 255

theorem getLP1_encode (p : List UInt8) (hp : p.length ≤ 255) (rest : List UInt8) :
    getLP1 (UInt8.ofNat p.length :: (p ++ rest)) = some (p, rest) := by
  have hn : (UInt8.ofNat p.length).toNat = p.length := by
    rw [UInt8.toNat_ofNat']; omega
  simp only [getLP1, hn, List.length_append]
  rw [if_pos (Nat.le_add_right _ _), List.take_left, List.drop_left]

theorem parsePrefix_encode (names : List (List UInt8)) (h : NamesOk names) :
    parsePrefix (encodeProtos names) = names := by
  induction names with
  | nil => rfl
  | cons p ps ih =>
    rw [parsePrefix_unfold]
    simp only [encodeProtos]
    rw [getLP1_encode p (h p List.mem_cons_self).2]
    simp only
    rw [ih (fun q hq => h q (List.mem_cons_of_mem _ hq))]

theorem wireValidF_encode (names : List (List UInt8)) (h : NamesOk names) (hne : names ≠ []) :
    ∀ f, (encodeProtos names).length ≤ f → wireValidF f (encodeProtos names) = true := by
  induction names with
  | nil => exact absurd rfl hne
  | cons p ps ih =>
    intro f hf
    have hp := h p List.mem_cons_self
    cases f with
    | zero => simp [encodeProtos] at hf
    | succ f =>
      simp only [wireValidF, encodeProtos]
      rw [getLP1_encode p hp.2]
      simp only
      rw [if_neg (by omega)]
      cases ps with
      | nil => simp [encodeProtos]
      | cons q qs =>
        have hq : (encodeProtos (q :: qs)).length ≠ 0 := by simp [encodeProtos]
        rw [if_neg hq]
        apply ih (fun r hr => h r (List.mem_cons_of_mem _ hr)) (by simp)
        simp only [encodeProtos, List.length_cons, List.length_append] at hf ⊢
        omega

theorem wireValid_encode (names : List (List UInt8)) (h : NamesOk names) (hne : names ≠ []) :
    wireValid (encodeProtos names) = true := by
  unfold wireValid
  rw [wireValidF_encode names h hne _ (Nat.le_refl _)]
  cases names with
  | nil => exact absurd rfl hne
  | cons p ps =>
    have hp := h p List.mem_cons_self
    simp only [encodeProtos, List.length_cons, List.length_append, Bool.and_true, decide_eq_true_eq]
    omega

def AllWs (s : List Char) : Prop := ∀ c ∈ s, isWhitespace c = true

/-- Already trimmed: neither the first nor the last character is white space. -/
def Trimmed (v : List Char) : Prop :=
  (∀ c, v.head? = some c → isWhitespace c = false) ∧
  (∀ c, v.getLast? = some c → isWhitespace c = false)

theorem dropWhile_allWs (pre w : List Char) (h : AllWs pre) :
    (pre ++ w).dropWhile isWhitespace = w.dropWhile isWhitespace := by
  induction pre with
  | nil => rfl
  | cons c cs ih =>
    simp only [List.cons_append, List.dropWhile_cons, h c List.mem_cons_self, if_true]
    exact ih (fun x hx => h x (List.mem_cons_of_mem _ hx))

theorem dropWhile_head (v : List Char) (h : ∀ c, v.head? = some c → isWhitespace c = false) :
    v.dropWhile isWhitespace = v := by
  cases v with
  | nil => rfl
  | cons c cs => simp [h c rfl]

theorem trimStart_eq (pre v : List Char) (hp : AllWs pre)
    (hv : ∀ c, v.head? = some c → isWhitespace c = false) : trimStart (pre ++ v) = v := by
  unfold trimStart
  rw [dropWhile_allWs pre v hp, dropWhile_head v hv]

theorem trimEnd_eq (v post : List Char) (hp : AllWs post)
    (hv : ∀ c, v.getLast? = some c → isWhitespace c = false) : trimEnd (v ++ post) = v := by
  unfold trimEnd
  rw [List.reverse_append, dropWhile_allWs post.reverse v.reverse
    (fun c hc => hp c (List.mem_reverse.1 hc)),
    dropWhile_head v.reverse (by simpa [List.head?_reverse] using hv), List.reverse_reverse]

theorem trim_eq (pre v post : List Char) (hpre : AllWs pre) (hpost : AllWs post) (hv : Trimmed v) :
    trim (pre ++ v ++ post) = v := by
  unfold trim
  cases v with
  | nil =>
    -- everything is white space
    simp only [List.append_nil]
    have hall : AllWs (pre ++ post) := fun c hc => by
      rcases List.mem_append.1 hc with h | h
      · exact hpre c h
      · exact hpost c h
    have h1 : trimStart (pre ++ post) = [] := by
      have := dropWhile_allWs (pre ++ post) [] hall
      simpa [trimStart] using this
    rw [h1]; rfl
  | cons a as =>
    rw [List.append_assoc, trimStart_eq pre _ hpre (by
      intro c hc
      exact hv.1 c (by simpa using hc))]
    exact trimEnd_eq _ post hpost hv.2

theorem firstLine_append (a b : List Char) (h : '\n' ∉ a) :
    firstLine (a ++ b) = a ++ firstLine b := by
  induction a with
  | nil => rfl
  | cons c cs ih =>
    have hc : c ≠ '\n' := fun e => h (e ▸ List.mem_cons_self)
    simp only [List.cons_append, firstLine, hc, if_false]
    rw [ih (fun m => h (List.mem_cons_of_mem _ m))]

theorem firstLine_of_no_nl (a : List Char) (h : '\n' ∉ a) : firstLine a = a := by
  have := firstLine_append a [] h
  simpa [firstLine] using this

theorem splitExt_ok_iff (s name value : List Char) :
    splitExt s = .ok name value ↔ s = name ++ '=' :: value ∧ '=' ∉ name ∧ '=' ∉ value := by
  constructor
  · intro h
    unfold splitExt at h
    split at h
    · exact absurd h (by simp)
    · split at h
      · rename_i v n hr
        simp only [ExtSplit.ok.injEq] at h
        obtain ⟨rfl, rfl⟩ := h
        have hs : splitOn '=' s = [n, v] := by
          have := congrArg List.reverse hr
          simpa using this
        have hj := join_split '=' s
        rw [hs] at hj
        have hn := splitOn_no_sep '=' s
        rw [hs] at hn
        exact ⟨hj.symm, hn n (by simp), hn v (by simp)⟩
      · exact absurd h (by simp)
  · rintro ⟨rfl, hn, hv⟩
    unfold splitExt
    have hs : splitOn '=' (name ++ '=' :: value) = [name, value] := by
      rw [splitOn_append_sep '=' name value hn, splitOn_of_no_sep '=' value hv]
    rw [if_neg (by simp), hs]
    rfl

theorem splitExt_ok_iff_count (s : List Char) :
    (∃ name value, splitExt s = .ok name value) ↔ s.count '=' = 1 := by
  constructor
  · rintro ⟨name, value, h⟩
    obtain ⟨rfl, hn, hv⟩ := (splitExt_ok_iff _ _ _).1 h
    simp [List.count_append, List.count_eq_zero.2 hn, List.count_eq_zero.2 hv]
  · intro hc
    have hl := splitOn_length '=' s
    rw [hc] at hl
    match hs : splitOn '=' s, hl with
    | [n, v], _ =>
      refine ⟨n, v, ?_⟩
      unfold splitExt
      have hne : s.isEmpty = false := by
        cases s with
        | nil => simp at hc
        | cons _ _ => rfl
      rw [hne, hs]
      rfl

theorem run_dead (f : OnFailure) (s : PanicStrategy) (h : List Conn) :
    h.foldl (step f s) .dead = .dead := by
  induction h with
  | nil => rfl
  | cons c cs ih => simpa [List.foldl_cons, step] using ih

theorem run_alive (f : OnFailure) (s : PanicStrategy) (hfs : f = .ignored ∨ s = .unwind)
    (h : List Conn) : h.foldl (step f s) .alive = .alive := by
  induction h with
  | nil => rfl
  | cons c cs ih =>
    rw [List.foldl_cons]
    have : step f s .alive c = .alive := by
      cases c with
      | handshakeOk => rfl
      | handshakeFailed =>
        simp only [step]
        rcases hfs with h | h <;> subst h <;> simp
    rw [this]; exact ih

theorem acceptRun_spec (evs : List AcceptEv) (h : ∀ e ∈ evs, e ≠ .okSpawnFails) :
    ∀ st, st.running = true →
      (evs.foldl (acceptStep false) st).running = true ∧
      (evs.foldl (acceptStep false) st).spawned = st.spawned + evs.count .ok := by
  induction evs with
  | nil => intro st hst; simp [hst]
  | cons e es ih =>
    intro st hst
    rw [List.foldl_cons]
    have hes := fun x hx => h x (List.mem_cons_of_mem _ hx)
    cases e with
    | ok =>
      have := ih hes { st with spawned := st.spawned + 1 } hst
      simp only [acceptStep, hst, if_true, List.count_cons_self] at this ⊢
      exact ⟨this.1, by omega⟩
    | err =>
      have := ih hes st hst
      simp only [acceptStep, hst, if_true, Bool.false_eq_true, if_false] at this ⊢
      rw [List.count_cons_of_ne (by decide)]
      exact this
    | okSpawnFails => exact absurd rfl (h _ List.mem_cons_self)

theorem acceptRun_stopped (x : Bool) (evs : List AcceptEv) (st : LoopState)
    (h : st.running = false) : (evs.foldl (acceptStep x) st).running = false := by
  induction evs generalizing st with
  | nil => exact h
  | cons e es ih =>
    rw [List.foldl_cons]
    apply ih
    simp [acceptStep, h]

end AcmedVerif.Tacd
