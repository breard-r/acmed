/- Lemmas about Model/Glob.lean, pattern level: what `Pattern::new` makes of an escaped string, what such a
pattern matches, where `Char` tokens come from. -/
import AcmedVerif.Model.Glob

namespace AcmedVerif.Glob

/-- The characters `Pattern::escape` brackets. -/
def isMetaC (c : Char) : Bool := c == '?' || c == '*' || c == '[' || c == ']'

/-- The token `Pattern::new` makes of one escaped character. -/
def escTok (c : Char) : Token := if isMetaC c then .anyWithin [.singleChar c] else .char c

theorem escape_nil : escape [] = [] := rfl

theorem escape_cons (c : Char) (s : Str) :
    escape (c :: s) = (if isMetaC c then ['[', c, ']'] else [c]) ++ escape s := by
  simp [escape, isMetaC]

theorem escape_append (a b : Str) : escape (a ++ b) = escape a ++ escape b := by
  simp [escape]

theorem isMetaC_cases {c : Char} (h : isMetaC c = true) : c = '?' ∨ c = '*' ∨ c = '[' ∨ c = ']' := by
  simpa [isMetaC, or_assoc] using h

theorem not_isMetaC {c : Char} (h : isMetaC c = false) : c ≠ '?' ∧ c ≠ '*' ∧ c ≠ '[' ∧ c ≠ ']' := by
  simpa [isMetaC, and_assoc] using h

theorem tokLoop_escape (s : Str) : ∀ (fuel i : Nat) (prev : Option Char) (acc : List Token),
    (escape s).length < fuel →
    tokLoop fuel i prev (escape s) acc = .ok (acc.reverse ++ s.map escTok) := by
  induction s with
  | nil =>
    intro fuel i prev acc h
    cases fuel with
    | zero => exact absurd h (Nat.not_lt_zero _)
    | succ f => simp [escape, tokLoop]
  | cons c s ih =>
    intro fuel i prev acc h
    cases fuel with
    | zero => exact absurd h (Nat.not_lt_zero _)
    | succ f =>
      rw [escape_cons] at h ⊢
      cases hm : isMetaC c with
      | false =>
        obtain ⟨h1, h2, h3, _⟩ := not_isMetaC hm
        simp only [hm, Bool.false_eq_true, if_false, List.singleton_append, List.length_cons] at h ⊢
        have := ih f (i + 1) (some c) (.char c :: acc) (by omega)
        simp [tokLoop, h1, h2, h3, this, escTok, hm]
      | true =>
        simp only [hm, if_true, List.cons_append, List.nil_append, List.length_cons] at h ⊢
        -- `[c]`: no `!` after the bracket, the `]` is found at `j = 0` after `c`, the loop goes on at `i + j + 3`
        have hi := ih f (i + 0 + 3) (some ']') (.anyWithin [.singleChar c] :: acc) (by omega)
        have hc : c ≠ '!' := by
          rcases isMetaC_cases hm with rfl | rfl | rfl | rfl <;> decide
        simp [tokLoop, hc, position, parseCharSpecifiers, parseCSFuel, escTok, hm] at hi ⊢
        exact hi

theorem tokenize_escape (s : Str) : tokenize (escape s) = .ok (s.map escTok) := by
  simpa [tokenize] using tokLoop_escape s ((escape s).length + 1) 0 none [] (by omega)

theorem escTok_ne_rec (c : Char) : escTok c ≠ .anyRecursiveSequence := by
  unfold escTok; split <;> simp

theorem map_escTok_contains_rec (s : Str) : (s.map escTok).contains .anyRecursiveSequence = false := by
  simp
  intro x _
  exact escTok_ne_rec x

/-- The pattern `Pattern::new` compiles from an escaped string. -/
def escPattern (s : Str) : Pattern := ⟨s.map escTok, false⟩

theorem new_escape (s : Str) : Pattern.new (escape s) = .ok (escPattern s) := by
  simp only [Pattern.new, tokenize_escape, map_escTok_contains_rec, escPattern]

theorem matchesFrom_escTok (s : Str) : ∀ (fs : Bool) (t : Str),
    matchesFrom (s.map escTok) fs t = .isMatch ↔ t = s := by
  induction s with
  | nil => intro fs t; cases t <;> simp [matchesFrom]
  | cons c s ih =>
    intro fs t
    cases t with
    | nil =>
      cases hm : isMetaC c <;> simp [matchesFrom, escTok, hm]
    | cons d t =>
      cases hm : isMetaC c
      · simp only [List.map_cons, escTok, hm, Bool.false_eq_true, if_false, matchesFrom]
        by_cases hd : d = c
        · subst hd; simp [ih]
        · simp [hd]
      · simp only [List.map_cons, escTok, hm, if_true, matchesFrom, inCharSpecifiers, List.any_cons, List.any_nil,
          Bool.or_false]
        by_cases hd : d = c
        · subst hd; simp [ih]
        · simp [hd]

theorem escPattern_matches (s t : Str) : (escPattern s).matches t = true ↔ t = s := by
  simp [Pattern.matches, matchesToks, escPattern, matchesFrom_escTok]

theorem charsOf_escTok (s : Str) : ∀ r, charsOf (s.map escTok) = some r → r = s ∧ s.all (!isMetaC ·) = true := by
  induction s with
  | nil => intro r h; simp [charsOf] at h; simp [h]
  | cons c s ih =>
    intro r h
    cases hm : isMetaC c
    · simp only [List.map_cons, escTok, hm, Bool.false_eq_true, if_false, charsOf, Option.map_eq_some_iff] at h
      obtain ⟨r', hr', rfl⟩ := h
      obtain ⟨rfl, hall⟩ := ih r' hr'
      simp [hm, hall]
    · simp [escTok, hm, charsOf] at h

theorem patternAsStr_escPattern {c s : Str} (h : patternAsStr (escPattern c) = some s) : s = c :=
  (charsOf_escTok c s h).1

theorem mem_of_mem_dropWhile {α} {p : α → Bool} {l : List α} {a : α} (h : a ∈ l.dropWhile p) : a ∈ l :=
  (List.dropWhile_sublist p).mem h

/-- The characters of the `Char` tokens. -/
def literals : List Token → List Char
  | [] => []
  | .char c :: ts => c :: literals ts
  | _ :: ts => literals ts

theorem mem_literals {c : Char} : ∀ {ts : List Token}, c ∈ literals ts ↔ Token.char c ∈ ts
  | [] => by simp [literals]
  | t :: ts => by cases t <;> simp [literals, mem_literals (ts := ts)]

/-- An iteration pushes `Char` of the character it reads or a token that is no `Char`, and goes on with a part of
the text. -/
theorem tokLoop_chars (fuel i : Nat) (prev : Option Char) (chars : List Char) (acc ts : List Token) :
    tokLoop fuel i prev chars acc = .ok ts → ∀ c ∈ literals ts, c ∈ literals acc ∨ c ∈ chars := by
  have recAcc : ∀ (acc : List Token) (c : Char), c ∈ literals (if (decide (acc.length > 1) &&
      acc.head? == some .anyRecursiveSequence) = true then acc else .anyRecursiveSequence :: acc) → c ∈ literals acc := by
    intro acc c h
    split at h <;> exact h
  -- the branches of `tokLoop` in the order of Model/Glob.lean (a branch added there renumbers them): 1, 2 the end;
  -- 3 `?`; 4-9 a run of `*`; 10-14 `[`; 15 any other character
  fun_induction tokLoop fuel i prev chars acc
  case case1 | case2 =>
    rintro ⟨⟩ c hc
    exact .inl (mem_literals.2 (List.mem_reverse.1 (mem_literals.1 hc)))
  case case3 ih => exact fun h c hc => (ih h c hc).imp_right (List.mem_cons_of_mem _)
  case case4 hgt => intro h; rw [if_pos hgt] at h; cases h
  case case5 h2 h22 hsep hafter ih =>
    intro h c hc
    rw [if_neg h2, if_pos h22, if_pos hsep, show List.dropWhile _ _ = [] from hafter] at h
    exact (ih h c hc).imp (recAcc _ c) nofun
  case case6 hd _ _ _ h2 h22 hsep hafter ih =>
    intro h c hc
    have hafter' : List.dropWhile _ _ = _ := hafter
    rw [if_neg h2, if_pos h22, if_pos hsep, hafter'] at h
    simp only [hd, if_true] at h
    exact (ih h c hc).imp (recAcc _ c) fun hx => mem_of_mem_dropWhile (hafter' ▸ List.mem_cons_of_mem _ hx)
  case case7 hd _ _ _ h2 h22 hsep hafter =>
    intro h
    rw [if_neg h2, if_pos h22, if_pos hsep, show List.dropWhile _ _ = _ from hafter] at h
    simp only [hd] at h; cases h
  case case8 h2 h22 hsep => intro h; rw [if_neg h2, if_pos h22, if_neg hsep] at h; cases h
  case case9 h2 h22 ih =>
    intro h c hc
    rw [if_neg h2, if_neg h22] at h
    exact (ih h c hc).imp_right mem_of_mem_dropWhile
  case case10 | case12 | case14 => exact nofun
  case case11 ih | case13 ih =>
    exact fun h c hc => (ih h c hc).imp_right fun hx => List.mem_cons_of_mem _ (List.mem_of_mem_drop hx)
  case case15 ih =>
    intro h c hc
    rcases ih h c hc with hc | hc
    · exact (List.mem_cons.1 hc).imp (· ▸ List.mem_cons_self) id |>.symm
    · exact .inr (List.mem_cons_of_mem _ hc)

theorem charsOf_literals (ts : List Token) : ∀ s, charsOf ts = some s → literals ts = s := by
  induction ts with
  | nil => intro s h; cases h; rfl
  | cons t ts ih =>
    intro s h
    cases t with
    | char d =>
      simp only [charsOf, Option.map_eq_some_iff] at h
      obtain ⟨r, hr, rfl⟩ := h
      rw [literals, ih r hr]
    | _ => cases h

theorem new_literal_chars {comp : Str} {p : Pattern} {s : Str} (h : Pattern.new comp = .ok p)
    (hs : patternAsStr p = some s) : ∀ c ∈ s, c ∈ comp := by
  intro c hc
  unfold Pattern.new at h
  split at h
  · rename_i ts hts
    cases h
    exact (tokLoop_chars _ _ _ _ _ _ hts c (charsOf_literals _ _ hs ▸ hc)).resolve_left nofun
  · cases h

end AcmedVerif.Glob
