/-
How the code before a repair (Model/OldVariants.lean) relates to the current models: 27b8611 (`parse_duration`),
b48ba6e / b1fb377 / 64663b5 (limiter), c679126 (`get_hook` without a visited set), 4551043 (merge block).  The
relations for 537f12e / a9033b3 are in Props/C19Depth.lean, those for 1d54e9b / 527d672 in Props/OldVariants.lean.
-/
import AcmedVerif.Model.OldVariants
import AcmedVerif.Lemmas.Period
import AcmedVerif.Lemmas.Limiter
import AcmedVerif.Lemmas.Config

namespace AcmedVerif.OldVariants

/-! ## 27b8611: unchecked vs. checked fold of `parse_duration` -/
section Period
open AcmedVerif.Period

theorem fold_checked_none (fuel : Nat) : ∀ (s : List Char) (c : Nat) (acc' : Acc) (rest : List Char),
    fold .checked fuel s ⟨none, c⟩ = .ok (acc', rest) → acc'.sum = none := by
  induction fuel with
  | zero =>
    intro s c acc' rest h
    simp only [fold, Except.ok.injEq, Prod.mk.injEq] at h
    rw [← h.1]
  | succ n ih =>
    intro s c acc' rest h
    cases hp : part s with
    | fail =>
      rw [fold_fail _ n _ hp] at h
      simp only [Except.ok.injEq, Prod.mk.injEq] at h
      rw [← h.1]
    | part nb m r =>
      rw [fold_checked_part n _ hp] at h
      simp only [addItem_none] at h
      exact ih _ _ _ _ h

theorem fold_unchecked_of_checked (a : Arith) (fuel : Nat) :
    ∀ (s : List Char) (x c : Nat) (acc' : Acc) (rest : List Char) (v : Nat),
      fold .checked fuel s ⟨some x, c⟩ = .ok (acc', rest) → acc'.sum = some v →
      fold a fuel s ⟨some x, c⟩ = .ok (acc', rest) := by
  induction fuel with
  | zero =>
    intro s x c acc' rest v h _
    simp only [fold] at h ⊢
    exact h
  | succ n ih =>
    intro s x c acc' rest v h hv
    cases hp : part s with
    | fail =>
      rw [fold_fail _ n _ hp] at h
      rw [fold_fail _ n _ hp]
      exact h
    | part nb m r =>
      rw [fold_checked_part n _ hp] at h
      simp only [addItem_some] at h
      by_cases hfit : nb * m ≤ u64Max ∧ x + nb * m ≤ u64Max
      · simp only [hfit, and_self, if_true] at h
        have ih' := ih r (x + nb * m) (c + 1) acc' rest v h hv
        cases a with
        | checked =>
          rw [fold_checked_part n _ hp]
          simp only [addItem_some, hfit, and_self, if_true]
          exact h
        | uncheckedDev =>
          simp only [fold, hp, Nat.not_lt.mpr hfit.1, Nat.not_lt.mpr hfit.2, if_false]
          exact ih'
        | uncheckedRelease =>
          have hmod : nb * m % (u64Max + 1) = nb * m := Nat.mod_eq_of_lt (by omega)
          simp only [fold, hp, hmod, Nat.not_lt.mpr hfit.2, if_false]
          exact ih'
      · simp only [hfit, if_false] at h
        have := fold_checked_none n r (c + 1) acc' rest h
        rw [this] at hv
        cases hv

theorem fold_checked_of_dev (fuel : Nat) :
    ∀ (s : List Char) (x c : Nat) (r : Acc × List Char),
      fold .uncheckedDev fuel s ⟨some x, c⟩ = .ok r → fold .checked fuel s ⟨some x, c⟩ = .ok r := by
  induction fuel with
  | zero =>
    intro s x c r h
    simp only [fold] at h ⊢
    exact h
  | succ n ih =>
    intro s x c r h
    cases hp : part s with
    | fail =>
      rw [fold_fail _ n _ hp] at h
      rw [fold_fail _ n _ hp]
      exact h
    | part nb m rest =>
      simp only [fold, hp] at h
      rw [fold_checked_part n _ hp]
      simp only [addItem_some]
      by_cases h1 : nb * m > u64Max
      · simp [h1] at h
      · simp only [h1, if_false] at h
        by_cases h2 : x + nb * m > u64Max
        · simp [h2] at h
        · simp only [h2, if_false] at h
          have hfit : nb * m ≤ u64Max ∧ x + nb * m ≤ u64Max := by omega
          simp only [hfit, and_self, if_true]
          exact ih _ _ _ _ h

theorem fold_error_is_panic (a : Arith) (fuel : Nat) :
    ∀ (s : List Char) (acc : Acc) (o : Outcome), fold a fuel s acc = .error o →
      o = .panicMul ∨ o = .panicAdd := by
  induction fuel with
  | zero => intro s acc o h; simp [fold] at h
  | succ n ih =>
    intro s acc o h
    cases hp : part s with
    | fail => rw [fold_fail _ n _ hp] at h; cases h
    | part nb m rest =>
      cases a with
      | checked =>
        rw [fold_checked_part n _ hp] at h
        exact ih _ _ _ h
      | uncheckedDev =>
        simp only [fold, hp] at h
        split at h
        · cases h; exact .inl rfl
        · split at h
          · split at h
            · cases h; exact .inr rfl
            · exact ih _ _ _ h
          · cases h; exact .inr rfl
      | uncheckedRelease =>
        simp only [fold, hp] at h
        split at h
        · split at h
          · cases h; exact .inr rfl
          · exact ih _ _ _ h
        · cases h; exact .inr rfl

end Period

/-! ## b48ba6e / b1fb377 / 64663b5: the limiter -/
section Limiter
open AcmedVerif.Limiter

theorem passes_blocked (v : LimiterVariant) (ls : List Limit) :
    ∀ (rs : List Readings) (log : List Nat) (k : Nat),
      (∀ r ∈ rs, ∀ lg, v.allowed lg ls r.tTests r.tPrune = false) →
      passes v ls log rs k = .blocked (k + rs.length) := by
  intro rs
  induction rs with
  | nil => intro log k _; rfl
  | cons r rs ih =>
    intro log k h
    have hr := h r (List.mem_cons_self) (prune ls log r.tPrune)
    simp only [passes, hr]
    rw [ih _ _ (fun r' hr' => h r' (List.mem_cons_of_mem _ hr'))]
    simp only [List.length_cons, Bool.false_eq_true, if_false]
    congr 1; omega

theorem passes_congr (v w : LimiterVariant) (ls : List Limit) :
    ∀ (rs : List Readings) (log : List Nat) (k : Nat),
      (∀ r ∈ rs, ∀ lg, v.allowed lg ls r.tTests r.tPrune = w.allowed lg ls r.tTests r.tPrune) →
      passes v ls log rs k = passes w ls log rs k := by
  intro rs
  induction rs with
  | nil => intro log k _; rfl
  | cons r rs ih =>
    intro log k h
    simp only [passes, h r (List.mem_cons_self)]
    rw [ih _ _ (fun r' hr' => h r' (List.mem_cons_of_mem _ hr'))]

theorem allowedOld_zero (log : List Nat) (p : Nat) (rest : List Limit) (ts : List Nat) (t : Nat) :
    allowedOld log (⟨0, p⟩ :: rest) ts t = false := by
  simp only [allowedOld]
  cases checkedSub (ts.headD t) p <;> simp

theorem allowedOld_eq_allowed_of_uptime (log : List Nat) :
    ∀ (ls : List Limit) (ts : List Nat) (t : Nat),
      (∀ lim ∈ ls, ∀ t' ∈ t :: ts, lim.period ≤ t') →
      allowedOld log ls ts t = allowed log ls ts t := by
  intro ls
  induction ls with
  | nil => intro ts t _; rfl
  | cons lim rest ih =>
    intro ts t h
    have hmem : ts.headD t ∈ t :: ts := by
      cases ts with
      | nil => simp
      | cons a as => simp
    have hle : lim.period ≤ ts.headD t := h lim (List.mem_cons_self) _ hmem
    have hrest : ∀ l ∈ rest, ∀ t' ∈ ts.headD t :: ts.tail, l.period ≤ t' := by
      intro l hl t' ht'
      apply h l (List.mem_cons_of_mem _ hl)
      rcases List.mem_cons.mp ht' with rfl | ht'
      · exact hmem
      · exact List.mem_cons_of_mem _ (List.mem_of_mem_tail ht')
    simp only [allowedOld, allowed, seen, checkedSub, hle, if_true]
    rw [ih ts.tail (ts.headD t) hrest]

theorem sleepOld_eq_new_of_small (prof : Profile) (ls : List Limit)
    (h : ∀ l, ls.getLast? = some l → 1 ≤ l.n ∧ l.period / 1000000000 * 200 ≤ Limiter.u64Max) :
    sleepOld prof ls = sleepNew ls := by
  unfold sleepOld sleepNew sleepMs
  cases hl : ls.getLast? with
  | none => rfl
  | some l =>
    obtain ⟨hn, hfit⟩ := h l hl
    have hn0 : ¬ l.n = 0 := by omega
    have hgt : ¬ l.period / 1000000000 * 200 > Limiter.u64Max := by omega
    have hmod : l.period / 1000000000 * 200 % (Limiter.u64Max + 1) = l.period / 1000000000 * 200 :=
      Nat.mod_eq_of_lt (by omega)
    have hmin : min (l.period / 1000000000 * 200) Limiter.u64Max = l.period / 1000000000 * 200 :=
      Nat.min_eq_left hfit
    by_cases hs : l.period / 1000000000 ≤ 1
    · simp [hs]
    · simp [hs, hgt, hn0, hmod, hmin]

end Limiter

/-! ## c679126: `get_hook` without a visited set -/
section Hooks
open AcmedVerif.Config AcmedVerif.Spec.C14

theorem getHookOld_self_first (cfg : Config) (g : String) (grp : Group) (rest : List String)
    (hh : findHook cfg g = none) (hg : findGroup cfg g = some grp) (hm : grp.hooks = g :: rest) :
    ∀ depth, getHookOld cfg depth g = .stackOverflow := by
  intro depth
  induction depth with
  | zero => unfold getHookOld; rw [hh, hg]
  | succ d ih =>
    unfold getHookOld
    rw [hh, hg]
    simp only [hm, expandNamesOld, ih]

theorem expandNamesOld_of_new {rec : Nat → String → Except Err (List Hook × Nat)}
    {recOld : String → Expand} (hrec : ∀ b n hs b', rec b n = .ok (hs, b') → recOld n = .ok hs) :
    ∀ ns acc b r b', groupLoop rec ns acc b = .ok (r, b') →
      ∃ r', r = acc ++ r' ∧ expandNamesOld recOld ns = .ok r' := by
  intro ns
  induction ns with
  | nil =>
    intro acc b r b' h
    simp only [groupLoop, Except.ok.injEq, Prod.mk.injEq] at h
    exact ⟨[], by simp [h.1], rfl⟩
  | cons n ns ih =>
    intro acc b r b' h
    simp only [groupLoop] at h
    cases hn : rec b n with
    | error e => simp [hn] at h
    | ok res =>
      obtain ⟨hs, b₁⟩ := res
      simp only [hn] at h
      obtain ⟨r', hr, hold⟩ := ih _ _ _ _ h
      exact ⟨hs ++ r', by simp [hr], by simp only [expandNamesOld, hrec b n hs b₁ hn, hold]⟩

/-- Whatever the current expansion accepts, the old one accepted with the same result, given as
many stack frames as the current model has fuel. -/
theorem getHookOld_of_expandHook (cfg : Config) :
    ∀ fuel parents budget n r b', expandHook cfg fuel parents budget n = .ok (r, b') →
      getHookOld cfg fuel n = .ok r := by
  intro fuel
  -- strong induction, here and below, so that the case analysis is written once and `cases fuel` comes last
  induction fuel using Nat.strongRecOn with
  | _ fuel ih =>
    intro parents budget n r b' h
    unfold getHookOld
    obtain ⟨b, rfl, ⟨hk, hh, rfl, _⟩ | ⟨g, f, hh, hg, _, _, rfl, hl⟩⟩ := expandHook_ok_inv h
    · rw [hh]
    · obtain ⟨r', hr, hold⟩ := expandNamesOld_of_new (ih f (Nat.lt_succ_self f) (parents ++ [n])) g.hooks [] b r b' hl
      rw [hh, hg, hr]
      exact hold

-- `Config.expandNames_denotes` once more, over `Expand` (the old result type has a third outcome)
theorem expandNamesOld_denotes {cfg : Config} {rec : String → Expand}
    (hrec : ∀ n r, rec n = .ok r → ExpandsList cfg [n] r) :
    ∀ ns r, expandNamesOld rec ns = .ok r → ExpandsList cfg ns r := by
  intro ns
  induction ns with
  | nil =>
    intro r h
    simp only [expandNamesOld, Expand.ok.injEq] at h
    subst h; exact .nil
  | cons n ns ih =>
    intro r h
    simp only [expandNamesOld] at h
    cases hn : rec n with
    | err e => simp [hn] at h
    | stackOverflow => simp [hn] at h
    | ok hs =>
      simp only [hn] at h
      cases hr : expandNamesOld rec ns with
      | err e => simp [hr] at h
      | stackOverflow => simp [hr] at h
      | ok rest =>
        simp only [hr, Expand.ok.injEq] at h
        subst h
        exact (hrec n hs hn).append (ih rest hr)

theorem getHookOld_denotes (cfg : Config) :
    ∀ depth n r, getHookOld cfg depth n = .ok r → ExpandsList cfg [n] r := by
  intro depth
  induction depth using Nat.strongRecOn with
  | _ depth ih =>
    intro n r h
    unfold getHookOld at h
    cases hh : findHook cfg n with
    | some hk =>
      rw [hh] at h; cases h
      exact .hook hh .nil
    | none =>
      rw [hh] at h
      cases hg : findGroup cfg n with
      | none => rw [hg] at h; cases h
      | some g =>
        rw [hg] at h
        cases depth with
        | zero => cases h
        | succ d =>
          have h2 := ExpandsList.group (ns := []) hh hg
            (expandNamesOld_denotes (ih d (Nat.lt_succ_self d)) g.hooks r h) .nil
          rwa [List.append_nil] at h2

end Hooks

/-! ## 4551043: the parametrised loader is the model's loader for the current merge block -/
section Load
open AcmedVerif.Config

theorem mergeCfgWith_current (cfg add : Config) : mergeCfgWith mergedOptions cfg add = mergeCfg cfg add := by
  unfold mergeCfgWith mergeCfg mergeGlobalWithOpts mergeGlobal
  rfl

theorem includeLoopWith_current (rec : Path → List Path → Except Err (Config × List Path)) :
    ∀ ps cfg loaded, includeLoopWith mergedOptions rec ps cfg loaded = includeLoop rec ps cfg loaded := by
  intro ps
  induction ps with
  | nil => intro cfg loaded; rfl
  | cons p ps ih =>
    intro cfg loaded
    simp only [includeLoopWith, includeLoop]
    cases rec p loaded with
    | error e => rfl
    | ok r => simp only [mergeCfgWith_current, ih]

theorem readCnfWith_current {π : Type} (files : Files π) (resolve : Path → π → List Path) :
    ∀ fuel depth path loaded,
      readCnfWith mergedOptions files resolve fuel depth path loaded =
        readCnf files resolve fuel depth path loaded := by
  intro fuel
  induction fuel with
  | zero =>
    intro depth path loaded
    simp only [readCnfWith, readCnf]
    cases lookupFile files path <;> rfl
  | succ n ih =>
    intro depth path loaded
    simp only [readCnfWith, readCnf]
    have : readCnfWith mergedOptions files resolve n (depth + 1) = readCnf files resolve n (depth + 1) := by
      funext p l; exact ih (depth + 1) p l
    rw [this]
    cases lookupFile files path with
    | none => rfl
    | some fc => simp only [includeLoopWith_current]

end Load

end AcmedVerif.OldVariants
