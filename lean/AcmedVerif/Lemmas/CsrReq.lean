/-
Lemmas about `Model/CsrReq.lean`: the name loop, `to_generic`, the digest table.
-/
import AcmedVerif.Model.CsrReq

namespace AcmedVerif.CsrReq

theorem buildName_eq (o : Ossl) (l : List (Attr × List Char)) :
    buildName o l = if l.all (fun p => o.entryOk p.1 p.2) then some l else none := by
  induction l with
  | nil => rfl
  | cons p rest ih =>
    obtain ⟨a, v⟩ := p
    rw [buildName, ih, List.all_cons]
    cases o.entryOk a v <;> cases rest.all (fun p => o.entryOk p.1 p.2) <;> rfl

/-- `Csr::new` in one equation: it succeeds iff OpenSSL accepts every subject entry, the names and
the signature, and then the request holds what it was given. -/
theorem Csr.new_eq (o : Ossl) (kp : KeyPair) (d : Hash) (dom ips : List (List Char))
    (sa : List (Attr × List Char)) :
    Csr.new o kp d dom ips sa =
      if (o.iter sa).all (fun p => o.entryOk p.1 p.2) || sa.isEmpty then
        if o.sanOk dom ips && o.signOk kp.id (getDigest d kp.keyType) then
          some ⟨kp.id, if sa.isEmpty then [] else o.iter sa, dom, ips, kp.id, getDigest d kp.keyType⟩
        else none
      else none := by
  rw [Csr.new, buildName_eq]
  cases sa.isEmpty <;> cases (o.iter sa).all (fun p => o.entryOk p.1 p.2) <;>
    cases o.sanOk dom ips <;> simp

theorem Csr.new_some {o : Ossl} {kp : KeyPair} {d : Hash} {dom ips : List (List Char)}
    {sa : List (Attr × List Char)} {c : Csr} (h : Csr.new o kp d dom ips sa = some c) :
    c.pubkey = kp.id ∧ c.signedBy = kp.id ∧ c.sanDns = dom ∧ c.sanIp = ips ∧
    c.md = getDigest d kp.keyType ∧
    c.subject = (if sa.isEmpty then [] else o.iter sa) ∧
    o.sanOk dom ips = true ∧ o.signOk kp.id (getDigest d kp.keyType) = true := by
  simp only [Csr.new_eq, Option.ite_none_right_eq_some, Option.some.injEq, Bool.and_eq_true] at h
  obtain ⟨-, h2, rfl⟩ := h
  exact ⟨rfl, rfl, rfl, rfl, rfl, rfl, h2⟩

theorem Certificate.ofCfg_some {lower : List Char → List Char} {cfg : CertCfg}
    {ids : List Ident.Identifier} {cert : Certificate} (h : Certificate.ofCfg lower cfg ids = some cert) :
    getKeyType lower cfg.keyType = some cert.keyType ∧
    getCsrDigest lower cfg.csrDigest = some cert.csrDigest ∧
    cert.identifiers = ids ∧ cert.subjectAttributes = toGeneric cfg.subject := by
  unfold Certificate.ofCfg at h
  split at h
  · next hk hd => cases h; exact ⟨hk, hd, rfl, rfl⟩
  · cases h

theorem getDigest_eq (d : Hash) (kt : KeyType) :
    getDigest d kt = if kt.isEdDsa then .null else d.native := by
  cases kt <;> rfl

theorem Attr.mem_all (a : Attr) : a ∈ Attr.all := by cases a <;> decide

theorem KeyType.mem_all (kt : KeyType) : kt ∈ KeyType.all := by cases kt <;> decide

theorem Hash.mem_all (d : Hash) : d ∈ Hash.all := by cases d <;> decide

theorem forall_keyType_hash {P : KeyType → Hash → Prop}
    (h : ∀ kt ∈ KeyType.all, ∀ d ∈ Hash.all, P kt d) : ∀ kt d, P kt d :=
  fun kt d => h kt kt.mem_all d d.mem_all

theorem toGeneric_keys_nodup (s : SubjectCfg) : ((toGeneric s).map (·.1)).Nodup := by
  have hall : Attr.all.Nodup := by decide +kernel
  have hsub : ((toGeneric s).map (·.1)).Sublist Attr.all := by
    unfold toGeneric
    generalize Attr.all = l
    induction l with
    | nil => exact List.Sublist.slnil
    | cons a tl ih =>
      rw [List.filterMap_cons]
      cases s a with
      | none => exact List.Sublist.cons _ ih
      | some v => exact List.Sublist.cons_cons _ ih
  exact hsub.nodup hall

theorem mem_toGeneric (s : SubjectCfg) (a : Attr) (v : List Char) :
    (a, v) ∈ toGeneric s ↔ s a = some v := by
  simp only [toGeneric, List.mem_filterMap, Option.map_eq_some_iff, Prod.mk.injEq]
  exact ⟨fun ⟨_, _, _, hw, rfl, rfl⟩ => hw, fun h => ⟨a, a.mem_all, v, h, rfl, rfl⟩⟩

end AcmedVerif.CsrReq
