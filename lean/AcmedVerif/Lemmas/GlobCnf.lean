/- Lemmas about Model/Glob.lean: `glob` as the walk over the component patterns of its pattern, and the pattern
`get_cnf_path` builds from a canonical directory and a relative include cut into them: the escaped components of the
directory, then those of the include. -/
import AcmedVerif.Lemmas.GlobWalk

namespace AcmedVerif.Glob

theorem escape_sep_cons (s : Str) : escape ('/' :: s) = '/' :: escape s := by
  rw [escape_cons]; simp [isMetaC]

theorem escape_chain (cs : List Str) : escape (chain cs) = chain (cs.map escape) := by
  induction cs with
  | nil => rfl
  | cons c t ih =>
    rw [List.map_cons, chain_cons, chain_cons, List.cons_append, escape_sep_cons, escape_append, ih]; rfl

theorem escape_absDir (cs : List Str) : escape (absDir cs) = absDir (cs.map escape) := by
  cases cs with
  | nil => simp [absDir, escape]
  | cons c t =>
    have h1 : absDir (c :: t) = chain (c :: t) := by simp [absDir]
    have h2 : absDir ((c :: t).map escape) = chain ((c :: t).map escape) := by simp [absDir]
    rw [h1, h2, escape_chain]

theorem mem_escape {c : Str} {x : Char} (h : x ∈ escape c) : x ∈ c ∨ x = '[' ∨ x = ']' := by
  induction c with
  | nil => simp [escape] at h
  | cons d t ih =>
    rw [escape_cons] at h
    rcases List.mem_append.1 h with h | h
    · split at h
      · simp at h; rcases h with h | h | h <;> simp [h]
      · simp at h; simp [h]
    · rcases ih h with h | h
      · exact .inl (List.mem_cons_of_mem _ h)
      · exact .inr h

theorem Proper.escape {c : Str} (h : Proper c) : Proper (escape c) := by
  constructor
  · obtain ⟨d, t, rfl⟩ : ∃ d t, c = d :: t := by
      cases c with
      | nil => exact absurd rfl h.1
      | cons d t => exact ⟨d, t, rfl⟩
    rw [escape_cons]; split <;> simp
  · intro hm
    rcases mem_escape hm with h' | h' | h'
    · exact h.2 h'
    · exact absurd h' (by decide)
    · exact absurd h' (by decide)

/-- What follows the leading separator of `chain es ++ "/" ++ file`. -/
def tailOf : List Str → Str → Str
  | [], file => file
  | e :: t, file => e ++ '/' :: tailOf t file

theorem chain_sep_eq (es : List Str) (file : Str) : chain es ++ '/' :: file = '/' :: tailOf es file := by
  induction es with
  | nil => rfl
  | cons e t ih =>
    rw [chain_cons, List.append_assoc, ih]; simp [tailOf]

theorem splitSep_tailOf (es : List Str) (hp : ∀ e ∈ es, Proper e) (file : Str) :
    splitSep (tailOf es file) = es ++ splitSep file := by
  induction es with
  | nil => rfl
  | cons e t ih =>
    simp only [tailOf]
    rw [splitSep_append_sep, splitSep_noSep (hp e (by simp)).2, ih (fun x hx => hp x (List.mem_cons_of_mem _ hx))]
    simp

theorem splitTerminator_tailOf (es : List Str) (hp : ∀ e ∈ es, Proper e) (file : Str) :
    splitTerminator (tailOf es file) = es ++ splitTerminator file := by
  unfold splitTerminator
  rw [splitSep_tailOf es hp]
  have hne := splitSep_ne_nil file
  have hl : (es ++ splitSep file).getLast? = (splitSep file).getLast? := by
    rw [List.getLast?_append]
    cases h : (splitSep file).getLast? with
    | none => simp [List.getLast?_eq_none_iff] at h; exact absurd h hne
    | some x => simp
  simp only [hl]
  split
  · rw [List.dropLast_append_of_ne_nil hne]
  · rfl

theorem newAll_mem : ∀ (l : List Str) (ps : List Pattern), newAll l = .ok ps →
    ∀ p ∈ ps, ∃ c ∈ l, Pattern.new c = .ok p := by
  intro l
  induction l with
  | nil => intro ps h p hp; simp [newAll] at h; subst h; simp at hp
  | cons c t ih =>
    intro ps h p hp
    simp only [newAll] at h
    split at h
    · simp at h
    · rename_i q hq
      split at h
      · simp at h
      · rename_i qs hqs
        simp at h; subst h
        rcases List.mem_cons.1 hp with rfl | hp
        · exact ⟨c, by simp, hq⟩
        · obtain ⟨c', hc', h'⟩ := ih qs hqs p hp
          exact ⟨c', List.mem_cons_of_mem _ hc', h'⟩

theorem newAll_escape_append (cs : List Str) (fc : List Str) :
    newAll (cs.map escape ++ fc) =
      match newAll fc with
      | .ok fp => .ok (cs.map escPattern ++ fp)
      | .error e => .error e := by
  induction cs with
  | nil => cases h : newAll fc <;> simp [h]
  | cons c t ih =>
    simp only [List.map_cons, List.cons_append, newAll, new_escape, ih]
    cases newAll fc <;> rfl

theorem Lit.of_newAll (l : List Str) (hl : ∀ c ∈ l, '/' ∉ c) (ps : List Pattern) (h : newAll l = .ok ps) : Lit ps := by
  intro p hp s hs
  obtain ⟨c, hc, hnew⟩ := newAll_mem l ps h p hp
  apply head_ne_sep_of_noSep
  intro hm
  exact hl c hc (new_literal_chars hnew hs _ hm)

theorem Lit.empty : Lit [Pattern.empty] := by
  intro p hp s hs
  simp at hp; subst hp
  simp [patternAsStr, Pattern.empty, charsOf] at hs
  subst hs; simp

theorem Lit.append {a b : List Pattern} (ha : Lit a) (hb : Lit b) : Lit (a ++ b) := by
  intro p hp
  rcases List.mem_append.1 hp with h | h
  · exact ha p h
  · exact hb p h

theorem proper_map_escape {cs : List Str} (hv : ∀ c ∈ cs, validName c = true) : ∀ e ∈ cs.map escape, Proper e := by
  intro e he
  obtain ⟨d, hd, rfl⟩ := List.mem_map.1 he
  exact (Proper.of_valid (hv d hd)).escape

theorem cnfPattern_rel (cs : List Str) (hv : ∀ c ∈ cs, validName c = true) (file : Str) (hrel : file.head? ≠ some '/') :
    cnfPattern (absDir cs) file = '/' :: tailOf (cs.map escape) file := by
  unfold cnfPattern
  rw [escape_absDir, joinPath_absDir _ (proper_map_escape hv) _ hrel, chain_sep_eq]

theorem Lit.of_dirPatterns (pattern : Str) (pats : List Pattern) (h : dirPatterns pattern = .ok pats) : Lit pats := by
  unfold dirPatterns at h
  split at h
  · simp at h
  · rename_i ps hps
    have hl : Lit ps := Lit.of_newAll _ (splitTerminator_pieces_noSep _) ps hps
    simp at h
    split at h
    · subst h; exact hl.append Lit.empty
    · subst h; exact hl

theorem glob_paths_run (fs : FsView) (fuel : Nat) (pattern : Str) (ps : List Str) (h : glob fs fuel pattern = .paths ps) :
    ∃ pats, dirPatterns pattern = .ok pats ∧
      run fs (pattern.getLast? == some '/') fuel (fillTodo fs pats (fromPath fs ['/'])) [] = some ps := by
  unfold glob at h
  split at h
  · simp at h
  · split at h
    · simp at h
    · split at h
      · simp at h
      · rename_i pats hpats
        simp only at h
        split at h
        · simp at h
        · rename_i ps' hrun
          simp at h; subst h
          exact ⟨pats, hpats, hrun⟩

theorem dirPatterns_cnf (cs : List Str) (hv : ∀ c ∈ cs, validName c = true) (file : Str) (hrel : file.head? ≠ some '/')
    (pats : List Pattern) (h : dirPatterns (cnfPattern (absDir cs) file) = .ok pats) :
    ∃ fpats, Lit fpats ∧ pats = cs.map escPattern ++ fpats := by
  have hl := Lit.of_dirPatterns _ _ h
  rw [cnfPattern_rel cs hv file hrel] at h
  unfold dirPatterns at h
  simp only [List.drop_succ_cons, List.drop_zero] at h
  rw [splitTerminator_tailOf _ (proper_map_escape hv), newAll_escape_append] at h
  cases hfc : newAll (splitTerminator file) with
  | error e => simp [hfc] at h
  | ok fp =>
    obtain ⟨fpats, rfl⟩ : ∃ fpats, pats = cs.map escPattern ++ fpats := by
      simp only [hfc, Except.ok.injEq] at h
      split at h
      · exact ⟨fp ++ [Pattern.empty], by rw [← h, List.append_assoc]⟩
      · exact ⟨fp, h.symm⟩
    exact ⟨fpats, fun p hp => hl p (List.mem_append_right _ hp), rfl⟩

end AcmedVerif.Glob
