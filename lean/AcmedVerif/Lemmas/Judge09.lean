/-
Helper lemmas for `Props/C09Judge.lean`: the bracket judge `Spec.C09.bracketOk` against the
window-count statement `Limiter.inWindow` of the model.
-/
import AcmedVerif.Model.Limiter
import AcmedVerif.Lemmas.Limiter
import AcmedVerif.Spec.C09

namespace AcmedVerif.Judge09
open AcmedVerif.Limiter
open AcmedVerif.Spec.C09

/-- Admission instants in the order in which they happened never go backwards (admissions are
serialised: `RateLimit` is only reached through `&mut`). -/
def Sorted (as : List Nat) : Prop := as.Pairwise (fun a b => a ≤ b)

/-- `ev` brackets `as`: the `i`-th observed `(call, ret)` pair belongs to the `i`-th admission (admission
order) and the admission instant lies between the two.  Admissions whose request had not been
released when the observation stopped may be missing at the end (`≤`). -/
def Brackets (ev : List (Nat × Nat)) (as : List Nat) : Prop :=
  ev.length ≤ as.length ∧
  ∀ (i : Nat) (e : Nat × Nat) (a : Nat), ev[i]? = some e → as[i]? = some a → e.1 ≤ a ∧ a ≤ e.2

/-- Exact observation: `call i = as[i] = ret i`. -/
def Tight (ev : List (Nat × Nat)) (as : List Nat) : Prop :=
  ev.length = as.length ∧
  ∀ (i : Nat) (e : Nat × Nat) (a : Nat), ev[i]? = some e → as[i]? = some a → e.1 = a ∧ a = e.2

/-- `ev'` has wider brackets than `ev`: every call no later, every return no earlier (and possibly
fewer requests observed at the end). -/
def Wider (ev ev' : List (Nat × Nat)) : Prop :=
  ev'.length ≤ ev.length ∧
  ∀ (i : Nat) (e e' : Nat × Nat), ev[i]? = some e → ev'[i]? = some e' → e'.1 ≤ e.1 ∧ e.2 ≤ e'.2

/-- The judge fails at index `i`: request `i + n` was released less than `p` after request `i`
entered. -/
def FailsAt (lim : Limit) (ev : List (Nat × Nat)) (i : Nat) : Prop :=
  ∃ e f, ev[i]? = some e ∧ ev[i + lim.n]? = some f ∧ f.2 < e.1 + lim.period

/-- The exact observation of a list of admission instants. -/
def exact (as : List Nat) : List (Nat × Nat) := as.map fun a => (a, a)

theorem bracketOk_iff (lim : Limit) (ev : List (Nat × Nat)) :
    bracketOk lim ev = true ↔
      ∀ i e f, ev[i]? = some e → ev[i + lim.n]? = some f → e.1 + lim.period ≤ f.2 := by
  unfold bracketOk
  simp only [List.all_eq_true]
  constructor
  · intro h i e f he hf
    have hm : (e, i) ∈ ev.zipIdx := by
      rw [List.mem_zipIdx_iff_getElem?]; exact he
    have := h (e, i) hm
    simp only [List.getElem?_map, hf, Option.map_some] at this
    simpa using this
  · intro h x hx
    obtain ⟨e, i⟩ := x
    rw [List.mem_zipIdx_iff_getElem?] at hx
    simp only [List.getElem?_map]
    cases hf : ev[i + lim.n]? with
    | none => simp
    | some f =>
      simp only [Option.map_some, decide_eq_true_eq]
      exact h i e f hx hf

theorem bracketOk_false_iff (lim : Limit) (ev : List (Nat × Nat)) :
    bracketOk lim ev = false ↔ ∃ i, FailsAt lim ev i := by
  rw [← Bool.not_eq_true, bracketOk_iff]
  constructor
  · intro h
    refine Classical.byContradiction fun hn => h fun i e f he hf =>
      Nat.le_of_not_lt fun hlt => hn ⟨i, e, f, he, hf, hlt⟩
  · rintro ⟨i, e, f, he, hf, hlt⟩ h
    exact Nat.not_le.2 hlt (h i e f he hf)

/-- The window `(t - p, t]` holds the entries up to `t` less those up to `t - p` (any list). -/
theorem inWindow_add_countP (as : List Nat) (p t : Nat) :
    inWindow as p t + as.countP (fun x => decide (x + p ≤ t)) =
      as.countP (fun x => decide (x ≤ t)) := by
  induction as with
  | nil => rfl
  | cons a as ih =>
    unfold inWindow at ih ⊢
    rw [List.filter_cons, List.countP_cons, List.countP_cons, ← ih]
    by_cases h1 : a ≤ t
    · by_cases h2 : t < a + p
      · simp only [h1, h2, Nat.not_le.2 h2, decide_true, decide_false, Bool.and_self, if_true,
          List.length_cons, Bool.false_eq_true, if_false]
        exact Nat.add_right_comm ..
      · simp only [h1, h2, Nat.not_lt.1 h2, decide_true, decide_false, Bool.false_and,
          Bool.false_eq_true, if_false, if_true]
        rfl
    · have h3 : ¬ a + p ≤ t := fun h => h1 (Nat.le_trans (Nat.le_add_right ..) h)
      simp only [h1, h3, decide_false, Bool.and_false, Bool.false_eq_true, if_false]
      rfl

/-- In a sorted list the entries passing a downward-closed test form a prefix: entry `k` passes
iff `k` is below their number. -/
theorem sorted_prefix {q : Nat → Bool} (hq : ∀ x y, x ≤ y → q y = true → q x = true) :
    ∀ {l : List Nat}, Sorted l → ∀ {k x : Nat}, l[k]? = some x → (q x = true ↔ k < l.countP q)
  | [], _, _, _, h => nomatch h
  | b :: l, hs, k, x, h => by
    have ⟨hb, hs'⟩ := List.pairwise_cons.mp hs
    rw [List.countP_cons]
    by_cases hqb : q b = true
    · rw [if_pos hqb]
      cases k with
      | zero => cases h; exact ⟨fun _ => Nat.succ_pos _, fun _ => hqb⟩
      | succ k => exact (sorted_prefix hq hs' h).trans Nat.succ_lt_succ_iff.symm
    · -- nothing after `b` passes either
      have hnone : ∀ y ∈ l, ¬ q y = true := fun y hy hqy => hqb (hq b y (hb y hy) hqy)
      rw [if_neg hqb, List.countP_eq_zero.2 hnone]
      refine ⟨fun hqx => ?_, fun h0 => nomatch h0⟩
      cases k with
      | zero => cases h; exact absurd hqx hqb
      | succ k => exact absurd hqx (hnone x (List.mem_of_getElem? h))

theorem sorted_le_iff {as : List Nat} (hs : Sorted as) (t : Nat) {k x : Nat} (h : as[k]? = some x) :
    x ≤ t ↔ k < as.countP (fun x => decide (x ≤ t)) :=
  decide_eq_true_iff.symm.trans (sorted_prefix
    (fun _ _ hxy hy => decide_eq_true (Nat.le_trans hxy (of_decide_eq_true hy))) hs h)

theorem sorted_add_le_iff {as : List Nat} (hs : Sorted as) (p t : Nat) {k x : Nat}
    (h : as[k]? = some x) : x + p ≤ t ↔ k < as.countP (fun x => decide (x + p ≤ t)) :=
  decide_eq_true_iff.symm.trans (sorted_prefix (fun _ _ hxy hy =>
    decide_eq_true (Nat.le_trans (Nat.add_le_add_right hxy p) (of_decide_eq_true hy))) hs h)

/-- **Pigeon-hole core.** Entries `i … i + n` all lie in the window ending at entry `i + n`: that
entry is among those up to `t`, entry `i` is not among those up to `t - p`. -/
theorem segment_in_window {as : List Nat} (hs : Sorted as) (p : Nat) {i n a b : Nat}
    (hi : as[i]? = some a) (hj : as[i + n]? = some b) (hclose : b < a + p) :
    n + 1 ≤ inWindow as p b := by
  have hc := inWindow_add_countP as p b
  have h1 := (sorted_le_iff hs b hj).1 (Nat.le_refl _)
  have h0 := mt (sorted_add_le_iff hs p b hi).2 (Nat.not_le.2 hclose)
  omega

/-- Conversely: with `c` entries up to `t - p`, entry `c` is later than `t - p` and entry `c + n`
is not later than `t`. -/
theorem overfull_close {as : List Nat} (hs : Sorted as) (n p t : Nat) (h : n < inWindow as p t) :
    ∃ i x y, as[i]? = some x ∧ as[i + n]? = some y ∧ y < x + p := by
  have hc := inWindow_add_countP as p t
  have hlen := List.countP_le_length (p := fun x => decide (x ≤ t)) (l := as)
  have hj : as.countP (fun x => decide (x + p ≤ t)) + n < as.length := by omega
  have hi := List.getElem?_eq_getElem (Nat.lt_of_le_of_lt (Nat.le_add_right _ n) hj)
  refine ⟨_, _, _, hi, List.getElem?_eq_getElem hj, ?_⟩
  have h1 := (sorted_le_iff hs t (List.getElem?_eq_getElem hj)).2 (by omega)
  have h0 := mt (sorted_add_le_iff hs p t hi).1 (Nat.lt_irrefl _)
  omega

theorem exact_getElem? (as : List Nat) (i : Nat) :
    (exact as)[i]? = (as[i]?).map fun a => (a, a) := by
  simp [exact]

theorem tight_exact (as : List Nat) : Tight (exact as) as := by
  refine ⟨by simp [exact], ?_⟩
  intro i e a he ha
  rw [exact_getElem?, ha] at he
  simp only [Option.map_some, Option.some.injEq] at he
  subst he
  exact ⟨rfl, rfl⟩

theorem tight_eq_exact {ev : List (Nat × Nat)} {as : List Nat} (h : Tight ev as) :
    ev = exact as := by
  refine List.ext_getElem? fun i => ?_
  rw [exact_getElem?]
  by_cases hi : i < as.length
  · have h1 := List.getElem?_eq_getElem (h.1 ▸ hi : i < ev.length)
    have h2 := List.getElem?_eq_getElem hi
    obtain ⟨ha, hb⟩ := h.2 i _ _ h1 h2
    rw [h1, h2]
    exact congrArg some (Prod.ext ha hb.symm)
  · rw [List.getElem?_eq_none (h.1 ▸ Nat.le_of_not_lt hi),
      List.getElem?_eq_none (Nat.le_of_not_lt hi)]
    rfl

theorem tight_brackets {ev : List (Nat × Nat)} {as : List Nat} (h : Tight ev as) :
    Brackets ev as :=
  ⟨Nat.le_of_eq h.1, fun i e a he ha =>
    ⟨Nat.le_of_eq (h.2 i e a he ha).1, Nat.le_of_eq (h.2 i e a he ha).2⟩⟩

theorem brackets_wider_exact {ev : List (Nat × Nat)} {as : List Nat} (h : Brackets ev as) :
    Wider (exact as) ev := by
  refine ⟨by simpa [exact] using h.1, ?_⟩
  intro i e e' he he'
  rw [exact_getElem?] at he
  cases ha : as[i]? with
  | none => rw [ha] at he; cases he
  | some a =>
    rw [ha] at he
    simp only [Option.map_some, Option.some.injEq] at he
    subst he
    exact h.2 i e' a he' ha

theorem attempt_hist_sorted {s : State} {last : Nat} {r : Readings}
    (h : Sorted s.hist ∧ ∀ x ∈ s.hist, x ≤ last)
    (hmono : monoFrom last (r.tPrune :: (r.tTests ++ [r.tPush]))) :
    Sorted (attempt s r).1.hist ∧ ∀ x ∈ (attempt s r).1.hist, x ≤ r.tPush := by
  refine ⟨?_, attempt_hist_le h.2 hmono⟩
  obtain ⟨h1, h2, _⟩ := pass_bounds hmono
  rw [attempt_eq]
  split
  · exact List.pairwise_append.2 ⟨h.1, List.pairwise_singleton _ _, fun x hx y hy =>
      List.mem_singleton.mp hy ▸ Nat.le_trans (h.2 x hx) (Nat.le_trans h1 h2)⟩
  · exact h.1

end AcmedVerif.Judge09
