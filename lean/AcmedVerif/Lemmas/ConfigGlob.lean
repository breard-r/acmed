/-
Lemmas for Props/C14Compose.lean: the loader of Model/Config instantiated with the resolver of Model/Glob
(Model/ConfigGlob.lean).
-/
import AcmedVerif.Model.ConfigGlob
import AcmedVerif.Lemmas.Config
import AcmedVerif.Lemmas.GlobTree

namespace AcmedVerif.ConfigGlob
open AcmedVerif.Config AcmedVerif.Spec.C14
open AcmedVerif.Glob (Str Listing)

theorem lookupFile_filesFrom (cs : Contents) : ∀ (n p : Nat),
    lookupFile (filesFrom n cs) (n + p) = (cs[p]?).map (·.2) := by
  induction cs with
  | nil => intro n p; rfl
  | cons e es ih =>
    intro n p
    cases p with
    | zero => simp [filesFrom, lookupFile]
    | succ p =>
      have hb : (n == n + (p + 1)) = false := by simp
      have := ih (n + 1) p
      rw [Nat.add_assoc, Nat.add_comm 1 p] at this
      simpa only [lookupFile, filesFrom, List.find?_cons, hb, List.getElem?_cons_succ] using this

theorem lookupFile_files (cs : Contents) (p : Nat) : lookupFile (files cs) p = (cs[p]?).map (·.2) := by
  simpa [files] using lookupFile_filesFrom cs 0 p

theorem filesFrom_length (cs : Contents) : ∀ n, (filesFrom n cs).length = cs.length := by
  induction cs with
  | nil => intro n; rfl
  | cons e es ih => intro n; simp [filesFrom, ih]

theorem files_length (cs : Contents) : (files cs).length = cs.length := filesFrom_length cs 0

theorem lookupFile_files_some {cs : Contents} {p : Nat} {fc : FileContent Str}
    (h : lookupFile (files cs) p = some fc) : ∃ e, cs[p]? = some e ∧ e.2 = fc ∧ e ∈ cs ∧ p < cs.length := by
  rw [lookupFile_files] at h
  cases he : cs[p]? with
  | none => simp [he] at h
  | some e =>
    simp only [he, Option.map_some, Option.some.injEq] at h
    obtain ⟨hlt, hget⟩ := List.getElem?_eq_some_iff.mp he
    exact ⟨e, rfl, h, hget ▸ List.getElem_mem hlt, hlt⟩

theorem lookupFile_files_ge (cs : Contents) (p : Nat) (h : cs.length ≤ p) : lookupFile (files cs) p = none := by
  rw [lookupFile_files, List.getElem?_eq_none h]; rfl

theorem idOf_le (cs : Contents) (loc : Loc) : idOf cs loc ≤ cs.length := List.findIdx_le_length

theorem idOf_getElem {cs : Contents} {loc : Loc} {e : Loc × FileContent Str} (h : cs[idOf cs loc]? = some e) :
    e.1 = loc := by
  obtain ⟨hlt, hget⟩ := List.getElem?_eq_some_iff.mp h
  have := List.findIdx_getElem (p := fun e : Loc × FileContent Str => e.1 == loc) (xs := cs) (w := hlt)
  unfold idOf at hget
  rw [hget] at this
  simpa using this

theorem idOfPath_le (L : Listing) (cs : Contents) (p : Str) : idOfPath L cs p ≤ cs.length := by
  unfold idOfPath
  split
  · exact idOf_le cs _
  · exact Nat.le_refl _

theorem idOfPath_getElem {L : Listing} {cs : Contents} {p : Str} {e : Loc × FileContent Str}
    (h : cs[idOfPath L cs p]? = some e) : canon L p = some e.1 := by
  unfold idOfPath at h
  split at h
  · rename_i loc hc
    rw [hc, idOf_getElem h]
  · simp [missingId] at h

theorem mem_idsOfResult {L : Listing} {cs : Contents} {r : Glob.GlobResult} {q : Path} (h : q ∈ idsOfResult L cs r) :
    (∃ ps t, r = .paths ps ∧ t ∈ ps ∧ q = idOfPath L cs t) ∨ q = badPatternId cs ∨ (q = fuelId cs ∧ r = .outOfFuel) := by
  cases r with
  | paths ps =>
    simp only [idsOfResult, List.mem_map] at h
    obtain ⟨t, ht, rfl⟩ := h
    exact .inl ⟨ps, t, rfl, ht, rfl⟩
  | patternError e => simp only [idsOfResult, List.mem_singleton] at h; exact .inr (.inl h)
  | notAbsolute => simp only [idsOfResult, List.mem_singleton] at h; exact .inr (.inl h)
  | outOfFuel => simp only [idsOfResult, List.mem_singleton] at h; exact .inr (.inr ⟨h, rfl⟩)

theorem readCnf_congr {π : Type} (files : Files π) (r1 r2 : Path → π → List Path)
    (h : ∀ p fc pat, lookupFile files p = some fc → pat ∈ fc.includes → r1 p pat = r2 p pat) :
    ∀ fuel depth path loaded, readCnf files r1 fuel depth path loaded = readCnf files r2 fuel depth path loaded := by
  intro fuel
  induction fuel with
  | zero =>
    intro depth path loaded
    rw [readCnf_eq, readCnf_eq files r2]
  | succ fuel ih =>
    intro depth path loaded
    rw [readCnf_eq, readCnf_eq files r2]
    cases hf : lookupFile files path with
    | none => rfl
    | some fc =>
      have hinc : includePaths r1 path fc = includePaths r2 path fc := by
        unfold includePaths
        rw [List.flatMap_def, List.flatMap_def, List.map_congr_left fun pat hp => h path fc pat hf hp]
      have hrec : readCnf files r1 fuel (depth + 1) = readCnf files r2 fuel (depth + 1) :=
        funext fun p => funext fun l => ih (depth + 1) p l
      simp only [hinc, hrec]

theorem includeLoop_error_origin {rec : Path → List Path → Except Err (Config × List Path)} :
    ∀ ps cfg l e, includeLoop rec ps cfg l = .error e → ∃ p ∈ ps, ∃ l', rec p l' = .error e := by
  intro ps
  induction ps with
  | nil => intro cfg l e h; simp [includeLoop] at h
  | cons q ps ih =>
    intro cfg l e h
    simp only [includeLoop] at h
    cases hq : rec q l with
    | error e' =>
      simp only [hq, Except.error.injEq] at h
      subst h; exact ⟨q, by simp, l, hq⟩
    | ok res =>
      simp only [hq] at h
      obtain ⟨p, hp, l', hl'⟩ := ih _ _ _ h
      exact ⟨p, List.mem_cons_of_mem _ hp, l', hl'⟩

/-- `q` is included by `p`: the resolver returns `q` for one of the includes of the file `p`. -/
def Includes {π : Type} (files : Files π) (resolve : Path → π → List Path) (p q : Path) : Prop :=
  ∃ fc, lookupFile files p = some fc ∧ q ∈ includePaths resolve p fc

theorem readCnf_notFound_origin {π : Type} (files : Files π) (resolve : Path → π → List Path) (q : Path) :
    ∀ fuel depth path loaded, readCnf files resolve fuel depth path loaded = .error (.fileNotFound q) →
      q = path ∨ ∃ p, Includes files resolve p q := by
  intro fuel
  induction fuel with
  | zero =>
    intro depth path loaded he
    rw [readCnf_eq] at he
    cases hf : lookupFile files path with
    | none => simp only [hf] at he; exact .inl (Err.fileNotFound.inj (Except.error.inj he)).symm
    | some fc =>
      simp only [hf] at he
      split at he
      · cases he
      · split at he <;> cases he
  | succ fuel ih =>
    intro depth path loaded he
    rw [readCnf_eq] at he
    cases hf : lookupFile files path with
    | none => simp only [hf] at he; exact .inl (Err.fileNotFound.inj (Except.error.inj he)).symm
    | some fc =>
      simp only [hf] at he
      by_cases hd : depth > maxIncludeDepth
      · rw [if_pos hd] at he; cases he
      · by_cases hm : path ∈ loaded
        · rw [if_neg hd, if_pos hm] at he; cases he
        · rw [if_neg hd, if_neg hm] at he
          obtain ⟨p, hp, l', hl'⟩ := includeLoop_error_origin _ _ _ _ he
          exact (ih (depth + 1) p l' hl').elim (fun e => .inr ⟨path, fc, hf, e ▸ hp⟩) .inr

theorem lookupFile_map {π ρ : Type} (f : Path → FileContent π → FileContent ρ) (files : Files π) (p : Path) :
    lookupFile (files.map fun e => (e.1, f e.1 e.2)) p = (lookupFile files p).map (f p) := by
  induction files with
  | nil => rfl
  | cons e es ih =>
    simp only [lookupFile, List.map_cons, List.find?_cons] at ih ⊢
    by_cases h : e.1 = p
    · subst h; simp
    · have hb : (e.1 == p) = false := by simpa using h
      simp only [hb]; exact ih

theorem resolvedTree_eq_map (L : Listing) (cs : Contents) (gfuel : Nat) :
    resolvedTree L cs gfuel =
      (files cs).map fun e => (e.1, reInclude e.2 (e.2.includes.map (resolveIds L cs gfuel e.1))) := by
  have : ∀ (es : Contents) (n : Nat), resolvedFrom L cs gfuel n es =
      (filesFrom n es).map fun e => (e.1, reInclude e.2 (e.2.includes.map (resolveIds L cs gfuel e.1))) := by
    intro es
    induction es with
    | nil => intro n; rfl
    | cons e es ih => intro n; simp only [resolvedFrom, filesFrom, List.map_cons, ih]
  exact this cs 0

theorem lookupFile_resolvedTree (L : Listing) (cs : Contents) (gfuel : Nat) (p : Nat) :
    lookupFile (resolvedTree L cs gfuel) p =
      (lookupFile (files cs) p).map fun fc => reInclude fc (fc.includes.map (resolveIds L cs gfuel p)) := by
  rw [resolvedTree_eq_map]
  exact lookupFile_map (fun p fc => reInclude fc (fc.includes.map (resolveIds L cs gfuel p))) (files cs) p

theorem readCnf_preresolved {π : Type} (files : Files π) (resolve : Path → π → List Path)
    (files' : Files (List Path))
    (h : ∀ p, lookupFile files' p =
      (lookupFile files p).map fun fc => reInclude fc (fc.includes.map (resolve p))) :
    ∀ fuel depth path loaded,
      readCnf files' (fun _ ps => ps) fuel depth path loaded = readCnf files resolve fuel depth path loaded := by
  intro fuel
  induction fuel with
  | zero =>
    intro depth path loaded
    rw [readCnf_eq, readCnf_eq files resolve, h path]
    cases lookupFile files path <;> rfl
  | succ fuel ih =>
    intro depth path loaded
    rw [readCnf_eq, readCnf_eq files resolve, h path]
    cases hf : lookupFile files path with
    | none => rfl
    | some fc =>
      have hinc : includePaths (fun _ ps => ps) path (reInclude fc (fc.includes.map (resolve path))) =
          includePaths resolve path fc := by
        simp [includePaths, reInclude, List.flatMap_map]
      have hrec : readCnf files' (fun _ ps => ps) fuel (depth + 1) = readCnf files resolve fuel (depth + 1) :=
        funext fun p => funext fun l => ih (depth + 1) p l
      simp only [Option.map_some, hinc, hrec]
      rfl

theorem DfsList.forall_of_step {π : Type} {files : Files π} {resolve : Path → π → List Path} (P : Path → Prop)
    (hstep : ∀ p q, P p → Includes files resolve p q → P q) :
    ∀ {todo visited new : List Path}, DfsList files resolve todo visited new → (∀ t ∈ todo, P t) →
      ∀ x ∈ new, P x := by
  intro todo visited new hd
  induction hd with
  | nil visited => intro _ x hx; simp at hx
  | skip _ _ ih => intro ht x hx; exact ih (fun t h => ht t (List.mem_cons_of_mem _ h)) x hx
  | @visit p ps visited n₁ n₂ fc hnv hf _ _ ih₁ ih₂ =>
    intro ht x hx
    have hp : P p := ht p (by simp)
    simp only [List.mem_cons, List.mem_append] at hx
    rcases hx with (rfl | hx) | hx
    · exact hp
    · exact ih₁ (fun t h => hstep p t hp ⟨fc, hf, h⟩) x hx
    · exact ih₂ (fun t h => ht t (List.mem_cons_of_mem _ h)) x hx

theorem globEnds_iff (L : Listing) (cs : Contents) (gfuel : Nat) :
    globEnds L cs gfuel = true ↔
      ∀ e ∈ cs, ∀ pat ∈ e.2.includes, Glob.resolve L.view gfuel (dirText e.1.dropLast) pat ≠ .outOfFuel := by
  simp only [globEnds, List.all_eq_true, bne_iff_ne]

theorem resolveIds_fuel (L : Listing) (cs : Contents) (f1 f2 : Nat) (h1 : globEnds L cs f1 = true)
    (h2 : globEnds L cs f2 = true) (p : Path) (fc : FileContent Str) (pat : Str)
    (hf : lookupFile (files cs) p = some fc) (hp : pat ∈ fc.includes) :
    resolveIds L cs f1 p pat = resolveIds L cs f2 p pat := by
  obtain ⟨e, he, hfc, hmem, _⟩ := lookupFile_files_some hf
  subst hfc
  have n1 := (globEnds_iff L cs f1).mp h1 e hmem pat hp
  have n2 := (globEnds_iff L cs f2).mp h2 e hmem pat hp
  unfold resolveIds
  simp only [he]
  unfold Glob.resolve at n1 n2 ⊢
  rcases Glob.glob_fuel_cases L.view f1 f2 (Glob.cnfPattern (dirText e.1.dropLast) pat) with h | h | h
  · rw [h]
  · exact absurd h n1
  · exact absurd h n2

section Walk
open AcmedVerif.Glob
open AcmedVerif.Spec.C14Glob (withSep inDir)

/-- No entry of the listing is a symbolic link. -/
def noLinks (L : Listing) : Bool :=
  L.all fun d => d.2.entries.all fun e => match e.2 with | .link _ => false | _ => true

theorem walkComps_nil (L : Listing) (cur : Node) : walkComps L true cur [] = some cur := by
  simp [walkComps]

theorem walkComps_cons (L : Listing) (cur : Node) (c : Str) (cs : List Str) :
    walkComps L true cur (c :: cs) = (walkComp L true cur c).bind fun n => walkComps L true n cs := by
  cases cs with
  | nil => simp only [walkComps]; cases walkComp L true cur c <;> simp
  | cons d ds => simp only [walkComps]; cases walkComp L true cur c <;> rfl

theorem walkComps_append (L : Listing) : ∀ (a b : List Str) (cur : Node),
    walkComps L true cur (a ++ b) = (walkComps L true cur a).bind fun n => walkComps L true n b := by
  intro a
  induction a with
  | nil => intro b cur; simp [walkComps_nil]
  | cons c cs ih =>
    intro b cur
    rw [List.cons_append, walkComps_cons, walkComps_cons]
    cases walkComp L true cur c with
    | none => rfl
    | some n => simp [ih]

theorem walkComp_nolinks (L : Listing) (hnl : noLinks L = true) (cur n : Node) (c : Str)
    (h : walkComp L true cur c = some n) :
    (n = cur ∧ (c = [] ∨ c = ['.'])) ∨ c = ['.', '.'] ∨ n.loc = cur.loc ++ [c] := by
  have nolink : ∀ {info : DirInfo} {t}, L.lookup cur.loc = some info → info.entries.lookup c = some (.link t) → False := by
    intro info t hinfo ht
    simp only [noLinks, List.all_eq_true] at hnl
    exact absurd (hnl _ (lookup_mem _ _ _ hinfo) _ (lookup_mem _ _ _ ht)) (by simp)
  revert h
  -- the branches of `walkComp`: 2 an empty component; 5 `.`; 6 `..`; 8, 9 a file, a directory; 10-12 a link;
  -- the others fail
  fun_cases walkComp L true cur c
  case case2 hc => rintro ⟨⟩; exact .inl ⟨rfl, .inl (List.isEmpty_iff.1 hc)⟩
  case case5 hc => rintro ⟨⟩; exact .inl ⟨rfl, .inr (eq_of_beq hc)⟩
  case case6 hc => exact fun _ => .inr (.inl (eq_of_beq hc))
  case case8 | case9 => rintro ⟨⟩; exact .inr (.inr rfl)
  case case10 | case11 | case12 => exact (nolink ‹_› ‹_›).elim
  all_goals exact nofun

theorem walkComps_nolinks (L : Listing) (hnl : noLinks L = true) : ∀ (cs : List Str) (cur n : Node),
    (∀ c ∈ cs, c ≠ ['.', '.']) → walkComps L true cur cs = some n →
    cur.loc <+: n.loc ∧ ((∀ c ∈ cs, validName c = true) → n.loc = cur.loc ++ cs) := by
  intro cs
  induction cs with
  | nil =>
    intro cur n _ h
    rw [walkComps_nil] at h
    cases h
    exact ⟨List.prefix_refl _, fun _ => (List.append_nil _).symm⟩
  | cons c cs ih =>
    intro cur n hdd h
    rw [walkComps_cons] at h
    cases h1 : walkComp L true cur c with
    | none => simp [h1] at h
    | some n1 =>
      simp only [h1, Option.bind_some] at h
      obtain ⟨h2, h3⟩ := ih n1 n (fun x hx => hdd x (List.mem_cons_of_mem _ hx)) h
      rcases walkComp_nolinks L hnl cur n1 c h1 with ⟨rfl, h0⟩ | h0 | hl
      · refine ⟨h2, fun hv => ?_⟩
        rcases h0 with h0 | h0
        · exact absurd h0 (validName_ne_nil (hv c (by simp)))
        · exact absurd h0 (validName_ne_dot (hv c (by simp)))
      · exact absurd h0 (hdd c (by simp))
      · exact ⟨(hl ▸ List.prefix_append cur.loc [c]).trans h2,
          fun hv => by rw [h3 fun x hx => hv x (List.mem_cons_of_mem _ hx), hl, List.append_assoc]; rfl⟩

theorem canon_below_nolinks (L : Listing) (hnl : noLinks L = true) (d : Loc) (hv : ∀ c ∈ d, validName c = true)
    (t : Str) (hin : inDir (dirText d) t = true) (hdd : ∀ c ∈ splitSep t, c ≠ ['.', '.']) (q : Loc)
    (hc : canon L t = some q) : d <+: q := by
  rcases List.eq_nil_or_concat d with rfl | ⟨d', c, rfl⟩
  · exact List.nil_prefix
  rw [List.concat_eq_append] at hv hin ⊢
  have hvc := hv c (by simp)
  have hp' : ∀ e ∈ d', Proper e := fun e he => .of_valid (hv e (by simp [he]))
  -- the text is `/`, the components of `d` between separators, and then nothing or a separator and more
  rw [inDir_iff, show dirText (d' ++ [c]) = joinPath (absDir d') c from
    (joinPath_absDir_comp d' (fun e he => hv e (by simp [he])) c hvc).symm] at hin
  obtain ⟨x, rfl, hx⟩ := hin.of_joinPath (absDir_ne_nil d') (.of_valid hvc)
  obtain ⟨more, hmore⟩ : ∃ more, splitSep (c ++ x) = c :: more := by
    rcases hx with rfl | hx
    · exact ⟨[], by rw [List.append_nil, splitSep_noSep (validName_noSep hvc)]⟩
    · cases x with
      | nil => cases hx
      | cons a r =>
        cases hx
        exact ⟨splitSep r, by rw [splitSep_append_sep, splitSep_noSep (validName_noSep hvc)]; rfl⟩
  rw [withSep_absDir d' hp', List.append_assoc, List.singleton_append, chain_sep_eq] at hc hdd
  have hsp : splitSep (tailOf d' (c ++ x)) = (d' ++ [c]) ++ more := by
    rw [splitSep_tailOf d' hp', hmore, List.append_cons]
  unfold canon statPath at hc
  simp only at hc
  rw [hsp, walkComps_append] at hc
  cases h1 : walkComps L true ⟨[], true⟩ (d' ++ [c]) with
  | none => simp [h1] at hc
  | some n1 =>
    simp only [h1, Option.bind_some, Option.map_eq_some_iff] at hc
    obtain ⟨n, hn, rfl⟩ := hc
    have hl1 : n1.loc = d' ++ [c] :=
      (walkComps_nolinks L hnl _ ⟨[], true⟩ n1 (fun x hx => validName_ne_dotdot (hv x hx)) h1).2 hv
    refine hl1 ▸ (walkComps_nolinks L hnl more n1 n (fun y hy => hdd y ?_) hn).1
    simp only [splitSep, isSep, beq_self_eq_true, if_true, hsp]
    exact List.mem_cons_of_mem _ (List.mem_append_right _ hy)

end Walk

/-- Every include of every file is a relative path or pattern. -/
def relativeOnly (cs : Contents) : Bool := cs.all fun e => e.2.includes.all fun pat => pat.head? != some '/'

/-- The canonical paths of the contents are made of proper names (not empty, no separator, not `.` or `..`). -/
def properKeys (cs : Contents) : Bool := cs.all fun e => e.1.all Glob.validName

/-- No decodable file is a directory of the listing. -/
def filesNotDirs (L : Listing) (cs : Contents) : Bool := cs.all fun e => (L.lookup e.1).isNone

/-- No path `get_cnf_path` returns for an include of the contents has a `..` component. -/
def dotdotFree (L : Listing) (cs : Contents) (gfuel : Nat) : Bool :=
  cs.all fun e => e.2.includes.all fun pat =>
    match Glob.resolve L.view gfuel (dirText e.1.dropLast) pat with
    | .paths ps => ps.all fun t => (Glob.splitSep t).all (· != ['.', '.'])
    | _ => true

theorem relativeOnly_iff (cs : Contents) :
    relativeOnly cs = true ↔ ∀ e ∈ cs, ∀ pat ∈ e.2.includes, pat.head? ≠ some '/' := by
  simp only [relativeOnly, List.all_eq_true, bne_iff_ne]

theorem properKeys_iff (cs : Contents) :
    properKeys cs = true ↔ ∀ e ∈ cs, ∀ c ∈ e.1, Glob.validName c = true := by
  simp only [properKeys, List.all_eq_true]

theorem filesNotDirs_iff (L : Listing) (cs : Contents) :
    filesNotDirs L cs = true ↔ ∀ e ∈ cs, L.lookup e.1 = none := by
  simp only [filesNotDirs, List.all_eq_true, Option.isNone_iff_eq_none]

theorem dotdotFree_spec (L : Listing) (cs : Contents) (gfuel : Nat) (h : dotdotFree L cs gfuel = true) :
    ∀ e ∈ cs, ∀ pat ∈ e.2.includes, ∀ ps, Glob.resolve L.view gfuel (dirText e.1.dropLast) pat = .paths ps →
      ∀ t ∈ ps, ∀ c ∈ Glob.splitSep t, c ≠ ['.', '.'] := by
  intro e he pat hp ps hres t ht c hc
  simp only [dotdotFree, List.all_eq_true] at h
  have := h e he pat hp
  rw [hres] at this
  simp only [List.all_eq_true] at this
  simpa using this t ht c hc

end AcmedVerif.ConfigGlob
