/-
Lemmas about `Model/Idna.lean`, in this order: characters; `splitOn` / `joinWith`; the punycode
encoder (alphabet, fuel); the lower-casing hypotheses, one label, the label loop; no overflow up to
3855 characters; the 4001-character overflow; the label length check, with which `to_idna` is total.
-/
import AcmedVerif.Model.Idna

namespace AcmedVerif.Idna

theorem toNat_ofNat {n : Nat} (h : n.isValidChar) : (Char.ofNat n).toNat = n := by
  simp [Char.ofNat, h, Char.ofNatAux, Char.toNat]

theorem isAscii_iff {c : Char} : isAscii c = true ↔ c.toNat < 128 := decide_eq_true_iff

theorem isAsciiUpper_iff {c : Char} : isAsciiUpper c = true ↔ 65 ≤ c.toNat ∧ c.toNat ≤ 90 := by
  simp only [isAsciiUpper, Bool.and_eq_true, decide_eq_true_eq]

theorem isAsciiUpper_false_iff {c : Char} : isAsciiUpper c = false ↔ c.toNat < 65 ∨ 90 < c.toNat := by
  rw [← Bool.not_eq_true, isAsciiUpper_iff]; omega

theorem isAsciiLower_iff {c : Char} : isAsciiLower c = true ↔ 97 ≤ c.toNat ∧ c.toNat ≤ 122 := by
  simp only [isAsciiLower, Bool.and_eq_true, decide_eq_true_eq]

theorem isAsciiDigit_iff {c : Char} : isAsciiDigit c = true ↔ 48 ≤ c.toNat ∧ c.toNat ≤ 57 := by
  simp only [isAsciiDigit, Bool.and_eq_true, decide_eq_true_eq]

/-- The facts about `asciiLower` below are arithmetic on this code point. -/
theorem asciiLower_toNat (c : Char) :
    (asciiLower c).toNat = if isAsciiUpper c then c.toNat + 32 else c.toNat := by
  unfold asciiLower
  split
  · rename_i h
    exact toNat_ofNat (Or.inl (by have := isAsciiUpper_iff.1 h; omega))
  · rfl

theorem asciiLower_of_not_upper {c : Char} (h : isAsciiUpper c = false) : asciiLower c = c := by
  simp only [asciiLower, h, Bool.false_eq_true, if_false]

theorem asciiLower_not_upper (c : Char) : isAsciiUpper (asciiLower c) = false := by
  rw [isAsciiUpper_false_iff, asciiLower_toNat]
  split
  · rename_i h; have := isAsciiUpper_iff.1 h; omega
  · rename_i h; exact isAsciiUpper_false_iff.1 (Bool.not_eq_true _ ▸ h)

theorem asciiLower_ascii {c : Char} (h : isAscii c = true) : isAscii (asciiLower c) = true := by
  rw [isAscii_iff] at h ⊢
  rw [asciiLower_toNat]
  split
  · rename_i hu; have := isAsciiUpper_iff.1 hu; omega
  · exact h

theorem asciiLower_dot (c : Char) (h : asciiLower c = '.') : c = '.' := by
  by_cases hu : isAsciiUpper c = true
  · have := congrArg Char.toNat h
    rw [asciiLower_toNat, if_pos hu] at this
    have := isAsciiUpper_iff.1 hu
    have : '.'.toNat = 46 := rfl
    omega
  · rwa [asciiLower_of_not_upper (by simpa using hu)] at h

/-- `encode_digit`: `0..25` to `a..z`, `26..35` to `0..9`. -/
theorem encodeDigit_ok :
    ∀ d, d < 36 → (isAsciiLower (encodeDigit d) || isAsciiDigit (encodeDigit d)) = true := by
  decide

variable (sep : Char)

theorem splitOn_ne_nil (s : List Char) : splitOn sep s ≠ [] := by
  cases s with
  | nil => simp [splitOn]
  | cons c cs =>
    unfold splitOn
    split
    · simp
    · split <;> simp

theorem splitOn_cons_sep (cs : List Char) :
    splitOn sep (sep :: cs) = [] :: splitOn sep cs := by
  simp [splitOn]

theorem splitOn_cons_ne (c : Char) (cs : List Char) (h : c ≠ sep) :
    ∃ p ps, splitOn sep cs = p :: ps ∧ splitOn sep (c :: cs) = (c :: p) :: ps := by
  cases hs : splitOn sep cs with
  | nil => exact absurd hs (splitOn_ne_nil sep cs)
  | cons p ps =>
    refine ⟨p, ps, rfl, ?_⟩
    simp [splitOn, h, hs]

theorem joinWith_cons_cons (p q : List Char) (ps : List (List Char)) :
    joinWith sep (p :: q :: ps) = p ++ sep :: joinWith sep (q :: ps) := rfl

theorem join_split (s : List Char) : joinWith sep (splitOn sep s) = s := by
  induction s with
  | nil => rfl
  | cons c cs ih =>
    by_cases h : c = sep
    · subst h
      obtain ⟨p, ps, hps⟩ := List.exists_cons_of_ne_nil (splitOn_ne_nil c cs)
      rw [splitOn_cons_sep, hps, joinWith_cons_cons, ← hps, ih]; rfl
    · obtain ⟨p, ps, h1, h2⟩ := splitOn_cons_ne sep c cs h
      rw [h2]
      rw [h1] at ih
      cases ps with
      | nil => simp only [joinWith] at ih ⊢; rw [ih]
      | cons q qs =>
        rw [joinWith_cons_cons] at ih ⊢
        rw [← ih]; rfl

theorem splitOn_no_sep (s : List Char) : ∀ p ∈ splitOn sep s, sep ∉ p := by
  induction s with
  | nil => simp [splitOn]
  | cons c cs ih =>
    by_cases h : c = sep
    · subst h
      rw [splitOn_cons_sep]
      simpa using ih
    · obtain ⟨p, ps, h1, h2⟩ := splitOn_cons_ne sep c cs h
      rw [h1] at ih
      rw [h2]
      intro q hq hm
      rcases List.mem_cons.1 hq with rfl | hq
      · exact (List.mem_cons.1 hm).elim (fun e => h e.symm) (ih p List.mem_cons_self)
      · exact ih q (List.mem_cons_of_mem _ hq) hm

theorem splitOn_of_no_sep (p : List Char) (h : sep ∉ p) : splitOn sep p = [p] := by
  induction p with
  | nil => rfl
  | cons c cs ih =>
    have hc : c ≠ sep := fun e => h (e ▸ List.mem_cons_self)
    have hcs : sep ∉ cs := fun m => h (List.mem_cons_of_mem _ m)
    obtain ⟨p, ps, h1, h2⟩ := splitOn_cons_ne sep c cs hc
    rw [h2]
    rw [ih hcs] at h1
    cases h1; rfl

theorem splitOn_append_sep (p rest : List Char) (h : sep ∉ p) :
    splitOn sep (p ++ sep :: rest) = p :: splitOn sep rest := by
  induction p with
  | nil => exact splitOn_cons_sep sep rest
  | cons c cs ih =>
    have hc : c ≠ sep := fun e => h (e ▸ List.mem_cons_self)
    have hcs : sep ∉ cs := fun m => h (List.mem_cons_of_mem _ m)
    obtain ⟨q, qs, h1, h2⟩ := splitOn_cons_ne sep c (cs ++ sep :: rest) hc
    rw [List.cons_append, h2]
    rw [ih hcs] at h1
    cases h1; rfl

theorem split_join (ps : List (List Char)) (hne : ps ≠ [])
    (h : ∀ p ∈ ps, sep ∉ p) : splitOn sep (joinWith sep ps) = ps := by
  induction ps with
  | nil => exact absurd rfl hne
  | cons p ps ih =>
    cases ps with
    | nil => exact splitOn_of_no_sep sep p (h p List.mem_cons_self)
    | cons q qs =>
      rw [joinWith_cons_cons, splitOn_append_sep sep p _ (h p List.mem_cons_self)]
      rw [ih (by simp) (fun r hr => h r (List.mem_cons_of_mem _ hr))]

theorem splitOn_length (s : List Char) :
    (splitOn sep s).length = s.count sep + 1 := by
  induction s with
  | nil => rfl
  | cons c cs ih =>
    by_cases h : c = sep
    · subst h
      rw [splitOn_cons_sep]
      simp [ih]
    · obtain ⟨p, ps, h1, h2⟩ := splitOn_cons_ne sep c cs h
      rw [h2]
      rw [h1] at ih
      simp only [List.length_cons] at ih ⊢
      rw [List.count_cons_of_ne h]
      exact ih

theorem mem_joinWith (ls : List (List Char)) (c : Char) :
    c ∈ joinWith sep ls → c = sep ∨ ∃ l ∈ ls, c ∈ l := by
  induction ls with
  | nil => intro h; simp [joinWith] at h
  | cons l ls ih =>
    cases ls with
    | nil => intro h; exact Or.inr ⟨l, List.mem_cons_self, h⟩
    | cons q qs =>
      intro h
      rw [joinWith_cons_cons] at h
      rcases List.mem_append.1 h with h | h
      · exact Or.inr ⟨l, List.mem_cons_self, h⟩
      · rcases List.mem_cons.1 h with h | h
        · exact Or.inl h
        · rcases ih h with h | ⟨l', hl', hc⟩
          · exact Or.inl h
          · exact Or.inr ⟨l', List.mem_cons_of_mem _ hl', hc⟩

theorem mem_joinWith_of_mem (ls : List (List Char)) (l : List Char) (c : Char)
    (hl : l ∈ ls) (hc : c ∈ l) : c ∈ joinWith sep ls := by
  induction ls with
  | nil => simp at hl
  | cons a as ih =>
    cases as with
    | nil =>
      simp only [List.mem_singleton] at hl
      subst hl; exact hc
    | cons q qs =>
      rw [joinWith_cons_cons]
      rcases List.mem_cons.1 hl with rfl | hl
      · exact List.mem_append_left _ hc
      · exact List.mem_append_right _ (List.mem_cons_of_mem _ (ih hl))

theorem mem_of_mem_splitOn (s p : List Char) (c : Char) (hp : p ∈ splitOn sep s)
    (hc : c ∈ p) : c ∈ s := by
  have := mem_joinWith_of_mem sep (splitOn sep s) p c hp hc
  rwa [join_split] at this

theorem exists_zip_of_mem_right {α β : Type} (as : List α) (bs : List β)
    (h : bs.length = as.length) (b : β) (hb : b ∈ bs) : ∃ a, (a, b) ∈ as.zip bs := by
  obtain ⟨i, hi, rfl⟩ := List.mem_iff_getElem.1 hb
  exact ⟨as[i]'(h ▸ hi), List.mem_iff_getElem.2 ⟨i, by simp [h, h ▸ hi], by simp⟩⟩

theorem exists_zip_of_mem_left {α β : Type} (as : List α) (bs : List β)
    (h : bs.length = as.length) (a : α) (ha : a ∈ as) : ∃ b, (a, b) ∈ as.zip bs := by
  obtain ⟨i, hi, rfl⟩ := List.mem_iff_getElem.1 ha
  exact ⟨bs[i]'(h ▸ hi), List.mem_iff_getElem.2 ⟨i, by simp [h, hi], by simp⟩⟩

theorem clampedSub_bounds (k b : Nat) : 1 ≤ clampedSub 1 k b 26 ∧ clampedSub 1 k b 26 ≤ 26 := by
  unfold clampedSub
  split
  · omega
  · split
    · omega
    · omega

/-- Every character pushed by the digit loop is in `a-z0-9` (so the `assert!` of `encode_digit`
cannot fire), provided the fuel is at least `q` (it is: the loop is started with fuel `delta = q`). -/
theorem emitDigits_shape (f k q bias : Nat) (hf : q ≤ f) :
    ∀ c ∈ emitDigits f k q bias, isAsciiLower c = true ∨ isAsciiDigit c = true := by
  induction f generalizing k q with
  | zero =>
    intro c hc
    have hq : q = 0 := by omega
    subst hq
    simp only [emitDigits, List.mem_singleton] at hc
    subst hc
    simpa using encodeDigit_ok 0 (by omega)
  | succ f ih =>
    intro c hc
    have hb := clampedSub_bounds k bias
    simp only [emitDigits] at hc
    split at hc
    · rename_i hlt
      simp only [List.mem_singleton] at hc
      subst hc
      simpa using encodeDigit_ok q (by omega)
    · rename_i hge
      rcases List.mem_cons.1 hc with rfl | hc
      · have hmod : (q - clampedSub 1 k bias 26) % (36 - clampedSub 1 k bias 26)
            < 36 - clampedSub 1 k bias 26 := Nat.mod_lt _ (by omega)
        simpa using encodeDigit_ok _ (by omega)
      · refine ih (k + 36) _ ?_ c hc
        have : (q - clampedSub 1 k bias 26) / (36 - clampedSub 1 k bias 26)
            ≤ q - clampedSub 1 k bias 26 := Nat.div_le_self _ _
        omega

/-- The state after the loop has met the current code point `n`: the digits of `delta` emitted, the
bias adapted, one more character handled (`lib.rs:170-189`). -/
def St.emit (b : Nat) (st : St) : St :=
  { st with
    out := st.out ++ emitDigits st.delta 36 st.delta st.bias
    bias := adapt st.delta (st.h + 1) (st.h == b)
    delta := 0
    h := st.h + 1 }

/-! One turn of the `for c in input` loop, by where `c` lies relative to `n`. -/

theorem inner_lt {p : Profile} {b : Nat} {c : Char} {cs : List Char} {st : St} (h : c.toNat < st.n) :
    inner p b (c :: cs) st = (incr p st.delta).bind fun d => inner p b cs { st with delta := d } := by
  simp only [inner, h, if_true]
  cases incr p st.delta <;> rfl

theorem inner_eq {p : Profile} {b : Nat} {c : Char} {cs : List Char} {st : St} (h : c.toNat = st.n) :
    inner p b (c :: cs) st = inner p b cs (st.emit b) := by
  simp only [inner, h, Nat.lt_irrefl, if_false, if_true, St.emit]

theorem inner_gt {p : Profile} {b : Nat} {c : Char} {cs : List Char} {st : St} (h : st.n < c.toNat) :
    inner p b (c :: cs) st = inner p b cs st := by
  simp only [inner, if_neg (Nat.lt_asymm h), if_neg (Nat.ne_of_gt h)]

variable (p : Profile) (b : Nat)

theorem inner_spec (G : Char → Prop)
    (hG : ∀ c, isAsciiLower c = true ∨ isAsciiDigit c = true → G c) (cs : List Char) :
    ∀ st st', inner p b cs st = some st' →
      st'.n = st.n ∧ st'.h = st.h + cs.countP (fun c => c.toNat = st.n) ∧
      ((∀ c ∈ st.out, G c) → ∀ c ∈ st'.out, G c) := by
  induction cs with
  | nil => intro st st' h; cases h; exact ⟨rfl, rfl, id⟩
  | cons c cs ih =>
    intro st st' h
    rcases Nat.lt_trichotomy c.toNat st.n with hc | hc | hc
    · rw [inner_lt hc] at h
      obtain ⟨d, _, h⟩ := Option.bind_eq_some_iff.1 h
      obtain ⟨h1, h2, h3⟩ := ih _ _ h
      exact ⟨h1, by rw [h2, List.countP_cons_of_neg (by simpa using Nat.ne_of_lt hc)], h3⟩
    · rw [inner_eq hc] at h
      obtain ⟨h1, h2, h3⟩ := ih _ _ h
      refine ⟨h1, ?_, fun hout => h3 fun x hx => ?_⟩
      · rw [h2, List.countP_cons_of_pos (by simpa using hc)]
        exact Nat.add_right_comm _ _ _
      · rcases List.mem_append.1 hx with hx | hx
        · exact hout x hx
        · exact hG x (emitDigits_shape _ _ _ _ (Nat.le_refl _) x hx)
    · rw [inner_gt hc] at h
      obtain ⟨h1, h2, h3⟩ := ih _ _ h
      exact ⟨h1, by rw [h2, List.countP_cons_of_neg (by simpa using Nat.ne_of_gt hc)], h3⟩

theorem minGe_cases (n : Nat) (cs : List Char) :
    (minGe n cs = none ∧ ∀ c ∈ cs, c.toNat < n) ∨
    ∃ m, minGe n cs = some m ∧ n ≤ m ∧ (∃ c ∈ cs, c.toNat = m) ∧
      ∀ c ∈ cs, n ≤ c.toNat → m ≤ c.toNat := by
  induction cs with
  | nil => exact .inl ⟨rfl, fun _ h => nomatch h⟩
  | cons c cs ih =>
    by_cases hc : c.toNat ≥ n
    · refine .inr ?_
      rcases ih with ⟨h0, hall⟩ | ⟨m, h0, h1, ⟨x, hx, hxm⟩, h3⟩
      · refine ⟨c.toNat, by simp only [minGe, hc, if_true, h0], hc, ⟨c, List.mem_cons_self, rfl⟩,
          fun x hx hxn => ?_⟩
        rcases List.mem_cons.1 hx with rfl | hx
        · exact Nat.le_refl _
        · exact absurd (hall x hx) (Nat.not_lt.2 hxn)
      · refine ⟨Nat.min c.toNat m, by simp only [minGe, hc, if_true, h0], Nat.le_min.2 ⟨hc, h1⟩, ?_,
          fun y hy hyn => ?_⟩
        · rcases Nat.le_total c.toNat m with h | h
          · exact ⟨c, List.mem_cons_self, (Nat.min_eq_left h).symm⟩
          · exact ⟨x, List.mem_cons_of_mem _ hx, hxm.trans (Nat.min_eq_right h).symm⟩
        · rcases List.mem_cons.1 hy with rfl | hy
          · exact Nat.min_le_left _ _
          · exact Nat.le_trans (Nat.min_le_right _ _) (h3 y hy hyn)
    · have hmin : minGe n (c :: cs) = minGe n cs := by simp only [minGe, hc, if_false]
      rw [hmin]
      refine ih.imp (fun h => ⟨h.1, fun x hx => ?_⟩) fun ⟨m, h0, h1, ⟨x, hx, hxm⟩, h3⟩ =>
        ⟨m, h0, h1, ⟨x, List.mem_cons_of_mem _ hx, hxm⟩, fun y hy hyn => ?_⟩
      · rcases List.mem_cons.1 hx with rfl | hx
        · exact Nat.lt_of_not_le hc
        · exact h.2 x hx
      · rcases List.mem_cons.1 hy with rfl | hy
        · exact absurd hyn hc
        · exact h3 y hy hyn

theorem minGe_some (n : Nat) (cs : List Char) (m : Nat) (h : minGe n cs = some m) :
    n ≤ m ∧ (∃ c ∈ cs, c.toNat = m) ∧ ∀ c ∈ cs, n ≤ c.toNat → m ≤ c.toNat := by
  rcases minGe_cases n cs with h' | ⟨m', h', h1⟩
  · rw [h] at h'; cases h'.1
  · rw [h] at h'; cases h'; exact h1

theorem minGe_eq_of (n : Nat) (cs : List Char) (x : Char) (hx : x ∈ cs) (hxn : n ≤ x.toNat)
    (hmin : ∀ c ∈ cs, n ≤ c.toNat → x.toNat ≤ c.toNat) : minGe n cs = some x.toNat := by
  rcases minGe_cases n cs with ⟨_, h⟩ | ⟨m, h, h1, ⟨c, hc, hcm⟩, h3⟩
  · exact absurd (h x hx) (Nat.not_lt.2 hxn)
  · rw [h, Nat.le_antisymm (h3 x hx hxn) (hcm ▸ hmin c hc (hcm ▸ h1))]

/-! One turn of the `while` loop: going on, or panicking in `delta += 1`. -/

theorem outer_step {input : List Char} {f : Nat} {st st2 : St} {m d : Nat}
    (hlt : st.h < input.length) (hm : minGe st.n input = some m)
    (hcheck : ¬ m - st.n > (u32Max - st.delta) / (st.h + 1))
    (hin : inner p b input { st with delta := st.delta + (m - st.n) * (st.h + 1), n := m } = some st2)
    (hd : incr p st2.delta = some d) :
    outer p b input (f + 1) st = outer p b input f { st2 with delta := d, n := st2.n + 1 } := by
  simp only [outer, hlt, if_true, hm, hcheck, if_false, hin, hd]

theorem outer_step_panic {input : List Char} {f : Nat} {st : St} {m : Nat}
    (hlt : st.h < input.length) (hm : minGe st.n input = some m)
    (hcheck : ¬ m - st.n > (u32Max - st.delta) / (st.h + 1))
    (hin : inner p b input { st with delta := st.delta + (m - st.n) * (st.h + 1), n := m } = none) :
    outer p b input (f + 1) st = .panic := by
  simp only [outer, hlt, if_true, hm, hcheck, if_false, hin]

theorem outer_out (input : List Char) (G : Char → Prop)
    (hG : ∀ c, isAsciiLower c = true ∨ isAsciiDigit c = true → G c) (f : Nat) :
    ∀ st out, outer p b input f st = .ok out → (∀ c ∈ st.out, G c) → ∀ c ∈ out, G c := by
  induction f with
  | zero =>
    intro st out h hst
    simp only [outer] at h
    split at h
    · exact absurd h (by simp)
    · simp only [Res.ok.injEq] at h; subst h; exact hst
  | succ f ih =>
    intro st out h hst
    simp only [outer] at h
    split at h
    · split at h
      · exact absurd h (by simp)
      · split at h
        · exact absurd h (by simp)
        · split at h
          · exact absurd h (by simp)
          · rename_i st2 hin
            split at h
            · exact absurd h (by simp)
            · refine ih _ out h ?_
              exact (inner_spec p b G hG input _ _ hin).2.2 hst
    · simp only [Res.ok.injEq] at h; subst h; exact hst

/-- Measure `f + st.h`: a turn handles the least `m ≥ n`, which occurs, so `h` grows. -/
theorem outer_fuel (input : List Char) (f : Nat) :
    ∀ st, input.length < f + st.h → outer p b input f st ≠ .fuel := by
  induction f with
  | zero =>
    intro st hlt
    simp only [outer]
    split
    · omega
    · simp
  | succ f ih =>
    intro st hlt
    simp only [outer]
    split
    · split
      · simp
      · rename_i m hm
        split
        · simp
        · split
          · simp
          · rename_i st2 hin
            split
            · simp
            · apply ih
              obtain ⟨_, ⟨x, hx, hxm⟩, _⟩ := minGe_some _ _ _ hm
              have h2 := (inner_spec p b (fun _ => True) (fun _ _ => trivial) input _ _ hin).2.1
              have : 0 < input.countP (fun c => c.toNat = m) :=
                List.countP_pos_iff.2 ⟨x, hx, by simpa using hxm⟩
              simp only at h2 ⊢
              omega
    · simp

theorem punycode_fuel_enough (input : List Char) :
    punycodeEncodeP p input ≠ .fuel := by
  unfold punycodeEncodeP
  apply outer_fuel
  simp only
  omega

/-- Alphabet of the encoder's output. -/
def Good (input : List Char) (c : Char) : Prop :=
  (c ∈ input ∧ isAscii c = true) ∨ c = '-' ∨ isAsciiLower c = true ∨ isAsciiDigit c = true

theorem punycode_good (input out : List Char)
    (h : punycodeEncodeP p input = .ok out) : ∀ c ∈ out, Good input c := by
  unfold punycodeEncodeP at h
  refine outer_out p _ input (Good input) (fun c hc => .inr (.inr hc)) _ _ out h fun c hc => ?_
  have hbasic : ∀ c ∈ input.filter isAscii, Good input c := fun c hc => .inl (List.mem_filter.1 hc)
  simp only at hc
  split at hc
  · exact (List.mem_append.1 hc).elim (hbasic c) fun hc => .inr (.inl (List.mem_singleton.1 hc))
  · exact hbasic c hc

theorem Good.facts {input : List Char} {c : Char} (h : Good input c) :
    isAscii c = true ∧ ((∀ d ∈ input, isAsciiUpper d = false) → isAsciiUpper c = false) ∧
      ('.' ∉ input → c ≠ '.') := by
  rcases h with h | rfl | h | h
  · exact ⟨h.2, fun hin => hin c h.1, fun hin e => hin (e ▸ h.1)⟩
  · exact ⟨by decide, fun _ => by decide, fun _ => by decide⟩
  · have := isAsciiLower_iff.1 h
    exact ⟨isAscii_iff.2 (by omega), fun _ => isAsciiUpper_false_iff.2 (by omega),
      fun _ e => absurd (e ▸ h) (by decide)⟩
  · have := isAsciiDigit_iff.1 h
    exact ⟨isAscii_iff.2 (by omega), fun _ => isAsciiUpper_false_iff.2 (by omega),
      fun _ e => absurd (e ▸ h) (by decide)⟩

/-- `str::to_lowercase` agrees with ASCII lower-casing on all-ASCII strings (upper-case ASCII
letters to lower-case, every other ASCII character fixed). Nothing is asked about strings that
contain a non-ASCII character. -/
structure LowerAscii (lowerStr : List Char → List Char) : Prop where
  ascii : ∀ s, allAscii s = true → lowerStr s = s.map asciiLower

/-- Lower-casing never PRODUCES an upper-case ASCII letter (true of Unicode: the only characters
whose lower-case mapping contains an ASCII character map to ASCII lower-case letters). -/
structure LowerNoUpper (lowerStr : List Char → List Char) : Prop where
  noUpper : ∀ s c, c ∈ lowerStr s → isAsciiUpper c = false

/-- Lower-casing never produces a full stop out of nothing. -/
structure LowerNoDot (lowerStr : List Char → List Char) : Prop where
  noDot : ∀ s, '.' ∉ s → '.' ∉ lowerStr s

/-- Per-character version: ASCII upper to ASCII lower, other ASCII fixed, non-ASCII anything. -/
structure LowerCharAscii (lower : Char → List Char) : Prop where
  ascii : ∀ c, isAscii c = true → lower c = [asciiLower c]

theorem liftLower_ascii {lower : Char → List Char} (h : LowerCharAscii lower) :
    LowerAscii (liftLower lower) := by
  constructor
  intro s hs
  induction s with
  | nil => rfl
  | cons c cs ih =>
    simp only [allAscii, List.all_cons, Bool.and_eq_true] at hs
    simp only [liftLower, List.flatMap_cons, List.map_cons]
    rw [h.ascii c hs.1]
    have := ih (by simpa [allAscii] using hs.2)
    simp only [liftLower] at this
    rw [this]; rfl

theorem liftLower_noUpper {lower : Char → List Char}
    (h : ∀ c d, d ∈ lower c → isAsciiUpper d = false) : LowerNoUpper (liftLower lower) := by
  constructor
  intro s c hc
  simp only [liftLower, List.mem_flatMap] at hc
  obtain ⟨a, _, ha⟩ := hc
  exact h a c ha

theorem liftLower_noDot {lower : Char → List Char}
    (h : ∀ c, c ≠ '.' → '.' ∉ lower c) : LowerNoDot (liftLower lower) := by
  constructor
  intro s hs hc
  simp only [liftLower, List.mem_flatMap] at hc
  obtain ⟨a, ha, hd⟩ := hc
  exact h a (fun e => hs (e ▸ ha)) hd

/-- ASCII lower-casing, identity outside ASCII. -/
def lowerAsciiOnly (c : Char) : List Char := [asciiLower c]

theorem lowerAsciiOnly_ascii : LowerCharAscii lowerAsciiOnly := ⟨fun _ _ => rfl⟩

theorem lowerAsciiOnly_noUpper : LowerNoUpper (liftLower lowerAsciiOnly) :=
  liftLower_noUpper (by
    intro c d hd
    simp only [lowerAsciiOnly, List.mem_singleton] at hd
    subst hd
    exact asciiLower_not_upper c)

theorem lowerAsciiOnly_noDot : LowerNoDot (liftLower lowerAsciiOnly) :=
  liftLower_noDot (by
    intro c hc hd
    simp only [lowerAsciiOnly, List.mem_singleton] at hd
    exact hc (asciiLower_dot c hd.symm))

theorem map_asciiLower_ascii (s : List Char) (hs : allAscii s = true) :
    allAscii (s.map asciiLower) = true ∧ (∀ c ∈ s.map asciiLower, isAsciiUpper c = false) ∧
    ('.' ∉ s → '.' ∉ s.map asciiLower) ∧
    ((∀ c ∈ s, isAsciiUpper c = false) → s.map asciiLower = s) := by
  simp only [allAscii, List.all_eq_true, List.mem_map, forall_exists_index, and_imp,
    forall_apply_eq_imp_iff₂] at hs ⊢
  refine ⟨fun c hc => asciiLower_ascii (hs c hc), fun c _ => asciiLower_not_upper c,
    fun hd ⟨c, hc, e⟩ => hd (asciiLower_dot c e ▸ hc), fun hu => ?_⟩
  conv => rhs; rw [← List.map_id s]
  exact List.map_congr_left fun c hc => asciiLower_of_not_upper (hu c hc)

/-- What `to_idna` does to one label. -/
structure LabelShape (lowerStr : List Char → List Char) (p : Profile) (name l : List Char) :
    Prop where
  /-- the output label is ASCII -/
  ascii : allAscii l = true
  /-- an all-ASCII label is only lower-cased -/
  asciiCase : allAscii name = true → l = name.map asciiLower
  /-- a label with a non-ASCII character becomes `xn--` + punycode of its lower-cased form -/
  idnCase : allAscii name = false →
    ∃ o, punycodeEncodeP p (lowerStr name) = .ok o ∧ l = xnPrefix ++ o
  /-- the wildcard label is kept -/
  star : name = ['*'] → l = ['*']

variable {lowerStr : List Char → List Char}

theorem idnaLabelG_ok {chk : Bool} {p : Profile}
    {name l : List Char} (h : idnaLabelG chk lowerStr p name = .ok l) :
    (chk = true → name.length ≤ maxLabelChars) ∧
    (allAscii name = true ∧ l = lowerStr name ∨
      allAscii name = false ∧ ∃ o, punycodeEncodeP p (lowerStr name) = .ok o ∧ l = xnPrefix ++ o) := by
  unfold idnaLabelG at h
  by_cases hc : (chk && decide (name.length > maxLabelChars)) = true
  · rw [if_pos hc] at h; cases h
  · rw [if_neg hc] at h
    refine ⟨fun e => by subst e; simpa using hc, ?_⟩
    by_cases hn : allAscii name = true
    · simp only [hn, if_true, Res.ok.injEq] at h
      exact .inl ⟨hn, h.symm⟩
    · simp only [hn, Bool.false_eq_true, if_false] at h
      cases ho : punycodeEncodeP p (lowerStr name) <;> rw [ho] at h <;> cases h
      exact .inr ⟨by simpa using hn, _, rfl, rfl⟩

theorem idnaLabelG_of_short {chk : Bool} {p : Profile}
    {name : List Char} (h : chk = true → name.length ≤ maxLabelChars) :
    idnaLabelG chk lowerStr p name =
      if allAscii name then .ok (lowerStr name)
      else match punycodeEncodeP p (lowerStr name) with
        | .ok o => .ok (xnPrefix ++ o)
        | r => r := by
  have hc : (chk && decide (name.length > maxLabelChars)) = false := by
    cases chk
    · rfl
    · simpa using h rfl
  simp only [idnaLabelG, hc, Bool.false_eq_true, if_false]
  rfl

theorem xnPrefix_ok : ∀ c ∈ xnPrefix, isAscii c = true ∧ isAsciiUpper c = false ∧ c ≠ '.' := by
  decide

theorem idnaLabel_facts (hA : LowerAscii lowerStr) (chk : Bool) (p : Profile) (name l : List Char)
    (h : idnaLabelG chk lowerStr p name = .ok l) :
    LabelShape lowerStr p name l ∧ (LowerNoUpper lowerStr → ∀ c ∈ l, isAsciiUpper c = false) ∧
      (LowerNoDot lowerStr → '.' ∉ name → '.' ∉ l) := by
  rcases (idnaLabelG_ok h).2 with ⟨hn, rfl⟩ | ⟨hn, o, ho, rfl⟩
  · rw [hA.ascii name hn]
    obtain ⟨m1, m2, m3, _⟩ := map_asciiLower_ascii name hn
    exact ⟨⟨m1, fun _ => rfl, fun h' => (by rw [hn] at h'; cases h'), fun hs => (by subst hs; rfl)⟩,
      fun _ => m2, fun _ => m3⟩
  · have hg := punycode_good p _ o ho
    refine ⟨⟨?_, fun h' => (by rw [hn] at h'; cases h'), fun _ => ⟨o, ho, rfl⟩,
      fun hs => (by subst hs; cases hn)⟩, fun hU c hc => ?_, fun hD hname hc => ?_⟩
    · exact List.all_eq_true.2 fun c hc =>
        (List.mem_append.1 hc).elim (fun hc => (xnPrefix_ok c hc).1) fun hc => (hg c hc).facts.1
    · exact (List.mem_append.1 hc).elim (fun hc => (xnPrefix_ok c hc).2.1)
        fun hc => (hg c hc).facts.2.1 (hU.noUpper name)
    · exact (List.mem_append.1 hc).elim (fun hc => (xnPrefix_ok _ hc).2.2 rfl)
        fun hc => (hg '.' hc).facts.2.2 (hD.noDot name hname) rfl

theorem idnaLabelsG_cases (chk : Bool) (p : Profile)
    (names : List (List Char)) :
    (∃ ls, idnaLabelsG chk lowerStr p names = .ok ls ∧ ls.length = names.length ∧
      ∀ x ∈ names.zip ls, idnaLabelG chk lowerStr p x.1 = .ok x.2) ∨
    ∃ e, idnaLabelsG chk lowerStr p names = .error e ∧ (∀ o, e ≠ .ok o) ∧
      ∃ name ∈ names, idnaLabelG chk lowerStr p name = e := by
  induction names with
  | nil => exact .inl ⟨[], rfl, rfl, fun _ h => nomatch h⟩
  | cons n ns ih =>
    rcases hl : idnaLabelG chk lowerStr p n with l | _ | _ | _
    case ok =>
      rcases ih with ⟨ls, h1, h2, h3⟩ | ⟨e, h1, h2, m, hm, h3⟩
      · refine .inl ⟨l :: ls, by simp only [idnaLabelsG, hl, h1], congrArg (· + 1) h2, fun x hx => ?_⟩
        rcases List.mem_cons.1 hx with rfl | hx
        · exact hl
        · exact h3 x hx
      · exact .inr ⟨e, by simp only [idnaLabelsG, hl, h1], h2, m, List.mem_cons_of_mem _ hm, h3⟩
    all_goals
      exact .inr ⟨_, by simp only [idnaLabelsG, hl], (by intro _ h; cases h), n, List.mem_cons_self, hl⟩

theorem toIdnaStrG_ok (chk : Bool) (p : Profile)
    (domain out : List Char) (h : toIdnaStrG chk lowerStr p domain = .ok out) :
    ∃ ls, out = joinWith '.' ls ∧ ls.length = (splitOn '.' domain).length ∧
      ∀ x ∈ (splitOn '.' domain).zip ls, idnaLabelG chk lowerStr p x.1 = .ok x.2 := by
  unfold toIdnaStrG at h
  rcases idnaLabelsG_cases chk p (splitOn '.' domain) with ⟨ls, h1, h2, h3⟩ | ⟨e, h1, h2, _⟩
  · rw [h1] at h
    cases h
    exact ⟨ls, rfl, h2, h3⟩
  · rw [h1] at h
    exact absurd h (h2 out)

theorem toIdnaStrG_split (hA : LowerAscii lowerStr) (hD : LowerNoDot lowerStr) (chk : Bool)
    (p : Profile) (domain out : List Char) (h : toIdnaStrG chk lowerStr p domain = .ok out) :
    (splitOn '.' out).length = (splitOn '.' domain).length ∧
      ∀ x ∈ (splitOn '.' domain).zip (splitOn '.' out), idnaLabelG chk lowerStr p x.1 = .ok x.2 := by
  obtain ⟨ls, rfl, hlen, hz⟩ := toIdnaStrG_ok chk p domain out h
  rw [split_join '.' ls (fun e => ?_) (fun l hl => ?_)]
  · exact ⟨hlen, hz⟩
  · subst e
    exact splitOn_ne_nil '.' domain (List.eq_nil_of_length_eq_zero hlen.symm)
  · obtain ⟨name, hn⟩ := exists_zip_of_mem_right _ ls hlen l hl
    exact (idnaLabel_facts hA chk p name l (hz _ hn)).2.2 hD
      (splitOn_no_sep '.' domain name (List.of_mem_zip hn).1)

theorem idnaLabels_self (hA : LowerAscii lowerStr)
    (chk : Bool) (p : Profile) (names : List (List Char))
    (h : ∀ n ∈ names, allAscii n = true ∧ ∀ c ∈ n, isAsciiUpper c = false)
    (hlen : chk = true → ∀ n ∈ names, n.length ≤ maxLabelChars) :
    idnaLabelsG chk lowerStr p names = .ok names := by
  induction names with
  | nil => rfl
  | cons n ns ih =>
    obtain ⟨h1, h2⟩ := h n List.mem_cons_self
    have hl : idnaLabelG chk lowerStr p n = .ok n := by
      rw [idnaLabelG_of_short fun hc => hlen hc n List.mem_cons_self, if_pos h1, hA.ascii n h1,
        (map_asciiLower_ascii n h1).2.2.2 h2]
    simp only [idnaLabelsG, hl, ih (fun m hm => h m (List.mem_cons_of_mem _ hm))
      (fun hc m hm => hlen hc m (List.mem_cons_of_mem _ hm))]

/-! ## Inputs of at most 3855 characters: no `delta += 1` overflows, the checked multiplication
passes, `min().unwrap()` finds a character; the profiles agree and the encoder succeeds. -/

theorem char_toNat_lt (c : Char) : c.toNat < 0x110000 := by
  have := c.valid
  simp only [Char.toNat]
  rcases this with h | h
  · have : c.val.toNat < 0xd800 := h
    omega
  · have : c.val.toNat < 0x110000 := h.2
    omega

theorem incr_ok (d : Nat) (h : d + 1 ≤ u32Max) : incr p d = some (d + 1) := by
  simp [incr, h]

/-- Third clause: `delta` ends below the number of characters after the last occurrence of `n`. -/
theorem inner_noovf (cs : List Char) :
    ∀ st, st.delta + cs.length ≤ u32Max →
      ∃ st', (∀ p, inner p b cs st = some st') ∧ st'.delta ≤ st.delta + cs.length ∧
        ((∃ c ∈ cs, c.toNat = st.n) → st'.delta + 1 ≤ cs.length) := by
  induction cs with
  | nil => intro st _; exact ⟨st, fun _ => rfl, Nat.le_refl _, fun ⟨_, h, _⟩ => nomatch h⟩
  | cons c cs ih =>
    intro st hb
    simp only [List.length_cons] at hb ⊢
    rcases Nat.lt_trichotomy c.toNat st.n with hc | hc | hc
    · obtain ⟨st', h1, h2, h3⟩ := ih { st with delta := st.delta + 1 } (by simp only; omega)
      refine ⟨st', fun p => ?_, by simp only at h2; omega, ?_⟩
      · rw [inner_lt hc, incr_ok p _ (by omega)]; exact h1 p
      · rintro ⟨x, hx, hxn⟩
        rcases List.mem_cons.1 hx with rfl | hx
        · omega
        · have := h3 ⟨x, hx, hxn⟩; omega
    · obtain ⟨st', h1, h2, _⟩ := ih (st.emit b) (by simp only [St.emit]; omega)
      simp only [St.emit] at h2
      exact ⟨st', fun p => by rw [inner_eq hc]; exact h1 p, by omega, fun _ => by omega⟩
    · obtain ⟨st', h1, h2, h3⟩ := ih st (by omega)
      refine ⟨st', fun p => by rw [inner_gt hc]; exact h1 p, by omega, ?_⟩
      rintro ⟨x, hx, hxn⟩
      rcases List.mem_cons.1 hx with rfl | hx
      · omega
      · have := h3 ⟨x, hx, hxn⟩; omega

theorem countP_lt_succ (n m : Nat) (cs : List Char) (hnm : n ≤ m)
    (hgap : ∀ c ∈ cs, n ≤ c.toNat → m ≤ c.toNat) :
    cs.countP (fun c => c.toNat < m + 1) =
      cs.countP (fun c => c.toNat < n) + cs.countP (fun c => c.toNat = m) := by
  induction cs with
  | nil => rfl
  | cons c cs ih =>
    have hc := hgap c List.mem_cons_self
    simp only [List.countP_cons, ih fun x hx => hgap x (List.mem_cons_of_mem _ hx),
      decide_eq_true_eq]
    by_cases h1 : c.toNat < n
    · rw [if_pos (by omega), if_pos h1, if_neg (by omega)]; omega
    · have h1' := hc (by omega)
      by_cases h3 : c.toNat = m
      · rw [if_pos (by omega), if_neg h1, if_pos h3]; omega
      · rw [if_neg (by omega), if_neg h1, if_neg h3]; rfl

theorem countP_le_length' (q : Char → Bool) (cs : List Char) : cs.countP q ≤ cs.length :=
  List.countP_le_length

structure OuterInv (input : List Char) (st : St) : Prop where
  hcount : st.h = input.countP (fun c => c.toNat < st.n)
  hdelta : st.delta ≤ input.length
  hn : 128 ≤ st.n

theorem outer_short (input : List Char) (hL : input.length ≤ 3855) (f : Nat) :
    ∀ st, OuterInv input st →
      ∃ r, (∀ p, outer p b input f st = r) ∧ r ≠ .panic ∧ r ≠ .err := by
  induction f with
  | zero =>
    intro st _
    exact ⟨if st.h < input.length then .fuel else .ok st.out, fun _ => rfl,
      by split <;> simp, by split <;> simp⟩
  | succ f ih =>
    intro st inv
    by_cases hlt : st.h < input.length
    · rcases minGe_cases st.n input with ⟨_, hall⟩ | ⟨m, hm, hnm, ⟨x, hx, hxm⟩, hleast⟩
      · -- some character is not below `n`, since fewer than all have been handled
        have : input.countP (fun c => c.toNat < st.n) = input.length :=
          List.countP_eq_length.2 fun c hc => by simpa using hall c hc
        rw [← inv.hcount] at this
        omega
      · have hmlt : m < 0x110000 := hxm ▸ char_toNat_lt x
        have hn := inv.hn
        -- the one place where the bound 3855 is used: `(0x10FFFF - 128) * 3855 + 2 * 3855 < 2 ^ 32`
        have hD : st.delta + (m - st.n) * (st.h + 1) + input.length + 1 ≤ 4294967295 := by
          have : (m - st.n) * (st.h + 1) ≤ 1113983 * 3855 :=
            Nat.mul_le_mul (by omega) (by omega)
          have := inv.hdelta
          omega
        have hcheck : ¬ (m - st.n > (u32Max - st.delta) / (st.h + 1)) := by
          rw [Nat.not_lt, Nat.le_div_iff_mul_le (by omega : 0 < st.h + 1)]
          simp only [u32Max]; omega
        obtain ⟨st2, h1, h5, h6⟩ := inner_noovf b input
          { st with delta := st.delta + (m - st.n) * (st.h + 1), n := m }
          (show st.delta + (m - st.n) * (st.h + 1) + input.length ≤ u32Max by
            simp only [u32Max]; omega)
        obtain ⟨h3, h4, _⟩ :=
          inner_spec .dev b (fun _ => True) (fun _ _ => trivial) input _ _ (h1 .dev)
        have h6' := h6 ⟨x, hx, hxm⟩
        simp only at h3 h4 h5 h6'
        obtain ⟨r, hr, hr'⟩ := ih { st2 with delta := st2.delta + 1, n := st2.n + 1 }
          ⟨by simp only
              rw [h4, h3, inv.hcount]
              exact (countP_lt_succ st.n m input hnm hleast).symm,
           by simp only; omega, by simp only; omega⟩
        exact ⟨r, fun p => (outer_step p b hlt hm hcheck (h1 p)
          (incr_ok p st2.delta (by simp only [u32Max]; omega))).trans (hr p), hr'⟩
    · exact ⟨.ok st.out, fun p => by simp only [outer, hlt, if_false], by simp, by simp⟩

theorem punycode_short (input : List Char) (hL : input.length ≤ 3855) :
    ∃ out, punycodeEncodeP p input = .ok out ∧ punycodeEncodeP .dev input = .ok out := by
  obtain ⟨r, hr, h2, h3⟩ := outer_short (input.filter isAscii).length input hL (input.length + 1)
    { n := 128, delta := 0, bias := 72, h := (input.filter isAscii).length,
      out := if (input.filter isAscii).length > 0 then input.filter isAscii ++ ['-']
             else input.filter isAscii }
    ⟨List.countP_eq_length_filter.symm.trans (List.countP_congr fun c _ => by simp [isAscii]),
      Nat.zero_le _, Nat.le_refl _⟩
  have h4 := punycode_fuel_enough .dev input
  unfold punycodeEncodeP at h4 ⊢
  simp only [hr] at h4 ⊢
  cases r with
  | ok out => exact ⟨out, rfl, rfl⟩
  | err => exact absurd rfl h3
  | panic => exact absurd rfl h2
  | fuel => exact absurd rfl h4

/-! ## The unchecked overflow is reachable (4001 characters) -/

theorem inner_replicate_eq (a : Char) (rest : List Char) (k : Nat) :
    ∀ st, a.toNat = st.n →
      ∃ st', st'.n = st.n ∧ st'.h = st.h + k ∧ st'.delta = (if k = 0 then st.delta else 0) ∧
        inner p b (List.replicate k a ++ rest) st = inner p b rest st' := by
  induction k with
  | zero => intro st _; exact ⟨st, rfl, rfl, rfl, rfl⟩
  | succ k ih =>
    intro st ha
    obtain ⟨st', h1, h2, h3, h4⟩ := ih (st.emit b) ha
    refine ⟨st', h1, by rw [h2]; exact Nat.add_right_comm _ _ _, ?_, ?_⟩
    · rw [h3, if_neg (Nat.succ_ne_zero k)]; split <;> rfl
    · rw [List.replicate_succ, List.cons_append, inner_eq ha, h4]

theorem inner_replicate_panic (a : Char) (rest : List Char) (k : Nat) :
    ∀ st, a.toNat < st.n → st.delta ≤ u32Max → st.delta + k > u32Max →
      inner .dev b (List.replicate k a ++ rest) st = none := by
  induction k with
  | zero => intro st _ h1 h2; omega
  | succ k ih =>
    intro st ha h1 h2
    rw [List.replicate_succ, List.cons_append, inner_lt ha]
    by_cases hd : st.delta + 1 ≤ u32Max
    · rw [incr_ok _ _ hd]
      exact ih { st with delta := st.delta + 1 } ha hd (by simp only; omega)
    · simp only [incr, hd, if_false, Option.bind_none]

/-- `k` × U+0080 followed by U+1061C2 (kept generic in `k` so that no tactic unfolds the list). -/
def witnessK (k : Nat) : List Char := List.replicate k (Char.ofNat 0x80) ++ [Char.ofNat 0x1061C2]

theorem witnessK_length (k : Nat) : (witnessK k).length = k + 1 := by
  simp only [witnessK, List.length_append, List.length_replicate, List.length_cons, List.length_nil]

theorem witnessK_mem (k : Nat) : ∀ c ∈ witnessK k, c = Char.ofNat 0x80 ∨ c = Char.ofNat 0x1061C2 := by
  intro c hc
  simp only [witnessK, List.mem_append, List.mem_replicate, List.mem_singleton] at hc
  exact hc.imp And.right id

theorem witnessK_not_ascii (k : Nat) : ∀ c ∈ witnessK k, isAscii c = false := by
  intro c hc
  rcases witnessK_mem k c hc with rfl | rfl <;> decide

theorem witnessK_no_dot (k : Nat) : '.' ∉ witnessK k :=
  fun h => absurd (witnessK_not_ascii k _ h) (by decide)

/-- Turn 1 handles the `k` copies of U+0080; in turn 2 the gap to U+1061C2 passes the checked
multiplication (`hle`) and the `k` unchecked increments overflow (`hov`). -/
theorem witnessK_panics (k : Nat) (hk : 0 < k) (hle : 1 + 1073473 * (k + 1) ≤ u32Max)
    (hov : 1 + 1073473 * (k + 1) + k > u32Max) : punycodeEncodeP .dev (witnessK k) = .panic := by
  simp only [u32Max] at hle hov
  have ha : (Char.ofNat 0x80).toNat = 128 := by decide
  have hx : (Char.ofNat 0x1061C2).toNat = 1073602 := by decide
  have hfilter : (witnessK k).filter isAscii = [] :=
    List.filter_eq_nil_iff.2 fun c hc => by simp [witnessK_not_ascii k c hc]
  have hlen := witnessK_length k
  have hmin1 : minGe 128 (witnessK k) = some 128 :=
    ha ▸ minGe_eq_of 128 _ _ (List.mem_append_left _ (List.mem_replicate.2 ⟨Nat.ne_of_gt hk, rfl⟩))
      (Nat.le_of_eq ha.symm) fun c hc _ => by
        rcases witnessK_mem k c hc with rfl | rfl
        · exact Nat.le_refl _
        · rw [ha, hx]; decide
  have hmin2 : minGe (128 + 1) (witnessK k) = some 1073602 :=
    hx ▸ minGe_eq_of (128 + 1) _ _ (List.mem_append_right _ (List.mem_singleton.2 rfl))
      (hx ▸ by decide) fun c hc hge => by
        rcases witnessK_mem k c hc with rfl | rfl
        · rw [ha] at hge; exact absurd hge (by decide)
        · exact Nat.le_refl _
  obtain ⟨st1, h1, h2, h3, hin⟩ := inner_replicate_eq .dev 0 (Char.ofNat 0x80)
    [Char.ofNat 0x1061C2] k { n := 128, delta := 0, bias := 72, h := 0, out := [] } ha
  rw [inner_gt (by rw [h1, hx]; decide)] at hin
  clear hx  -- `omega` would evaluate the closed term in it
  rw [if_neg (Nat.ne_of_gt hk)] at h3
  simp only [Nat.zero_add] at h1 h2
  unfold punycodeEncodeP
  simp only [hfilter, List.length_nil, Nat.lt_irrefl, if_false, hlen]
  rw [outer_step _ _ (m := 128) (st2 := st1) (d := 1) (by rw [hlen]; exact Nat.succ_pos k) hmin1
    (by simp) (by unfold witnessK; exact hin) (by rw [h3]; rfl)]
  have hmin2' : minGe { st1 with delta := 1, n := st1.n + 1 }.n (witnessK k) = some 1073602 := by
    simp only [h1]; exact hmin2
  refine outer_step_panic _ _ (by simp only [h2, hlen]; omega) hmin2' ?_ ?_
  -- with the coefficient 1073473 in sight `omega` does not come back: the product gets a name
  · simp only [h1, h2]
    rw [Nat.not_lt, Nat.le_div_iff_mul_le (by omega : 0 < k + 1)]
    simp only [u32Max]
    generalize 1073473 * (k + 1) = P at hle ⊢
    omega
  · refine inner_replicate_panic 0 _ _ k _ (by simp only [ha]; omega) ?_ ?_ <;>
      simp only [h1, h2, u32Max] <;> generalize 1073473 * (k + 1) = P at hle hov ⊢ <;> omega

/-- 4000 × U+0080 followed by U+1061C2. -/
def overflowWitness : List Char := witnessK 4000

theorem overflowWitness_panics : punycodeEncodeP .dev overflowWitness = .panic :=
  witnessK_panics 4000 (by decide) (by decide) (by decide)

theorem overflowWitness_length : overflowWitness.length = 4001 := witnessK_length 4000

/-! ## The label length check (commit 300bbf4) -/

theorem idnaLabelG_len (p : Profile) (name l : List Char)
    (h : idnaLabelG true lowerStr p name = .ok l) : name.length ≤ maxLabelChars :=
  (idnaLabelG_ok h).1 rfl

theorem idnaLabelG_too_long (p : Profile) (name : List Char)
    (h : name.length > maxLabelChars) : idnaLabelG true lowerStr p name = .err := by
  simp [idnaLabelG, h]

/-- Lower-casing a label of at most 63 characters gives at most 3855 characters. True of Unicode
with a wide margin: `char::to_lowercase` yields at most 3 characters per character (63 × 3 = 189). -/
structure LowerBounded (lowerStr : List Char → List Char) : Prop where
  bound : ∀ s, s.length ≤ maxLabelChars → (lowerStr s).length ≤ 3855

theorem lowerBounded_of_factor (k : Nat) (hk : k ≤ 61)
    (h : ∀ s, (lowerStr s).length ≤ k * s.length) : LowerBounded lowerStr := by
  constructor
  intro s hs
  have h1 := h s
  have h2 : k * s.length ≤ 61 * 63 := Nat.mul_le_mul hk hs
  omega

theorem liftLower_length {lower : Char → List Char} (k : Nat) (h : ∀ c, (lower c).length ≤ k)
    (s : List Char) : (liftLower lower s).length ≤ k * s.length := by
  induction s with
  | nil => simp [liftLower]
  | cons c cs ih =>
    simp only [liftLower, List.flatMap_cons, List.length_append, List.length_cons] at ih ⊢
    have := h c
    rw [Nat.mul_add]
    omega

theorem lowerAsciiOnly_bounded : LowerBounded (liftLower lowerAsciiOnly) :=
  lowerBounded_of_factor 1 (by omega) (liftLower_length 1 fun _ => by simp [lowerAsciiOnly])

theorem idnaLabelG_total (hB : LowerBounded lowerStr)
    (p : Profile) (name : List Char) :
    (∃ l, idnaLabelG true lowerStr p name = .ok l) ∨ idnaLabelG true lowerStr p name = .err := by
  by_cases hlen : name.length > maxLabelChars
  · exact .inr (idnaLabelG_too_long p name hlen)
  · rw [idnaLabelG_of_short fun _ => Nat.le_of_not_lt hlen]
    split
    · exact .inl ⟨_, rfl⟩
    · obtain ⟨o, ho, _⟩ := punycode_short p (lowerStr name) (hB.bound name (Nat.le_of_not_lt hlen))
      exact .inl ⟨xnPrefix ++ o, by rw [ho]⟩

theorem toIdnaStrG_total (hB : LowerBounded lowerStr)
    (p : Profile) (domain : List Char) :
    (∃ out, toIdnaStrG true lowerStr p domain = .ok out) ∨
      toIdnaStrG true lowerStr p domain = .err := by
  unfold toIdnaStrG
  rcases idnaLabelsG_cases true p (splitOn '.' domain) with
    ⟨ls, h1, _⟩ | ⟨e, h1, h2, name, _, hname⟩
  · exact .inl ⟨_, by rw [h1]⟩
  · rw [h1]
    rcases idnaLabelG_total hB p name with ⟨l, hl⟩ | herr
    · exact absurd (hname.symm.trans hl) (h2 l)
    · exact .inr (hname.symm.trans herr)

theorem liftLower_asciiOnly_fix (s : List Char) (h : ∀ c ∈ s, isAsciiUpper c = false) :
    liftLower lowerAsciiOnly s = s := by
  induction s with
  | nil => rfl
  | cons c cs ih =>
    simp only [liftLower, List.flatMap_cons, lowerAsciiOnly, List.cons_append, List.nil_append] at ih ⊢
    rw [asciiLower_of_not_upper (h c List.mem_cons_self),
      ih fun x hx => h x (List.mem_cons_of_mem _ hx)]

theorem overflowWitness_lower_fix : liftLower lowerAsciiOnly overflowWitness = overflowWitness :=
  liftLower_asciiOnly_fix _ fun c hc => by rcases witnessK_mem 4000 c hc with rfl | rfl <;> decide

theorem toIdnaStrOld_single (p : Profile) (name : List Char)
    (hdot : '.' ∉ name) (hna : allAscii name = false) (r : Res)
    (hr : punycodeEncodeP p (lowerStr name) = r) (hnok : ∀ o, r ≠ .ok o) :
    toIdnaStrOld lowerStr p name = r := by
  unfold toIdnaStrOld toIdnaStrG
  rw [splitOn_of_no_sep '.' name hdot]
  have hl : idnaLabelG false lowerStr p name = r := by
    subst hr
    simp only [idnaLabelG, Bool.false_and, Bool.false_eq_true, if_false, hna]
  simp only [idnaLabelsG]
  rw [hl]
  cases r with
  | ok o => exact absurd rfl (hnok o)
  | err => rfl
  | panic => rfl
  | fuel => rfl

theorem overflowWitness_old_panics (hfix : lowerStr overflowWitness = overflowWitness) :
    toIdnaStrOld lowerStr .dev overflowWitness = .panic := by
  refine toIdnaStrOld_single .dev overflowWitness (witnessK_no_dot 4000) ?_ _
    (by rw [hfix]; exact overflowWitness_panics) (fun o => by simp)
  exact List.all_eq_false.2 ⟨Char.ofNat 0x80,
    List.mem_append_left _ (List.mem_replicate.2 ⟨by decide, rfl⟩), by decide⟩

theorem toIdnaStr_single_too_long (p : Profile)
    (name : List Char) (hdot : '.' ∉ name) (h : name.length > maxLabelChars) :
    toIdnaStr lowerStr p name = .err := by
  unfold toIdnaStr toIdnaStrG
  rw [splitOn_of_no_sep '.' name hdot]
  simp only [idnaLabelsG, idnaLabelG_too_long p name h]

theorem overflowWitness_err (p : Profile) :
    toIdnaStr lowerStr p overflowWitness = .err :=
  toIdnaStr_single_too_long p _ (witnessK_no_dot 4000)
    (by rw [overflowWitness_length]; decide)

end AcmedVerif.Idna
