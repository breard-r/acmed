/-
About `Model/Http.lean`.  A call is cut into pieces that compose (`Good`: limiter, script and nonce
automaton; `Piece`, `Quiet`: plus what the piece does not contain).  `get` goes through one induction
principle over its iterations (`getLoop_induct`), one transmission through `transmit_cases`, and the
loop of `post` through `LoopRun`, which keeps only the POSTs, their answers and the result.  Then:
what an accepting run of the automaton `walk` says about the nonces of a trace (`walk_tracks`,
`walk_take_sublist`), and the bridge to the judge `Spec.C08.holds`: `observe` is what the mock CA
would log for a trace, `outcomeOf` how the harness classifies the result.
-/
import AcmedVerif.Model.Http
import AcmedVerif.Spec.C08

namespace AcmedVerif.Http

section readers
variable (e : Ev) (es es' : List Ev)

@[simp] theorem posts_nil : posts [] = [] := rfl
@[simp] theorem posts_append : posts (es ++ es') = posts es ++ posts es' :=
  List.filterMap_append
@[simp] theorem posts_postSend (u n r) : posts (.postSend u n r :: es) = ⟨u, n, r⟩ :: posts es := rfl
@[simp] theorem posts_admit : posts (.admit :: es) = posts es := rfl
@[simp] theorem posts_getSend (u) : posts (.getSend u :: es) = posts es := rfl
@[simp] theorem posts_recvGet (a) : posts (.recvGet a :: es) = posts es := rfl
@[simp] theorem posts_recvPost (a) : posts (.recvPost a :: es) = posts es := rfl
@[simp] theorem posts_retryWait : posts (.retryWait :: es) = posts es := rfl
@[simp] theorem posts_pollWait (i) : posts (.pollWait i :: es) = posts es := rfl

@[simp] theorem postAnswers_nil : postAnswers [] = [] := rfl
@[simp] theorem postAnswers_append : postAnswers (es ++ es') = postAnswers es ++ postAnswers es' :=
  List.filterMap_append
@[simp] theorem postAnswers_postSend (u n r) : postAnswers (.postSend u n r :: es) = postAnswers es := rfl
@[simp] theorem postAnswers_admit : postAnswers (.admit :: es) = postAnswers es := rfl
@[simp] theorem postAnswers_getSend (u) : postAnswers (.getSend u :: es) = postAnswers es := rfl
@[simp] theorem postAnswers_recvGet (a) : postAnswers (.recvGet a :: es) = postAnswers es := rfl
@[simp] theorem postAnswers_recvPost (a) : postAnswers (.recvPost a :: es) = a :: postAnswers es := rfl
@[simp] theorem postAnswers_retryWait : postAnswers (.retryWait :: es) = postAnswers es := rfl
@[simp] theorem postAnswers_pollWait (i) : postAnswers (.pollWait i :: es) = postAnswers es := rfl

@[simp] theorem recvd_nil : recvd [] = [] := rfl
@[simp] theorem recvd_append : recvd (es ++ es') = recvd es ++ recvd es' :=
  List.filterMap_append
@[simp] theorem recvd_postSend (u n r) : recvd (.postSend u n r :: es) = recvd es := rfl
@[simp] theorem recvd_admit : recvd (.admit :: es) = recvd es := rfl
@[simp] theorem recvd_getSend (u) : recvd (.getSend u :: es) = recvd es := rfl
@[simp] theorem recvd_recvGet (a) : recvd (.recvGet a :: es) = a :: recvd es := rfl
@[simp] theorem recvd_recvPost (a) : recvd (.recvPost a :: es) = a :: recvd es := rfl
@[simp] theorem recvd_retryWait : recvd (.retryWait :: es) = recvd es := rfl
@[simp] theorem recvd_pollWait (i) : recvd (.pollWait i :: es) = recvd es := rfl

@[simp] theorem pollWaits_nil : pollWaits [] = 0 := rfl
@[simp] theorem pollWaits_append : pollWaits (es ++ es') = pollWaits es + pollWaits es' := by
  simp [pollWaits, List.filter_append]
@[simp] theorem pollWaits_postSend (u n r) : pollWaits (.postSend u n r :: es) = pollWaits es := rfl
@[simp] theorem pollWaits_admit : pollWaits (.admit :: es) = pollWaits es := rfl
@[simp] theorem pollWaits_getSend (u) : pollWaits (.getSend u :: es) = pollWaits es := rfl
@[simp] theorem pollWaits_recvGet (a) : pollWaits (.recvGet a :: es) = pollWaits es := rfl
@[simp] theorem pollWaits_recvPost (a) : pollWaits (.recvPost a :: es) = pollWaits es := rfl
@[simp] theorem pollWaits_retryWait : pollWaits (.retryWait :: es) = pollWaits es := rfl
@[simp] theorem pollWaits_pollWait (i) : pollWaits (.pollWait i :: es) = pollWaits es + 1 := rfl

theorem issuedBy_append : issuedBy (es ++ es') = issuedBy es ++ issuedBy es' := by
  simp [issuedBy, List.filterMap_append]
theorem postNonces_append : postNonces (es ++ es') = postNonces es ++ postNonces es' := by
  simp [postNonces, List.filterMap_append]
theorem okBodies_append : okBodies (es ++ es') = okBodies es ++ okBodies es' := by
  simp [okBodies, List.filter_append]

@[simp] theorem issuedBy_nil : issuedBy [] = [] := rfl
@[simp] theorem issuedBy_admit : issuedBy (.admit :: es) = issuedBy es := rfl
@[simp] theorem issuedBy_getSend (u) : issuedBy (.getSend u :: es) = issuedBy es := rfl
@[simp] theorem issuedBy_postSend (u n r) : issuedBy (.postSend u n r :: es) = issuedBy es := rfl
@[simp] theorem issuedBy_retryWait : issuedBy (.retryWait :: es) = issuedBy es := rfl
@[simp] theorem issuedBy_pollWait (i) : issuedBy (.pollWait i :: es) = issuedBy es := rfl
@[simp] theorem issuedBy_recvGet (a : Answer) :
    issuedBy (.recvGet a :: es) = a.issued.toList ++ issuedBy es := by
  cases h : a.issued <;> simp [issuedBy, h]
@[simp] theorem issuedBy_recvPost (a : Answer) :
    issuedBy (.recvPost a :: es) = a.issued.toList ++ issuedBy es := by
  cases h : a.issued <;> simp [issuedBy, h]
@[simp] theorem postNonces_nil : postNonces [] = [] := rfl
@[simp] theorem postNonces_admit : postNonces (.admit :: es) = postNonces es := rfl
@[simp] theorem postNonces_getSend (u) : postNonces (.getSend u :: es) = postNonces es := rfl
@[simp] theorem postNonces_recvGet (a) : postNonces (.recvGet a :: es) = postNonces es := rfl
@[simp] theorem postNonces_recvPost (a) : postNonces (.recvPost a :: es) = postNonces es := rfl
@[simp] theorem postNonces_retryWait : postNonces (.retryWait :: es) = postNonces es := rfl
@[simp] theorem postNonces_pollWait (i) : postNonces (.pollWait i :: es) = postNonces es := rfl
@[simp] theorem postNonces_postSend (u r) (n : Option Nat) :
    postNonces (.postSend u n r :: es) = n.toList ++ postNonces es := by
  cases n <;> simp [postNonces]

@[simp] theorem okBodies_pollWait (i : Nat) (es : List Ev) : okBodies (.pollWait i :: es) = okBodies es := by
  simp [okBodies]

end readers

theorem issued_eq_none (a : Answer) (h : a.delivered = false ∨ a.nonce = .invalid) :
    a.issued = none := by
  rcases h with h | h <;> simp [Answer.issued, h]

theorem updateNonce_issued (cur : Option Nat) (a : Answer) (hd : a.delivered = true)
    (hn : a.nonce ≠ .invalid) : updateNonce cur a.nonce = some (a.issued.or cur) := by
  simp only [Answer.issued, hd, if_true]
  cases h : a.nonce <;> first | rfl | exact absurd h hn

/-- What `post` does with an answer is exactly what `Answer.verdict` says. -/
theorem judge_verdict (cur : Option Nat) (a : Answer) :
    (a.verdict = .retry ∧ (judge cur a).1 = .again) ∨
    (a.verdict = .success ∧ (judge cur a).1 = .done (.ok a.body) ∧ a.ok2xx = true ∧
      a.delivered = true) ∨
    (a.verdict = .fail ∧ ∃ e, (judge cur a).1 = .done (.err e) ∧ e ≠ .noNonce ∧
      (∀ x, e ≠ .nonceFetch x) ∧ e ≠ .clientBuild) := by
  by_cases hd : a.delivered = true
  · by_cases hn : a.nonce = .invalid
    · simp [judge, Answer.verdict, hd, hn, updateNonce]
    · simp only [judge, Answer.verdict, hd, hn, if_true, if_false, updateNonce_issued cur a hd hn]
      cases ho : a.ok2xx <;> cases hb : a.body <;> simp
      cases hr : recoverable _ <;> simp
  · simp [judge, Answer.verdict, hd]

theorem judge_snd (cur : Option Nat) (a : Answer) : (judge cur a).2 = a.issued.or cur := by
  by_cases hd : a.delivered = true
  · by_cases hn : a.nonce = .invalid
    · simp [judge, hd, hn, updateNonce, issued_eq_none a (.inr hn)]
    · simp only [judge, hd, if_true, updateNonce_issued cur a hd hn]
      -- below `update_nonce` every arm returns the new nonce
      repeat' split
      all_goals rfl
  · simp [judge, hd, issued_eq_none a (.inl (by simpa using hd))]

theorem limitedAux_cons (p : Bool) (x : Ev) (es : List Ev) :
    limitedAux p (x :: es) = ((!x.isSend || p) && limitedAux (x == .admit) es) := by
  cases x <;> rfl

theorem limitedAux_mono (es : List Ev) (h : limitedAux false es = true) (p : Bool) :
    limitedAux p es = true := by
  cases es with
  | nil => rfl
  | cons e es =>
    rw [limitedAux_cons, Bool.and_eq_true] at h ⊢
    exact ⟨by simp [show (!e.isSend) = true by simpa using h.1], h.2⟩

theorem limitedAux_append (e1 e2 : List Ev) (p : Bool) (h1 : limitedAux p e1 = true)
    (h2 : limitedAux false e2 = true) : limitedAux p (e1 ++ e2) = true := by
  induction e1 generalizing p with
  | nil => exact limitedAux_mono e2 h2 p
  | cons e es ih =>
    rw [List.cons_append, limitedAux_cons, Bool.and_eq_true] at *
    exact ⟨h1.1, ih _ h1.2⟩

/-- What `limited` means: the event right before any send is an `admit`. -/
theorem limitedAux_spec (evs : List Ev) (p : Bool) (h : limitedAux p evs = true)
    (pre suf : List Ev) (e : Ev) (he : e.isSend = true) (hsplit : evs = pre ++ e :: suf) :
    (pre = [] ∧ p = true) ∨ ∃ pre', pre = pre' ++ [.admit] := by
  subst hsplit
  induction pre generalizing p with
  | nil =>
    rw [List.nil_append, limitedAux_cons, he] at h
    exact .inl ⟨rfl, (by simpa using h : p = true ∧ _).1⟩
  | cons y ys ih =>
    rw [List.cons_append, limitedAux_cons, Bool.and_eq_true] at h
    rcases ih _ h.2 with ⟨rfl, hy⟩ | ⟨pre', rfl⟩
    · exact .inr ⟨[], by rw [eq_of_beq hy]; rfl⟩
    · exact .inr ⟨y :: pre', rfl⟩

section walkrules
variable (mode : NonceMode) (cur : Option Nat) (es : List Ev)
@[simp] theorem walk_nil : walk mode cur [] = some cur := rfl
@[simp] theorem walk_admit : walk mode cur (.admit :: es) = walk mode cur es := rfl
@[simp] theorem walk_getSend (u) : walk mode cur (.getSend u :: es) = walk mode cur es := rfl
@[simp] theorem walk_retryWait : walk mode cur (.retryWait :: es) = walk mode cur es := rfl
@[simp] theorem walk_pollWait (i) : walk mode cur (.pollWait i :: es) = walk mode cur es := rfl
@[simp] theorem walk_recvGet (a : Answer) :
    walk mode cur (.recvGet a :: es) = walk mode (a.issued.or cur) es := rfl
@[simp] theorem walk_recvPost (a : Answer) :
    walk mode cur (.recvPost a :: es) = walk mode (a.issued.or cur) es := rfl
theorem walk_postSend_take (u r) (n : Option Nat) :
    walk .take cur (.postSend u n r :: es) =
      if n = cur ∧ n ≠ none then walk .take none es else none := rfl
theorem walk_postSend_clone (u r) (n : Option Nat) :
    walk .cloneOld cur (.postSend u n r :: es) =
      if n = cur then walk .cloneOld cur es else none := rfl
end walkrules

theorem walk_append (mode : NonceMode) (e1 e2 : List Ev) (cur : Option Nat) :
    walk mode cur (e1 ++ e2) = (walk mode cur e1).bind fun c => walk mode c e2 := by
  induction e1 generalizing cur with
  | nil => simp [walk]
  | cons e es ih =>
    cases e <;> simp only [List.cons_append, walk, ih]
    cases mode <;> simp only <;> split <;> simp

theorem walk_append_some {mode : NonceMode} {e1 e2 : List Ev} {c c' : Option Nat}
    (h : walk mode c (e1 ++ e2) = some c') :
    ∃ c1, walk mode c e1 = some c1 ∧ walk mode c1 e2 = some c' := by
  rw [walk_append] at h
  cases h1 : walk mode c e1 with
  | none => rw [h1] at h; cases h
  | some c1 => rw [h1] at h; exact ⟨c1, rfl, h⟩

/-- The stored nonce `st.nonce` agrees with the automaton's `cur`; the current code may in
addition have dropped it (a `take()` whose request was not sent, e.g. the builder failed). -/
def Inv (mode : NonceMode) (cur : Option Nat) (st : State) : Prop :=
  st.nonce = cur ∨ (mode = .take ∧ st.nonce = none)

/-- Everything the trace theorems need about one piece of the model, closed under sequencing. -/
structure Good (mode : NonceMode) (st st' : State) (evs : List Ev) : Prop where
  script : recvd evs ++ st'.script = st.script
  url : st'.nonceUrl = st.nonceUrl
  lim : limitedAux false evs = true
  walk : ∀ cur, Inv mode cur st → ∃ c', walk mode cur evs = some c' ∧ Inv mode c' st'

theorem Good.admit_before_send {mode : NonceMode} {st st' : State} {evs pre suf : List Ev} {e : Ev}
    (hg : Good mode st st' evs) (he : e.isSend = true) (h : evs = pre ++ e :: suf) :
    ∃ pre', pre = pre' ++ [.admit] :=
  (limitedAux_spec _ false hg.lim pre suf e he h).resolve_left fun h => nomatch h.2

theorem Good.refl (mode : NonceMode) (st : State) : Good mode st st [] :=
  ⟨by simp, rfl, rfl, fun cur h => ⟨cur, rfl, h⟩⟩

theorem Good.trans {mode : NonceMode} {st st1 st2 : State} {e1 e2 : List Ev}
    (h1 : Good mode st st1 e1) (h2 : Good mode st1 st2 e2) : Good mode st st2 (e1 ++ e2) := by
  refine ⟨?_, ?_, ?_, ?_⟩
  · rw [recvd_append, List.append_assoc, h2.script, h1.script]
  · rw [h2.url, h1.url]
  · exact limitedAux_append _ _ _ h1.lim h2.lim
  · intro cur hc
    obtain ⟨c1, hw1, hi1⟩ := h1.walk cur hc
    obtain ⟨c2, hw2, hi2⟩ := h2.walk c1 hi1
    exact ⟨c2, by simp [walk_append, hw1, hw2], hi2⟩

theorem Good.retryWait (mode : NonceMode) (st : State) : Good mode st st [.retryWait] :=
  ⟨rfl, rfl, rfl, fun cur hc => ⟨cur, rfl, hc⟩⟩

theorem Good.pollWait (mode : NonceMode) (st : State) (i : Nat) : Good mode st st [.pollWait i] :=
  ⟨rfl, rfl, rfl, fun cur hc => ⟨cur, rfl, hc⟩⟩

theorem Good.getSend (mode : NonceMode) (st : State) (u : Nat) :
    Good mode st st [.admit, .getSend u] :=
  ⟨rfl, rfl, rfl, fun cur hc => ⟨cur, rfl, hc⟩⟩

/-- The endpoint after an answer was read, GET or POST: the answer is gone from the script, the nonce
it issued (if any) is stored (`update_nonce`). -/
def State.recv (st : State) (a : Answer) (rest : List Answer) : State :=
  ⟨a.issued.or st.nonce, rest, st.nonceUrl⟩

@[simp] theorem State.recv_nonce (st : State) (a : Answer) (rest : List Answer) :
    (st.recv a rest).nonce = a.issued.or st.nonce := rfl
@[simp] theorem State.recv_script (st : State) (a : Answer) (rest : List Answer) :
    (st.recv a rest).script = rest := rfl

theorem Good.recvGet (mode : NonceMode) (st : State) (a : Answer) (rest : List Answer)
    (hs : st.script = a :: rest) : Good mode st (st.recv a rest) [.recvGet a] := by
  refine ⟨hs.symm, rfl, rfl, fun cur hc => ⟨a.issued.or cur, rfl, ?_⟩⟩
  rcases hc with hc | ⟨hm, hc⟩
  · exact .inl (by rw [State.recv_nonce, hc])
  · -- a nonce the current code has dropped comes back only if the answer issues one
    cases hi : a.issued with
    | none => exact .inr ⟨hm, by simp [hc, hi]⟩
    | some n => exact .inl (by rw [State.recv_nonce, hi]; rfl)

/-- The reader functions treat the answer to a POST like the answer to a GET. -/
theorem Good.recvPost (mode : NonceMode) (st : State) (a : Answer) (rest : List Answer)
    (hs : st.script = a :: rest) : Good mode st (st.recv a rest) [.recvPost a] :=
  have h := Good.recvGet mode st a rest hs
  ⟨h.script, h.url, h.lim, h.walk⟩

theorem getBlock_good (mode : NonceMode) (st : State) (u : Nat) (a : Answer) (rest : List Answer)
    (hs : st.script = a :: rest) :
    Good mode st (st.recv a rest) [.admit, .getSend u, .recvGet a] :=
  (Good.getSend mode st u).trans (Good.recvGet mode st a rest hs)

/-- `Good`, and no poll event: what every piece of a `post` call is. -/
structure Piece (mode : NonceMode) (st st' : State) (evs : List Ev) : Prop
    extends Good mode st st' evs where
  noPoll : pollWaits evs = 0

theorem Piece.refl (mode : NonceMode) (st : State) : Piece mode st st [] := ⟨Good.refl _ _, rfl⟩

theorem Piece.trans {mode : NonceMode} {st st1 st2 : State} {e1 e2 : List Ev}
    (h1 : Piece mode st st1 e1) (h2 : Piece mode st1 st2 e2) : Piece mode st st2 (e1 ++ e2) :=
  ⟨h1.toGood.trans h2.toGood, by rw [pollWaits_append, h1.noPoll, h2.noPoll]⟩

/-- A piece made of GET requests only. -/
structure Quiet (mode : NonceMode) (st st' : State) (evs : List Ev) : Prop
    extends Piece mode st st' evs where
  noPost : posts evs = []
  noAnswer : postAnswers evs = []

theorem get_false (st : State) (u : Nat) : get st false u = ⟨.err .clientBuild, st, []⟩ := rfl

theorem get_true (st : State) (u : Nat) :
    get st true u = getLoop Gen.DEFAULT_HTTP_MAX_REDIRECT u st := rfl

/-- Induction over the iterations of `get` (`http.rs:183-205`).  An iteration goes on exactly for a
delivered answer with an acceptable nonce header that is a redirection with a usable `Location`;
any other answer ends the call with the same three events, and with `Ok` only for a 2xx answer with
a readable body. -/
theorem getLoop_induct {motive : Nat → Nat → State → Out → Prop}
    (zero : ∀ u st, motive 0 u st ⟨.err .tooManyRedirects, st, []⟩)
    (nil : ∀ fuel u st, st.script = [] → motive (fuel + 1) u st ⟨.stuck, st, [.admit, .getSend u]⟩)
    (final : ∀ fuel u st a rest r, st.script = a :: rest →
      (a.delivered = false ∨ a.nonce = .invalid ∨ ∀ u' k, a.redir ≠ .to u' k) →
      (∀ b, r = .ok b →
        a.delivered = true ∧ a.ok2xx = true ∧ a.redir = .no ∧ a.body = b ∧ b ≠ .unreadable) →
      motive (fuel + 1) u st ⟨r, st.recv a rest, [.admit, .getSend u, .recvGet a]⟩)
    (redirect : ∀ fuel u st a rest u' k o, st.script = a :: rest → a.delivered = true →
      a.nonce ≠ .invalid → a.redir = .to u' k → motive fuel u' (st.recv a rest) o →
      motive (fuel + 1) u st ⟨o.res, o.st, [.admit, .getSend u, .recvGet a] ++ o.evs⟩)
    (fuel u : Nat) (st : State) : motive fuel u st (getLoop fuel u st) := by
  induction fuel generalizing u st with
  | zero => exact zero u st
  | succ fuel ih =>
    cases hs : st.script with
    | nil => simp only [getLoop, hs]; exact nil fuel u st hs
    | cons a rest =>
      have fin := fun r => final fuel u st a rest r hs
      simp only [State.recv] at fin
      simp only [getLoop, hs]
      by_cases hd : a.delivered = true
      · by_cases hn : a.nonce = .invalid
        · have := fin (.err .invalidNonce) (.inr (.inl hn)) (fun _ h => nomatch h)
          simpa only [hd, if_true, hn, updateNonce, issued_eq_none a (.inr hn), Option.none_or] using this
        · simp only [hd, if_true, updateNonce_issued _ a hd hn]
          cases hr : a.redir with
          | to u' k => exact redirect fuel u st a rest u' k _ hs hd hn hr (ih u' _)
          | bad => exact fin _ (.inr (.inr (by simp [hr]))) (fun _ h => nomatch h)
          | no =>
            have hr' : ∀ u' k, a.redir ≠ .to u' k := by simp [hr]
            cases ho : a.ok2xx
            · exact fin _ (.inr (.inr hr')) (fun _ h => nomatch h)
            · simp only [if_true]
              cases hb : a.body with
              | unreadable => exact fin _ (.inr (.inr hr')) (fun _ h => nomatch h)
              | _ =>
                exact fin _ (.inr (.inr hr')) fun _ h => by
                  cases h; exact ⟨hd, ho, hr, hb, fun h => nomatch h⟩
      · have := fin (.err .transport) (.inl (by simpa using hd)) (fun _ h => nomatch h)
        simpa [hd, issued_eq_none a (.inl (by simpa using hd))] using this

theorem getLoop_ok (fuel u : Nat) (st : State) (b : Body) :
    (getLoop fuel u st).res = .ok b →
    ∃ a, (recvd (getLoop fuel u st).evs).getLast? = some a ∧ a.delivered = true ∧
      a.ok2xx = true ∧ a.redir = .no ∧ a.body = b :=
  getLoop_induct
    (motive := fun _ _ _ o => o.res = .ok b → ∃ a, (recvd o.evs).getLast? = some a ∧
      a.delivered = true ∧ a.ok2xx = true ∧ a.redir = .no ∧ a.body = b)
    (fun _ _ h => nomatch h) (fun _ _ _ _ h => nomatch h)
    (fun _ _ _ a _ _ _ _ hok h =>
      have ⟨h1, h2, h3, h4, _⟩ := hok b h
      ⟨a, rfl, h1, h2, h3, h4⟩)
    (fun _ _ _ _ _ _ _ _ _ _ _ _ ih h => by
      obtain ⟨a', h1, h2⟩ := ih h
      refine ⟨a', ?_, h2⟩
      simp only [recvd_append, List.getLast?_append, h1]
      rfl)
    fuel u st

theorem get_ok (st : State) (c : Bool) (u : Nat) (b : Body) (h : (get st c u).res = .ok b) :
    ∃ a, (recvd (get st c u).evs).getLast? = some a ∧ a.delivered = true ∧ a.ok2xx = true ∧
      a.redir = .no ∧ a.body = b ∧ c = true := by
  cases c
  · cases h
  · obtain ⟨a, h1, h2, h3, h4, h5⟩ := getLoop_ok _ _ _ _ h
    exact ⟨a, h1, h2, h3, h4, h5, rfl⟩

/-- The events of `get` are blocks `admit, getSend u, recvGet a`, one per request of the redirect
chain, the last possibly without its answer. -/
theorem getLoop_quiet (mode : NonceMode) (fuel u : Nat) (st : State) :
    Quiet mode st (getLoop fuel u st).st (getLoop fuel u st).evs :=
  getLoop_induct (motive := fun _ _ st o => Quiet mode st o.st o.evs)
    (fun _ _ => ⟨.refl _ _, rfl, rfl⟩) (fun _ u st _ => ⟨⟨Good.getSend mode st u, rfl⟩, rfl, rfl⟩)
    (fun _ u st a rest _ hs _ _ => ⟨⟨getBlock_good mode st u a rest hs, rfl⟩, rfl, rfl⟩)
    (fun _ u st a rest _ _ _ hs _ _ _ ih =>
      ⟨(Piece.mk (getBlock_good mode st u a rest hs) rfl).trans ih.toPiece, ih.noPost, ih.noAnswer⟩)
    fuel u st

theorem get_quiet (mode : NonceMode) (st : State) (c : Bool) (u : Nat) :
    Quiet mode st (get st c u).st (get st c u).evs := by
  cases c
  · exact ⟨.refl _ _, rfl, rfl⟩
  · exact getLoop_quiet _ _ _ _

theorem newNonce_quiet (mode : NonceMode) (st : State) (c : Bool) :
    Quiet mode st (newNonce st c).st (newNonce st c).evs :=
  have h := get_quiet mode st c st.nonceUrl
  ⟨⟨⟨h.script, h.url, limitedAux_mono _ h.lim true, h.walk⟩, h.noPoll⟩, h.noPost, h.noAnswer⟩

/-- The first answer decides when it is not a followed redirection. -/
theorem getLoop_first_fails (fuel u : Nat) (st : State) (hn : st.nonce = none)
    (hf : ∀ g rest, st.script = g :: rest →
      (∀ u' k, g.redir ≠ .to u' k) ∧ (g.issued = none ∨ g.ok2xx = false ∨ g.body = .unreadable)) :
    (getLoop fuel u st).res.isOk = false ∨ (getLoop fuel u st).st.nonce = none :=
  getLoop_induct (motive := fun _ _ st' o => st' = st → o.res.isOk = false ∨ o.st.nonce = none)
    (fun _ _ _ => .inl rfl) (fun _ _ _ _ _ => .inl rfl)
    (fun _ _ _ g rest r hs _ hok h => by
      subst h
      cases r with
      | ok b =>
        obtain ⟨-, h2, -, h4, h5⟩ := hok b rfl
        rcases (hf g rest hs).2 with hi | ho | hb
        · right; rw [State.recv_nonce, hi, hn]; rfl
        · rw [h2] at ho; cases ho
        · exact absurd (h4.symm.trans hb) h5
      | _ => exact .inl rfl)
    (fun _ _ _ a rest u' k _ hs _ _ hr _ h => absurd hr ((hf a rest (h ▸ hs)).1 u' k))
    fuel u st rfl

theorem prepNonce_quiet (mode : NonceMode) (c : Bool) (st : State) :
    Quiet mode st (prepNonce mode c st).2.1 (prepNonce mode c st).2.2 := by
  simp only [prepNonce]
  split
  · split <;> exact newNonce_quiet _ _ _
  · exact ⟨.refl _ _, rfl, rfl⟩

theorem prepNonce_fail (mode : NonceMode) (c : Bool) (st : State) (r : Result)
    (h : (prepNonce mode c st).1 = some r) : r.nonceFailure = true ∨ r = .stuck := by
  simp only [prepNonce] at h
  split at h
  · split at h <;> simp at h <;> subst h <;> simp [Result.nonceFailure]
  · simp at h

theorem prepNonce_supplied (mode : NonceMode) (c : Bool) (st : State)
    (h : mode = .take → st.nonce ≠ none) : prepNonce mode c st = (none, st, []) := by
  -- `h` excludes the first arm of the `match`; `simp` discharges that from the context
  simp only [prepNonce]

theorem pickNonce_some {mode : NonceMode} {st st1 : State} {sent : Option Nat}
    (h : pickNonce mode st = some (sent, st1)) :
    sent = st.nonce ∧ st1.script = st.script ∧ st1.nonceUrl = st.nonceUrl ∧
      ((mode = .take ∧ sent ≠ none ∧ st1.nonce = none) ∨
       (mode = .cloneOld ∧ st1.nonce = st.nonce)) := by
  cases mode
  · simp only [pickNonce] at h
    split at h
    · cases h
    · rename_i n hn
      cases h
      exact ⟨hn.symm, rfl, rfl, .inl ⟨rfl, Option.some_ne_none n, rfl⟩⟩
  · cases h
    exact ⟨rfl, rfl, rfl, .inr ⟨rfl, rfl⟩⟩

theorem pickNonce_eq_none {mode : NonceMode} {st : State} (h : pickNonce mode st = none) :
    mode = .take ∧ st.nonce = none := by
  cases mode
  · simp only [pickNonce] at h
    split at h
    · exact ⟨rfl, ‹_›⟩
    · cases h
  · cases h

theorem Good.postSend {mode : NonceMode} {st st1 : State} {sent : Option Nat}
    (hp : pickNonce mode st = some (sent, st1)) (url i : Nat) :
    Good mode st st1 [.admit, .postSend url sent i] := by
  obtain ⟨hsent, hscr, hurl, hm⟩ := pickNonce_some hp
  refine ⟨hscr, hurl, rfl, fun cur hc => ⟨st1.nonce, ?_, .inl rfl⟩⟩
  rw [walk_admit]
  rcases hm with ⟨rfl, hne, h1⟩ | ⟨rfl, h1⟩
  · rcases hc with hc | ⟨-, hc⟩
    · rw [walk_postSend_take, if_pos ⟨hsent.trans hc, hne⟩, h1]; rfl
    · exact absurd (hsent.trans hc) hne
  · rcases hc with hc | ⟨hm, -⟩
    · rw [walk_postSend_clone, if_pos (hsent.trans hc), h1, hc]; rfl
    · cases hm

theorem Good.unsent {mode : NonceMode} {st st1 : State} {sent : Option Nat}
    (hp : pickNonce mode st = some (sent, st1)) : Good mode st st1 [] := by
  obtain ⟨-, hscr, hurl, hm⟩ := pickNonce_some hp
  refine ⟨hscr, hurl, rfl, fun cur hc => ⟨cur, rfl, ?_⟩⟩
  rcases hm with ⟨rfl, -, h1⟩ | ⟨rfl, h1⟩
  · exact .inr ⟨rfl, h1⟩
  · rcases hc with hc | ⟨hm, -⟩
    · exact .inl (h1.trans hc)
    · cases hm

/-- The four ways the rest of a round (`http.rs:206-234`) can go: no nonce to pick; the builder
fails (the picked nonce is lost); the request goes out and the script has no answer; it is
answered. -/
theorem transmit_cases (mode : NonceMode) (b : Bool) (url i : Nat) (st : State) :
    (pickNonce mode st = none ∧ transmit mode b url i st = (.done (.err .noNonce), st, [])) ∨
    ∃ sent st1, pickNonce mode st = some (sent, st1) ∧
      ((b = false ∧ transmit mode b url i st = (.done (.err .builder), st1, [])) ∨
       (b = true ∧ st1.script = [] ∧
        transmit mode b url i st = (.done .stuck, st1, [.admit, .postSend url sent i])) ∨
       (b = true ∧ ∃ a rest, st1.script = a :: rest ∧ transmit mode b url i st =
        ((judge st1.nonce a).1, st1.recv a rest, [.admit, .postSend url sent i, .recvPost a] ++
          if (judge st1.nonce a).1 = .again then [.retryWait] else []))) := by
  cases hp : pickNonce mode st with
  | none => exact .inl ⟨rfl, by simp only [transmit, hp]⟩
  | some p =>
    obtain ⟨sent, st1⟩ := p
    refine .inr ⟨sent, st1, rfl, ?_⟩
    cases b
    · exact .inl ⟨rfl, by simp only [transmit, hp, Bool.false_eq_true, if_false]⟩
    · cases hs : st1.script with
      | nil => exact .inr (.inl ⟨rfl, rfl, by simp only [transmit, hp, hs, if_true]⟩)
      | cons a rest =>
        refine .inr (.inr ⟨rfl, a, rest, rfl, ?_⟩)
        simp only [transmit, hp, hs, if_true, judge_snd, State.recv]
        split <;> simp [*]

theorem transmit_piece (mode : NonceMode) (b : Bool) (url i : Nat) (st : State) :
    Piece mode st (transmit mode b url i st).2.1 (transmit mode b url i st).2.2 := by
  rcases transmit_cases mode b url i st with ⟨-, ht⟩ | ⟨sent, st1, hp, ⟨-, ht⟩ | ⟨-, -, ht⟩ |
    ⟨-, a, rest, hs, ht⟩⟩ <;> rw [ht]
  · exact .refl _ _
  · exact ⟨Good.unsent hp, rfl⟩
  · exact ⟨Good.postSend hp url i, rfl⟩
  · refine ((Piece.mk (Good.postSend hp url i) rfl).trans
      ⟨Good.recvPost mode st1 a rest hs, rfl⟩).trans ?_
    split
    · exact ⟨Good.retryWait _ _, rfl⟩
    · exact .refl _ _

theorem round_piece (mode : NonceMode) (c b : Bool) (url i : Nat) (st : State) :
    Piece mode st (round mode c b url i st).2.1 (round mode c b url i st).2.2 := by
  simp only [round]
  have hp := (prepNonce_quiet mode c st).toPiece
  generalize prepNonce mode c st = pn at hp
  obtain ⟨f, st1, ev1⟩ := pn
  cases f with
  | some r => exact hp
  | none => exact hp.trans (transmit_piece mode b url i st1)

/-- What a run of the loop looks like when only the POST transmissions `P`, their answers `A` and
the result are kept: `fuel` rounds left, `i` the index of the next round. -/
inductive LoopRun (url : Nat) (bOk : Bool) : Nat → Nat → List PostTx → List Answer → Result → Prop
  | exhausted (i) : LoopRun url bOk 0 i [] [] (.err .tooManyErrors)
  | stuckFetch (fuel i) : LoopRun url bOk fuel i [] [] .stuck
  | nonceFail (fuel i r) : r.nonceFailure = true → LoopRun url bOk (fuel + 1) i [] [] r
  | builderFail (fuel i) : bOk = false → LoopRun url bOk (fuel + 1) i [] [] (.err .builder)
  | noAnswer (fuel i n) : LoopRun url bOk (fuel + 1) i [⟨url, n, i⟩] [] .stuck
  | success (fuel i n a) : a.verdict = .success → a.ok2xx = true → a.delivered = true →
      LoopRun url bOk (fuel + 1) i [⟨url, n, i⟩] [a] (.ok a.body)
  | failed (fuel i n a e) : a.verdict = .fail → e ≠ .noNonce → (∀ x, e ≠ .nonceFetch x) →
      e ≠ .clientBuild → LoopRun url bOk (fuel + 1) i [⟨url, n, i⟩] [a] (.err e)
  | again (fuel i n a P A r) : a.verdict = .retry → LoopRun url bOk fuel (i + 1) P A r →
      LoopRun url bOk (fuel + 1) i (⟨url, n, i⟩ :: P) (a :: A) r

@[simp] theorem nonceFailure_ok (b : Body) : (Result.ok b).nonceFailure = false := rfl
@[simp] theorem nonceFailure_stuck : Result.stuck.nonceFailure = false := rfl
@[simp] theorem nonceFailure_noNonce : (Result.err .noNonce).nonceFailure = true := rfl
@[simp] theorem nonceFailure_fetch (e : Err) : (Result.err (.nonceFetch e)).nonceFailure = true := rfl

theorem nonceFailure_err_other (e : Err) (h1 : e ≠ .noNonce) (h2 : ∀ x, e ≠ .nonceFetch x) :
    (Result.err e).nonceFailure = false := by
  cases e <;> simp_all [Result.nonceFailure]

def Result.okList : Result → List Body
  | .ok b => [b]
  | _ => []

namespace LoopRun
variable {url : Nat} {bOk : Bool} {fuel i : Nat} {P : List PostTx} {A : List Answer} {r : Result}

theorem length_le (h : LoopRun url bOk fuel i P A r) : P.length ≤ fuel := by
  induction h <;> simp <;> omega

theorem answers_le (h : LoopRun url bOk fuel i P A r) : A.length ≤ P.length := by
  induction h <;> simp <;> omega

theorem urls (h : LoopRun url bOk fuel i P A r) : ∀ p ∈ P, p.url = url := by
  induction h <;> simp_all

theorem rounds (h : LoopRun url bOk fuel i P A r) : P.map PostTx.round = List.range' i P.length := by
  induction h <;> simp_all [List.range'_succ]

theorem started (h : LoopRun url bOk fuel i P A r) (hb : bOk = true) (hs : r ≠ .stuck) :
    1 ≤ fuel ↔ (1 ≤ P.length ∨ (P.length = 0 ∧ r.nonceFailure = true)) := by
  cases h <;> simp_all [Result.nonceFailure]

theorem retry_iff (h : LoopRun url bOk fuel i P A r) (hb : bOk = true) (hs : r ≠ .stuck) (k : Nat) :
    (k + 1 < P.length ∨ (P.length = k + 1 ∧ r.nonceFailure = true)) ↔
      ∃ a, A[k]? = some a ∧ a.verdict = .retry ∧ k + 1 < fuel := by
  induction h generalizing k with
  | exhausted i => simp
  | stuckFetch fuel i => simp
  | nonceFail fuel i r hr => simp
  | builderFail fuel i hf => rw [hb] at hf; cases hf
  | noAnswer fuel i n => exact absurd rfl hs
  | success fuel i n a hv _ _ =>
    cases k <;> simp [hv]
  | failed fuel i n a e hv h1 h2 _ =>
    cases k <;> simp [hv, nonceFailure_err_other e h1 h2]
  | again fuel i n a P A r hv hrun ih =>
    cases k with
    | zero =>
      -- round 1 is entered iff fuel is left; `started` says what an entered round does
      have hst := started hrun hb hs
      have : (∃ a', (a :: A)[0]? = some a' ∧ a'.verdict = .retry ∧ 0 + 1 < fuel + 1) ↔ 1 ≤ fuel :=
        ⟨fun ⟨_, _, _, h⟩ => by omega, fun h => ⟨a, rfl, hv, by omega⟩⟩
      rw [this, hst]
      simp only [List.length_cons, Nat.add_lt_add_iff_right, Nat.add_right_cancel_iff]
      exact Iff.rfl
    | succ k =>
      simpa only [List.length_cons, List.getElem?_cons_succ, Nat.add_lt_add_iff_right,
        Nat.add_right_cancel_iff] using ih hs k

theorem retry_only_if (h : LoopRun url bOk fuel i P A r) (k : Nat) (hk : k + 1 < P.length) :
    ∃ a, A[k]? = some a ∧ a.verdict = .retry ∧ k + 1 < fuel := by
  induction h generalizing k with
  | again fuel i n a P A r hv hrun ih =>
    cases k with
    | zero =>
      have := hrun.length_le
      simp only [List.length_cons] at hk
      exact ⟨a, by simp, hv, by omega⟩
    | succ k =>
      simp only [List.length_cons] at hk
      obtain ⟨x, h1, h2, h3⟩ := ih k (by omega)
      exact ⟨x, by simpa using h1, h2, by omega⟩
  | _ => simp at hk

theorem success_last (h : LoopRun url bOk fuel i P A r) (b : Body) (hr : r = .ok b) :
    ∃ a, A.getLast? = some a ∧ a.verdict = .success ∧ a.ok2xx = true ∧ a.delivered = true ∧
      a.body = b ∧ A.length = P.length := by
  induction h with
  | success fuel i n a hv h2 hd => simp_all
  | again fuel i n a P A r hv hrun ih =>
    obtain ⟨x, h1, h2⟩ := ih hr
    refine ⟨x, ?_, ?_⟩
    · rw [List.getLast?_cons]
      cases A with
      | nil => simp at h1
      | cons y ys => simp [h1]
    · simp [h2]
  | _ => simp_all

theorem last_word (h : LoopRun url bOk fuel i P A r) (k : Nat) (a : Answer) (hk : A[k]? = some a)
    (hv : a.verdict ≠ .retry) :
    P.length = k + 1 ∧ A.length = k + 1 ∧
      (a.verdict = .success → r = .ok a.body) ∧ (a.verdict = .fail → ∃ e, r = .err e) := by
  induction h generalizing k with
  | success fuel i n a' hv' h2 hd =>
    cases k with
    | zero =>
      obtain rfl : a' = a := by simpa using hk
      exact ⟨rfl, rfl, fun _ => rfl, fun h => by rw [hv'] at h; cases h⟩
    | succ k => simp at hk
  | failed fuel i n a' e hv' h1 h2 _ =>
    cases k with
    | zero =>
      obtain rfl : a' = a := by simpa using hk
      exact ⟨rfl, rfl, (fun h => by rw [hv'] at h; cases h), fun _ => ⟨e, rfl⟩⟩
    | succ k => simp at hk
  | again fuel i n a' P A r hv' hrun ih =>
    cases k with
    | zero =>
      obtain rfl : a' = a := by simpa using hk
      exact absurd hv' hv
    | succ k => simpa using ih k (by simpa using hk)
  | _ => simp at hk

theorem okBodies_eq (h : LoopRun url bOk fuel i P A r) :
    ((A.filter fun a => a.verdict == .success).map Answer.body) =
      r.okList := by
  induction h with
  | nonceFail fuel i r hr => cases r <;> simp_all [Result.okList]
  | again fuel i n a P A r hv hrun ih => simp [hv, ih]
  | _ => simp_all [Result.okList]

end LoopRun

/-- One round in that view: a round that ends the call is a run of its own, whatever fuel is left;
a round that goes on transmitted once and got a retryable answer. -/
theorem round_view {mode : NonceMode} {c b : Bool} {url i : Nat} {st st1 : State} {o : RoundOut}
    {ev1 : List Ev} (h : round mode c b url i st = (o, st1, ev1)) :
    match (generalizing := false) o with
    | .done r => ∀ fuel, LoopRun url b (fuel + 1) i (posts ev1) (postAnswers ev1) r
    | .again => ∃ n a, a.verdict = .retry ∧ posts ev1 = [⟨url, n, i⟩] ∧ postAnswers ev1 = [a] := by
  simp only [round] at h
  have hq := prepNonce_quiet mode c st
  have hf := prepNonce_fail mode c st
  generalize prepNonce mode c st = pn at h hq hf
  obtain ⟨f, st', ev'⟩ := pn
  cases f with
  | some r =>
    cases h
    intro fuel
    rw [hq.noPost, hq.noAnswer]
    rcases hf r rfl with h | rfl
    · exact .nonceFail _ _ _ h
    · exact .stuckFetch _ _
  | none =>
    simp only at h hq
    rcases transmit_cases mode b url i st' with ⟨-, ht⟩ | ⟨sent, st2, -, ⟨hb, ht⟩ | ⟨-, -, ht⟩ |
      ⟨-, a, rest, -, ht⟩⟩ <;> rw [ht] at h <;> cases h <;>
      simp only [posts_append, postAnswers_append, hq.noPost, hq.noAnswer]
    · exact fun _ => .nonceFail _ _ _ rfl
    · exact fun _ => .builderFail _ _ hb
    · exact fun _ => .noAnswer _ _ _
    · rcases judge_verdict st2.nonce a with ⟨hv, hj⟩ | ⟨hv, hj, h2, hd⟩ | ⟨hv, e, hj, h1, h2, h3⟩ <;>
        simp only [hj]
      · exact ⟨sent, a, hv, rfl, rfl⟩
      · exact fun _ => .success _ _ _ _ hv h2 hd
      · exact fun _ => .failed _ _ _ _ _ hv h1 h2 h3

theorem postLoop_run (mode : NonceMode) (c b : Bool) (url fuel i : Nat) (st : State) :
    LoopRun url b fuel i (posts (postLoop mode c b url fuel i st).evs)
      (postAnswers (postLoop mode c b url fuel i st).evs) (postLoop mode c b url fuel i st).res := by
  fun_induction postLoop mode c b url fuel i st with
  | case1 i st => exact .exhausted i
  | case2 fuel i st r st1 ev1 h => exact round_view h fuel
  | case3 fuel i st st1 ev1 h o ih =>
    obtain ⟨n, a, hv, hp, ha⟩ := round_view h
    simp only [posts_append, postAnswers_append, hp, ha]
    exact .again _ _ _ _ _ _ _ hv ih

theorem post_run (N : Nat) (mode : NonceMode) (st : State) (b : Bool) (url : Nat) :
    LoopRun url b N 0 (posts (post N mode st true b url).evs)
      (postAnswers (post N mode st true b url).evs) (post N mode st true b url).res := by
  simp only [post, if_true]
  split
  · split
    · simp only [(newNonce_quiet .take _ _).noPost, (newNonce_quiet .take _ _).noAnswer]
      exact .stuckFetch _ _
    · simp only [posts_append, postAnswers_append, (newNonce_quiet .take _ _).noPost,
        (newNonce_quiet .take _ _).noAnswer, List.nil_append]
      exact postLoop_run _ _ _ _ _ _ _
  · exact postLoop_run _ _ _ _ _ _ _

theorem post_clientFail (N : Nat) (mode : NonceMode) (st : State) (b : Bool) (url : Nat) :
    post N mode st false b url = ⟨.err .clientBuild, st, []⟩ := by
  simp [post]

theorem postLoop_piece (mode : NonceMode) (c b : Bool) (url fuel i : Nat) (st : State) :
    Piece mode st (postLoop mode c b url fuel i st).st (postLoop mode c b url fuel i st).evs := by
  fun_induction postLoop mode c b url fuel i st with
  | case1 => exact .refl _ _
  | case2 fuel i st r st1 ev1 h => simpa only [h] using round_piece mode c b url i st
  | case3 fuel i st st1 ev1 h o ih =>
    exact (by simpa only [h] using round_piece mode c b url i st : Piece mode st st1 ev1).trans ih

theorem post_piece (N : Nat) (mode : NonceMode) (st : State) (c b : Bool) (url : Nat) :
    Piece mode st (post N mode st c b url).st (post N mode st c b url).evs := by
  have hn := (newNonce_quiet mode st c).toPiece
  simp only [post]
  split
  · split
    · split
      · exact hn
      · exact hn.trans (postLoop_piece _ _ _ _ _ _ _)
    · exact postLoop_piece _ _ _ _ _ _ _
  · exact .refl _ _

theorem post_length_le (N : Nat) (mode : NonceMode) (st : State) (c b : Bool) (url : Nat) :
    (posts (post N mode st c b url).evs).length ≤ N := by
  cases c
  · exact Nat.zero_le N
  · exact (post_run N mode st b url).length_le

theorem post_okBodies (N : Nat) (mode : NonceMode) (st : State) (c b : Bool) (url : Nat) :
    okBodies (post N mode st c b url).evs = (post N mode st c b url).res.okList := by
  cases c
  · rfl
  · exact (post_run N mode st b url).okBodies_eq

/-- With a nonce always at hand (one is stored and, in mode `take`, every retryable answer of the
script's prefix brings a new one; the old code needs none) no round fetches a nonce: the loop
transmits once per retryable answer and once more, as far as the bound allows, and does not fail
for want of a nonce. -/
theorem postLoop_supplied (mode : NonceMode) (c b : Bool) (url fuel i : Nat) (st : State)
    (h : mode = .take →
      st.nonce ≠ none ∧ ∀ a ∈ st.script.takeWhile Answer.isRetry, a.issued ≠ none) :
    (b = true → (posts (postLoop mode c b url fuel i st).evs).length =
      min fuel (1 + (st.script.takeWhile Answer.isRetry).length)) ∧
    (postLoop mode c b url fuel i st).res.nonceFailure = false := by
  induction fuel generalizing i st with
  | zero => exact ⟨fun _ => (Nat.zero_min _).symm, rfl⟩
  | succ fuel ih =>
    simp only [postLoop, round, prepNonce_supplied mode c st fun hm => (h hm).1, List.nil_append]
    rcases transmit_cases mode b url i st with ⟨hp, -⟩ | ⟨sent, st1, hp, ⟨hb, ht⟩ | ⟨-, hs, ht⟩ |
      ⟨-, a, rest, hs, ht⟩⟩
    · obtain ⟨hm, hn⟩ := pickNonce_eq_none hp
      exact absurd hn (h hm).1
    · rw [ht]; exact ⟨(fun h => by rw [hb] at h; cases h), rfl⟩
    · rw [ht, ← (pickNonce_some hp).2.1, hs]
      exact ⟨fun _ => by simp [posts], rfl⟩
    · have hscr := (pickNonce_some hp).2.1
      rw [ht, ← hscr, hs, List.takeWhile_cons]
      rcases judge_verdict st1.nonce a with ⟨hv, hj⟩ | ⟨hv, hj, -⟩ | ⟨hv, e, hj, h1, h2, -⟩
      · have hret : a.isRetry = true := by rw [Answer.isRetry, hv]; rfl
        have ih' := ih (i + 1) (st1.recv a rest) fun hm => by
          have h2 := (h hm).2
          simp only [← hscr, hs, List.takeWhile_cons, hret, if_true, List.mem_cons,
            forall_eq_or_imp] at h2
          refine ⟨?_, h2.2⟩
          cases hi : a.issued with
          | none => exact absurd hi h2.1
          | some n => simp [hi]
        simp only [hj, if_true, hret]
        refine ⟨fun hb => ?_, ih'.2⟩
        have := ih'.1 hb
        simp only [posts_append, List.length_append, State.recv_script] at this ⊢
        -- the round's four events hold one POST
        show 1 + _ = _
        simp only [List.length_cons]
        omega
      · simp only [hj, show a.isRetry = false by rw [Answer.isRetry, hv]; rfl]
        exact ⟨fun _ => by simp [posts], rfl⟩
      · simp only [hj, show a.isRetry = false by rw [Answer.isRetry, hv]; rfl]
        exact ⟨fun _ => by simp [posts], nonceFailure_err_other e h1 h2⟩

theorem post_eq_postLoop (N : Nat) (mode : NonceMode) (st : State) (b : Bool) (url : Nat)
    (h : mode = .take ∨ st.nonce ≠ none) :
    post N mode st true b url = postLoop mode true b url N 0 st := by
  simp only [post, if_true]
  split
  · rename_i hn
    rcases h with h | h
    · cases h
    · exact absurd hn h
  · rfl

/-- The old code sends the stale or the empty nonce instead. -/
theorem post_clone_nf (N : Nat) (st : State) (c b : Bool) (url : Nat) :
    (post N .cloneOld st c b url).res.nonceFailure = false := by
  have hl := fun st => (postLoop_supplied .cloneOld c b url N 0 st fun h => nomatch h).2
  simp only [post]
  split
  · split
    · split
      · rfl
      · exact hl _
    · exact hl _
  · rfl

theorem post_counts (N : Nat) (mode : NonceMode) (st : State) (c b : Bool) (url : Nat) :
    pollWaits (post N mode st c b url).evs = 0 ∧ (posts (post N mode st c b url).evs).length ≤ N ∧
      (okBodies (post N mode st c b url).evs).length ≤ 1 := by
  refine ⟨(post_piece ..).noPoll, post_length_le .., ?_⟩
  rw [post_okBodies]
  cases (post N mode st c b url).res <;> first | exact Nat.le_refl 1 | exact Nat.zero_le 1

theorem pollLoop_counts (N : Nat) (mode : NonceMode) (c b : Bool) (url : Nat) (dec mat : Body → Bool)
    (fuel i : Nat) (st : State) :
    (okBodies (pollLoop N mode c b url dec mat fuel i st).evs).length ≤
      pollWaits (pollLoop N mode c b url dec mat fuel i st).evs ∧
    pollWaits (pollLoop N mode c b url dec mat fuel i st).evs ≤ fuel ∧
    (posts (pollLoop N mode c b url dec mat fuel i st).evs).length ≤ fuel * N := by
  fun_induction pollLoop N mode c b url dec mat fuel i st with
  | case1 => exact ⟨Nat.le_refl 0, Nat.le_refl 0, Nat.zero_le _⟩
  | case3 fuel i st p _ _ _ _ o ih =>
    have hp := post_counts N mode st c b url
    simp only [p, o, okBodies_pollWait, okBodies_append, pollWaits_pollWait, pollWaits_append,
      posts_pollWait, posts_append, List.length_append, Nat.succ_mul] at ih ⊢
    omega
  | case2 fuel i st p _ _ _ _ | case4 fuel i st p _ _ _ | case5 fuel i st p _ =>
    have hp := post_counts N mode st c b url
    simp only [p, okBodies_pollWait, pollWaits_pollWait, posts_pollWait, Nat.succ_mul]
    omega

/-- Shape of a poll: every body its `post` calls returned but the last decodes and does not match;
and if the poll returns `Ok`, that is the last body, it decodes and matches, and there was one
call per body. -/
theorem pollLoop_shape (N : Nat) (mode : NonceMode) (c b : Bool) (url : Nat) (dec mat : Body → Bool)
    (fuel i : Nat) (st : State) :
    (∀ x ∈ (okBodies (pollLoop N mode c b url dec mat fuel i st).evs).dropLast,
      dec x = true ∧ mat x = false) ∧
    ∀ bd, (pollLoop N mode c b url dec mat fuel i st).res = .ok bd →
      (okBodies (pollLoop N mode c b url dec mat fuel i st).evs).getLast? = some bd ∧
      dec bd = true ∧ mat bd = true ∧
      pollWaits (pollLoop N mode c b url dec mat fuel i st).evs =
        (okBodies (pollLoop N mode c b url dec mat fuel i st).evs).length := by
  fun_induction pollLoop N mode c b url dec mat fuel i st with
  | case1 => exact ⟨(fun _ h => nomatch h), fun _ h => nomatch h⟩
  | case2 fuel i st p bd hres hdec hmat =>
    have h1 : pollWaits p.evs = 0 := (post_piece N mode st c b url).noPoll
    have h2 : okBodies p.evs = [bd] := (post_okBodies N mode st c b url).trans (by rw [hres]; rfl)
    simp only [okBodies_pollWait, h2, pollWaits_pollWait, h1]
    exact ⟨(fun _ h => nomatch h), fun _ h => by cases h; exact ⟨rfl, hdec, hmat, rfl⟩⟩
  | case3 fuel i st p bd hres hdec hmat o ih =>
    have h1 : pollWaits p.evs = 0 := (post_piece N mode st c b url).noPoll
    have h2 : okBodies p.evs = [bd] := (post_okBodies N mode st c b url).trans (by rw [hres]; rfl)
    obtain ⟨ih1, ih2⟩ := ih
    simp only [o, okBodies_pollWait, okBodies_append, h2, pollWaits_pollWait, pollWaits_append, h1]
    constructor
    · intro x hx
      cases hL : okBodies (pollLoop N mode c b url dec mat fuel (i + 1) p.st).evs with
      | nil => rw [hL] at hx; cases hx
      | cons y ys =>
        rw [hL] at hx ih1
        rcases List.mem_cons.mp hx with rfl | hx
        · exact ⟨hdec, by simpa using hmat⟩
        · exact ih1 x hx
    · intro bd' hres'
      obtain ⟨e1, e2, e3, e4⟩ := ih2 bd' hres'
      refine ⟨by rw [List.getLast?_append, e1]; rfl, e2, e3, ?_⟩
      rw [e4, List.length_append]; simp; omega
  | case4 fuel i st p bd hres hdec =>
    have h2 : okBodies p.evs = [bd] := (post_okBodies N mode st c b url).trans (by rw [hres]; rfl)
    simp only [okBodies_pollWait, h2]
    exact ⟨(fun _ h => nomatch h), fun _ h => nomatch h⟩
  | case5 fuel i st p hres =>
    have h2 : okBodies p.evs = [] := by
      rw [show okBodies p.evs = _ from post_okBodies N mode st c b url]
      cases hr : p.res with
      | ok bd => exact absurd hr (hres bd)
      | _ => rfl
    simp only [okBodies_pollWait, h2]
    exact ⟨(fun _ h => nomatch h), fun bd h => absurd h (hres bd)⟩

theorem pollLoop_good (N : Nat) (mode : NonceMode) (c b : Bool) (url : Nat) (dec mat : Body → Bool)
    (fuel i : Nat) (st : State) :
    Good mode st (pollLoop N mode c b url dec mat fuel i st).st
      (pollLoop N mode c b url dec mat fuel i st).evs := by
  fun_induction pollLoop N mode c b url dec mat fuel i st with
  | case1 => exact Good.refl _ _
  | case3 fuel i st p _ _ _ _ o ih =>
    exact (Good.pollWait mode st i).trans (((post_piece N mode st c b url).toGood).trans ih)
  | case2 fuel i st p _ _ _ _ | case4 fuel i st p _ _ _ | case5 fuel i st p _ =>
    exact (Good.pollWait mode st i).trans ((post_piece N mode st c b url).toGood)

theorem runCall_good (K N : Nat) (mode : NonceMode) (st : State) (call : Call) :
    Good mode st (runCall K N mode st call).st (runCall K N mode st call).evs := by
  cases call with
  | get c u => exact (get_quiet _ _ _ _).toGood
  | post c b u => exact (post_piece _ _ _ _ _ _).toGood
  | poll c b u d m => exact pollLoop_good _ _ _ _ _ _ _ _ _ _

theorem runCalls_good (K N : Nat) (mode : NonceMode) :
    ∀ (calls : List Call) (st : State),
      Good mode st (runCalls K N mode st calls).2.1 (runCalls K N mode st calls).2.2 := by
  intro calls
  induction calls with
  | nil => intro st; exact Good.refl _ _
  | cons c cs ih =>
    intro st
    simp only [runCalls]
    exact (runCall_good K N mode st c).trans (ih _)

theorem walk_take_post {cur c' : Option Nat} {u r : Nat} {n : Option Nat} {es : List Ev}
    (h : walk .take cur (.postSend u n r :: es) = some c') :
    n = cur ∧ n ≠ none ∧ walk .take none es = some c' := by
  rw [walk_postSend_take] at h
  split at h
  · rename_i hn; exact ⟨hn.1, hn.2, h⟩
  · cases h

theorem walk_clone_post {cur c' : Option Nat} {u r : Nat} {n : Option Nat} {es : List Ev}
    (h : walk .cloneOld cur (.postSend u n r :: es) = some c') :
    n = cur ∧ walk .cloneOld cur es = some c' := by
  rw [walk_postSend_clone] at h
  split at h
  · rename_i hn; exact ⟨hn, h⟩
  · cases h

/-- Mode `take`: the nonces carried by the POSTs, in order, are a sub-sequence of the nonces
available (the initial one, then those issued by the answers, in order). -/
theorem walk_take_sublist (evs : List Ev) (cur c' : Option Nat) (h : walk .take cur evs = some c') :
    (postNonces evs).Sublist (cur.toList ++ issuedBy evs) := by
  induction evs generalizing cur with
  | nil => simp
  | cons e es ih =>
    cases e with
    | postSend u n r =>
      obtain ⟨rfl, hne, h⟩ := walk_take_post h
      have := ih none h
      cases n with
      | none => exact absurd rfl hne
      | some m => simpa using this
    | recvGet a | recvPost a =>
      have := ih _ h
      cases hi : a.issued with
      | none => simpa [hi] using this
      | some k =>
        simp only [hi] at this
        simpa [hi] using this.trans (List.sublist_append_right _ _)
    | _ => simpa using ih cur h

theorem walk_take_some (evs : List Ev) (cur c' : Option Nat) (h : walk .take cur evs = some c') :
    ∀ p ∈ posts evs, p.nonce ≠ none := by
  induction evs generalizing cur with
  | nil => exact fun _ hp => nomatch hp
  | cons e es ih =>
    cases e with
    | postSend u n r =>
      obtain ⟨-, hne, h⟩ := walk_take_post h
      intro p hp
      rcases List.mem_cons.mp hp with rfl | hp
      · exact hne
      · exact ih none h p hp
    | recvGet a | recvPost a => exact ih _ h
    | _ => exact ih cur h

open AcmedVerif.Spec.C08

/-- The harness's classification of an answer (`Spec/C08.lean`), applied to a model answer. -/
def obsOf (a : Answer) : ObsAnswer :=
  if a.delivered = false then .dropped
  else if a.nonce = .invalid then .invalidNonceHdr
  else if a.body = .unreadable then .dropped
  else if a.ok2xx then .ok2xx
  else match a.body with
    | .problem ty => if recoverable ty then .recoverableProblem else .otherProblem
    | .jsonOther => .untypedProblem
    | _ => .notJson

def outcomeOf : Result → Outcome
  | .ok _ => .ok
  | r => if r.nonceFailure then .nonceFetchFailed else .failed

/-- The newest nonce handed out, sampled at each POST of the trace. -/
def newestAt : Option Nat → List Ev → List (Option Nat)
  | _, [] => []
  | cur, .postSend _ _ _ :: es => cur :: newestAt cur es
  | cur, .recvGet a :: es => newestAt (a.issued.or cur) es
  | cur, .recvPost a :: es => newestAt (a.issued.or cur) es
  | cur, _ :: es => newestAt cur es

def mkLog : List PostTx → List Answer → List (Option Nat) → List (ObsTx Nat Nat)
  | p :: ps, a :: as, w :: ws => ⟨obsOf a, p.nonce, w, p.url⟩ :: mkLog ps as ws
  | _, _, _ => []

/-- What the mock CA would log for the POSTs of a trace (`init` = nonce stored before). -/
def observe (init : Option Nat) (evs : List Ev) : List (ObsTx Nat Nat) :=
  mkLog (posts evs) (postAnswers evs) (newestAt init evs)

/-- The harness's classes refine the verdict: `recoverableProblem` is a retry, `ok2xx` a success,
every other class a failure. -/
theorem verdict_eq_of_obsOf (a : Answer) :
    a.verdict = match obsOf a with
      | .recoverableProblem => .retry
      | .ok2xx => .success
      | _ => .fail := by
  unfold Answer.verdict obsOf
  by_cases hd : a.delivered = false
  · simp [hd]
  by_cases hn : a.nonce = .invalid
  · simp [hd, hn]
  by_cases ho : a.ok2xx = true
  · cases hb : a.body <;> simp [hd, hn, ho]
  cases hb : a.body <;> simp [hd, hn, ho]
  split <;> rfl

theorem obsOf_retry (a : Answer) : obsOf a = .recoverableProblem ↔ a.verdict = .retry := by
  rw [verdict_eq_of_obsOf]; cases obsOf a <;> decide

theorem obsOf_success (a : Answer) : obsOf a = .ok2xx ↔ a.verdict = .success := by
  rw [verdict_eq_of_obsOf]; cases obsOf a <;> decide

/-- The automaton holds the newest nonce handed out, and every POST carries it.  `L` follows
`lastIssued`, `c` the automaton; they agree except that mode `take` may have used `c` up. -/
theorem walk_tracks (mode : NonceMode) (evs : List Ev) (c L c' : Option Nat)
    (hcl : c = L ∨ (mode = .take ∧ c = none)) (h : walk mode c evs = some c') :
    (c' = lastIssued L evs ∨ (mode = .take ∧ c' = none)) ∧
      newestAt L evs = (posts evs).map PostTx.nonce := by
  induction evs generalizing c L with
  | nil => cases h; exact ⟨hcl, rfl⟩
  | cons e es ih =>
    cases e with
    | postSend u n r =>
      cases mode
      · obtain ⟨rfl, hne, h⟩ := walk_take_post h
        obtain ⟨h1, h2⟩ := ih none L (.inr ⟨rfl, rfl⟩) h
        refine ⟨h1, ?_⟩
        simp only [newestAt, posts_postSend, List.map_cons, h2]
        rcases hcl with rfl | ⟨-, rfl⟩
        · rfl
        · exact absurd rfl hne
      · obtain ⟨rfl, h⟩ := walk_clone_post h
        obtain ⟨h1, h2⟩ := ih _ L hcl h
        refine ⟨h1, ?_⟩
        simp only [newestAt, posts_postSend, List.map_cons, h2]
        rcases hcl with rfl | ⟨hm, -⟩
        · rfl
        · cases hm
    | recvGet a | recvPost a =>
      refine ih _ (a.issued.or L) ?_ h
      rcases hcl with rfl | ⟨hm, rfl⟩
      · exact .inl rfl
      · cases a.issued
        · exact .inr ⟨hm, rfl⟩
        · exact .inl rfl
    | _ => exact ih c L hcl h

theorem walk_newest (mode : NonceMode) (evs : List Ev) (c L c' : Option Nat)
    (hcl : c = L ∨ (mode = .take ∧ c = none)) (h : walk mode c evs = some c')
    (pre suf : List Ev) (u r : Nat) (n : Option Nat) (hsplit : evs = pre ++ .postSend u n r :: suf) :
    n = lastIssued L pre := by
  subst hsplit
  obtain ⟨c1, h1, h⟩ := walk_append_some h
  have ht := (walk_tracks mode pre c L c1 hcl h1).1
  cases mode
  · obtain ⟨rfl, hne, -⟩ := walk_take_post h
    rcases ht with ht | ⟨-, ht⟩
    · exact ht
    · exact absurd ht hne
  · obtain ⟨rfl, -⟩ := walk_clone_post h
    rcases ht with ht | ⟨hm, -⟩
    · exact ht
    · cases hm

theorem lastIssued_mem (pre : List Ev) (cur : Option Nat) (m : Nat) (h : lastIssued cur pre = some m) :
    m ∈ cur.toList ++ issuedBy pre := by
  induction pre generalizing cur with
  | nil => simpa [lastIssued] using h
  | cons e es ih =>
    cases e with
    | recvGet a | recvPost a =>
      have := ih _ h
      cases hi : a.issued <;> simp_all
    | _ => simpa using ih cur h

/-- Mode `take`: after a POST the automaton holds no nonce until an answer issues one. -/
theorem walk_take_consumed (suf : List Ev) (c' : Option Nat) (h : walk .take none suf = some c')
    (hi : issuedBy suf = []) : c' = none := by
  rcases (walk_tracks .take suf none none c' (.inl rfl) h).1 with h1 | ⟨-, h1⟩
  · cases hl : lastIssued none suf with
    | none => rw [h1, hl]
    | some m =>
      have := lastIssued_mem suf none m hl
      rw [hi] at this
      cases this
  · exact h1

theorem mkLog_length_le : ∀ (P : List PostTx) (A : List Answer) (W : List (Option Nat)),
    (mkLog P A W).length ≤ P.length
  | [], _, _ => Nat.le_refl 0
  | _ :: _, [], _ => Nat.zero_le _
  | _ :: _, _ :: _, [] => Nat.zero_le _
  | _ :: ps, _ :: as, _ :: ws => Nat.succ_le_succ (mkLog_length_le ps as ws)

theorem mkLog_all (P : List PostTx) (A : List Answer) (url : Nat)
    (h1 : ∀ p ∈ P, p.nonce ≠ none) (h2 : ∀ p ∈ P, p.url = url) :
    ∀ t ∈ mkLog P A (P.map PostTx.nonce),
      (t.nonceSent.isSome && t.nonceSent == t.newestIssued) = true ∧ t.content = url := by
  induction P generalizing A with
  | nil => simp [mkLog]
  | cons p ps ih =>
    cases A with
    | nil => simp [mkLog]
    | cons a as =>
      simp only [List.map_cons, mkLog, List.mem_cons, forall_eq_or_imp]
      refine ⟨⟨?_, h2 p (by simp)⟩, ih as (fun q hq => h1 q (by simp [hq])) (fun q hq => h2 q (by simp [hq]))⟩
      have := h1 p (by simp)
      cases hp : p.nonce <;> simp_all

theorem outcomeOf_nf (r : Result) (h : r.nonceFailure = true) : outcomeOf r = .nonceFetchFailed := by
  cases r <;> simp_all [outcomeOf]

theorem outcomeOf_ok_iff (r : Result) : outcomeOf r = .ok ↔ ∃ b, r = .ok b := by
  cases r <;> simp [outcomeOf] <;> split <;> simp

theorem LoopRun.answers_pass {url : Nat} {fuel i : Nat} {P : List PostTx} {A : List Answer} {r : Result}
    (h : LoopRun url true fuel i P A r) (hs : r ≠ .stuck) :
    retriesJustified (mkLog P A (P.map PostTx.nonce)) = true ∧
    successOnly2xx (mkLog P A (P.map PostTx.nonce)) (outcomeOf r) = true ∧
    retriedToTheEnd fuel (mkLog P A (P.map PostTx.nonce)) (outcomeOf r) = true := by
  induction h with
  | exhausted i =>
    have : outcomeOf (.err .tooManyErrors) = .failed := rfl
    simp [mkLog, retriesJustified, successOnly2xx, retriedToTheEnd, this]
  | stuckFetch fuel i => exact absurd rfl hs
  | nonceFail fuel i r hr =>
    simp [mkLog, retriesJustified, successOnly2xx, retriedToTheEnd, outcomeOf_nf r hr]
  | builderFail fuel i hb => cases hb
  | noAnswer fuel i n => exact absurd rfl hs
  | success fuel i n a hv h2 hd =>
    have := (obsOf_success a).mpr hv
    simp [mkLog, retriesJustified, successOnly2xx, retriedToTheEnd, outcomeOf, this]
  | failed fuel i n a e hv h1 h2 h3 =>
    have hne : obsOf a ≠ .recoverableProblem := by
      rw [Ne, obsOf_retry, hv]; simp
    have hout : outcomeOf (.err e) ≠ .ok := by
      rw [Ne, outcomeOf_ok_iff]; simp
    simp [mkLog, retriesJustified, successOnly2xx, retriedToTheEnd, hne]
  | again fuel i n a P A r hv hrun ih =>
    have hrec := (obsOf_retry a).mpr hv
    -- either that was the last transmission, or the log goes on with a further entry
    cases hrun with
    | exhausted =>
      have : outcomeOf (.err .tooManyErrors) = .failed := rfl
      simp [mkLog, retriesJustified, successOnly2xx, retriedToTheEnd, hrec, this]
    | stuckFetch => exact absurd rfl hs
    | nonceFail _ _ r hr =>
      simp [mkLog, retriesJustified, successOnly2xx, retriedToTheEnd, hrec, outcomeOf_nf r hr]
    | builderFail _ _ hb => cases hb
    | noAnswer => exact absurd rfl hs
    | success | failed | again =>
      obtain ⟨ih1, ih2, ih3⟩ := ih hs
      simp only [List.map_cons, mkLog] at ih1 ih2 ih3 ⊢
      refine ⟨?_, ?_, ?_⟩
      · simp only [retriesJustified, List.dropLast_cons_cons, List.all_cons, hrec, beq_self_eq_true,
          Bool.true_and]
        exact ih1
      · simpa [successOnly2xx, List.getLast?_cons_cons] using ih2
      · simp only [retriedToTheEnd, List.getLast?_cons_cons, List.length_cons] at ih3 ⊢
        simpa using ih3

end AcmedVerif.Http
