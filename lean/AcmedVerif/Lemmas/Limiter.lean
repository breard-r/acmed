/-
`Model/Limiter.lean` for `Props/C09.lean`.  Comparisons with `t.checked_sub(p)` are brought to the
form `younger t p`; safety is the invariant `Inv` over the ghost history, kept by one pass and hence
by a run.  Last part: `RateLimit::new` only permutes and puts the longest period first.
-/
import AcmedVerif.Model.Limiter
namespace AcmedVerif.Limiter

/-- `x` is strictly younger than `c - p`, written `c < x + p`. -/
def younger (c p : Nat) : Nat → Bool := fun x => decide (c < x + p)

theorem younger_iff (c p x : Nat) : younger c p x = true ↔ c < x + p := by
  simp [younger]

theorem prune_nil (log : List Nat) (t : Nat) : prune [] log t = log := rfl

/-- `prune_log` and `request_allowed` both filter like this. -/
theorem filter_after_checkedSub (l : List Nat) (t p : Nat) :
    (match checkedSub t p with
      | some d => l.filter (fun x => decide (d < x))
      | none => l) = l.filter (younger t p) := by
  unfold checkedSub
  by_cases h : p ≤ t
  · rw [if_pos h]
    exact List.filter_congr fun x _ => decide_eq_decide.2 (Nat.sub_lt_iff_lt_add h)
  · rw [if_neg h]
    exact (List.filter_eq_self.2 fun x _ =>
      decide_eq_true (Nat.lt_of_lt_of_le (Nat.lt_of_not_le h) (Nat.le_add_left ..))).symm

theorem prune_cons (first : Limit) (rest : List Limit) (log : List Nat) (t : Nat) :
    prune (first :: rest) log t = log.filter (younger t first.period) :=
  filter_after_checkedSub log t first.period

theorem seen_eq (log : List Nat) (lim : Limit) (t : Nat) :
    seen log lim t = (log.filter (younger t lim.period)).length := by
  rw [← filter_after_checkedSub]
  unfold seen countAfter
  cases checkedSub t lim.period <;> rfl

theorem filter_younger_younger (l : List Nat) {c c' p p' : Nat} (hc : c ≤ c') (hp : p' ≤ p) :
    (l.filter (younger c p)).filter (younger c' p') = l.filter (younger c' p') := by
  rw [List.filter_filter]
  apply List.filter_congr
  intro x _
  by_cases h : c' < x + p'
  · have h2 : c < x + p :=
      Nat.lt_of_le_of_lt hc (Nat.lt_of_lt_of_le h (Nat.add_le_add_left hp x))
    simp [younger, h, h2]
  · simp [younger, h]

theorem length_filter_le_of_imp (l : List Nat) (p q : Nat → Bool)
    (h : ∀ x ∈ l, p x = true → q x = true) : (l.filter p).length ≤ (l.filter q).length := by
  rw [← List.countP_eq_length_filter, ← List.countP_eq_length_filter]
  exact List.countP_mono_left h

theorem monoFrom_weaken {lo lo' : Nat} (h : lo' ≤ lo) : ∀ {l : List Nat}, monoFrom lo l → monoFrom lo' l
  | [], _ => trivial
  | _ :: _, ⟨h1, h2⟩ => ⟨Nat.le_trans h h1, h2⟩

theorem monoFrom_snoc_bounds : ∀ (a : List Nat) (lo h : Nat), monoFrom lo (a ++ [h]) →
    lo ≤ h ∧ ∀ x ∈ a, lo ≤ x ∧ x ≤ h
  | [], lo, h, hm => ⟨hm.1, fun _ hx => nomatch hx⟩
  | y :: a, lo, h, hm => by
    have ⟨h1, h2⟩ := monoFrom_snoc_bounds a y h hm.2
    refine ⟨Nat.le_trans hm.1 h1, ?_⟩
    intro x hx
    rcases List.mem_cons.mp hx with rfl | hx
    · exact ⟨hm.1, h1⟩
    · exact ⟨Nat.le_trans hm.1 (h2 x hx).1, (h2 x hx).2⟩

theorem monoFrom_split : ∀ (a : List Nat) (lo h : Nat) (b : List Nat),
    monoFrom lo (a ++ h :: b) → monoFrom lo (a ++ [h]) ∧ monoFrom h b
  | [], _, _, _, hm => ⟨⟨hm.1, trivial⟩, hm.2⟩
  | y :: a, _, h, b, hm =>
    have ⟨h1, h2⟩ := monoFrom_split a y h b hm.2
    ⟨⟨hm.1, h1⟩, h2⟩

theorem flatReadings_cons (r : Readings) (rs : List Readings) :
    flatReadings (r :: rs) = (r.tPrune :: r.tTests) ++ r.tPush :: flatReadings rs := by
  simp [flatReadings]

theorem pass_bounds {lo : Nat} {r : Readings}
    (h : monoFrom lo (r.tPrune :: (r.tTests ++ [r.tPush]))) :
    lo ≤ r.tPrune ∧ r.tPrune ≤ r.tPush ∧ ∀ x ∈ r.tTests, r.tPrune ≤ x ∧ x ≤ r.tPush :=
  ⟨h.1, monoFrom_snoc_bounds _ _ _ h.2⟩

/-- Every reading `request_allowed` uses satisfies `R` when `dflt` and all of `ts` do. -/
theorem allowed_room (log : List Nat) (R : Nat → Prop) :
    ∀ (lims : List Limit) (ts : List Nat) (dflt : Nat), (∀ x ∈ ts, R x) → R dflt →
      (allowed log lims ts dflt = true → ∀ lim ∈ lims, ∃ t, R t ∧ seen log lim t < lim.n) ∧
      ((∀ lim ∈ lims, ∀ t, R t → seen log lim t < lim.n) → allowed log lims ts dflt = true)
  | [], _, _, _, _ => ⟨fun _ _ hl => (nomatch hl), fun _ => rfl⟩
  | lim0 :: rest, ts, dflt, hts, hd => by
    have hb : R (ts.headD dflt) := by
      cases ts with
      | nil => exact hd
      | cons a _ => exact hts a List.mem_cons_self
    have ih := allowed_room log R rest ts.tail _ (fun x hx => hts x (List.mem_of_mem_tail hx)) hb
    rw [allowed]
    by_cases hs : seen log lim0 (ts.headD dflt) ≥ lim0.n
    · rw [if_pos hs]
      exact ⟨nofun, fun h => absurd (h lim0 List.mem_cons_self _ hb) (Nat.not_lt.2 hs)⟩
    · rw [if_neg hs]
      refine ⟨fun hal lim hl => ?_, fun h => ih.2 fun lim hl => h lim (List.mem_cons_of_mem _ hl)⟩
      rcases List.mem_cons.mp hl with rfl | hl
      · exact ⟨_, hb, Nat.lt_of_not_ge hs⟩
      · exact ih.1 hal lim hl

theorem prune_sublist (limits : List Limit) (log : List Nat) (t : Nat) :
    (prune limits log t).Sublist log := by
  cases limits with
  | nil => exact List.Sublist.refl _
  | cons first rest => rw [prune_cons]; exact List.filter_sublist

theorem attempt_eq (s : State) (r : Readings) :
    attempt s r =
      if allowed (prune s.limits s.log r.tPrune) s.limits r.tTests r.tPrune = true then
        ({ s with log := prune s.limits s.log r.tPrune ++ [r.tPush],
                  hist := s.hist ++ [r.tPush] }, true)
      else ({ s with log := prune s.limits s.log r.tPrune }, false) := rfl

theorem attempt_limits (s : State) (r : Readings) : (attempt s r).1.limits = s.limits := by
  rw [attempt_eq]
  split <;> rfl

theorem run_nil (s : State) : run s [] = s := rfl

theorem run_cons (s : State) (r : Readings) (rs : List Readings) :
    run s (r :: rs) = run (attempt s r).1 rs := rfl

theorem run_preserves {P : State → Prop} (step : ∀ s r, P s → P (attempt s r).1) :
    ∀ (rs : List Readings) (s : State), P s → P (run s rs)
  | [], _, h => h
  | r :: rs, s, h => run_preserves step rs _ (step s r h)

theorem run_preserves_mono {P : Nat → State → Prop}
    (step : ∀ last s r, P last s → monoFrom last (r.tPrune :: (r.tTests ++ [r.tPush])) →
      P r.tPush (attempt s r).1) :
    ∀ (rs : List Readings) (last : Nat) (s : State), P last s → monoFrom last (flatReadings rs) →
      ∃ last', P last' (run s rs)
  | [], last, _, h, _ => ⟨last, h⟩
  | r :: rs, last, s, h, hmono => by
    rw [flatReadings_cons] at hmono
    obtain ⟨ha, hb⟩ := monoFrom_split _ _ _ _ hmono
    exact run_preserves_mono step rs r.tPush _ (step last s r h ha) hb

theorem run_limits (rs : List Readings) (s : State) : (run s rs).limits = s.limits :=
  run_preserves (P := fun s' => s'.limits = s.limits) (fun s' r h => (attempt_limits s' r).trans h)
    rs s rfl

theorem attempt_log_sublist (s : State) (r : Readings) (h : s.log.Sublist s.hist) :
    (attempt s r).1.log.Sublist (attempt s r).1.hist := by
  have hp := (prune_sublist s.limits s.log r.tPrune).trans h
  rw [attempt_eq]
  split
  · exact List.Sublist.append hp (List.Sublist.refl _)
  · exact hp

theorem run_log_sublist (rs : List Readings) (s : State) (h : s.log.Sublist s.hist) :
    (run s rs).log.Sublist (run s rs).hist :=
  run_preserves attempt_log_sublist rs s h

theorem attempt_hist_le {s : State} {last : Nat} {r : Readings} (hle : ∀ x ∈ s.hist, x ≤ last)
    (hmono : monoFrom last (r.tPrune :: (r.tTests ++ [r.tPush]))) :
    ∀ x ∈ (attempt s r).1.hist, x ≤ r.tPush := by
  obtain ⟨h1, h2, _⟩ := pass_bounds hmono
  have hle' : ∀ x ∈ s.hist, x ≤ r.tPush := fun x hx =>
    Nat.le_trans (hle x hx) (Nat.le_trans h1 h2)
  rw [attempt_eq]
  split
  · exact fun x hx => (List.mem_append.mp hx).elim (hle' x)
      (fun h => Nat.le_of_eq (List.mem_singleton.mp h))
  · exact hle'

/-- Invariant of every reachable state, `last` being the latest clock reading taken. -/
structure Inv (limits : List Limit) (last : Nat) (s : State) : Prop where
  lims : s.limits = limits
  /-- every admission is in the past -/
  le_last : ∀ x ∈ s.hist, x ≤ last
  /-- the pruned log still holds every admission any limit can still see -/
  log_complete : ∀ lim ∈ limits,
    s.hist.filter (younger last lim.period) = s.log.filter (younger last lim.period)
  /-- the property itself -/
  safe : ∀ lim ∈ limits, ∀ t, inWindow s.hist lim.period t ≤ lim.n

theorem Inv.init (limits : List Limit) : Inv limits 0 (init limits) :=
  ⟨rfl, nofun, fun _ _ => rfl, fun _ _ _ => Nat.zero_le _⟩

theorem complete_lift {hist log : List Nat} {c c' p : Nat} (hc : c ≤ c')
    (h : hist.filter (younger c p) = log.filter (younger c p)) :
    hist.filter (younger c' p) = log.filter (younger c' p) := by
  rw [← filter_younger_younger hist hc (Nat.le_refl p), h, filter_younger_younger log hc (Nat.le_refl p)]

theorem complete_prune {limits : List Limit} (hm : HeadMax limits) {hist log : List Nat}
    {last t : Nat} (ht : last ≤ t) {lim : Limit} (hl : lim ∈ limits)
    (h : hist.filter (younger last lim.period) = log.filter (younger last lim.period)) :
    hist.filter (younger t lim.period) = (prune limits log t).filter (younger t lim.period) := by
  have h' := complete_lift ht h
  cases limits with
  | nil => exact h'
  | cons first rest =>
    have hp : lim.period ≤ first.period := hm first rest rfl lim hl
    rw [prune_cons, filter_younger_younger log (Nat.le_refl t) hp]
    exact h'

theorem inWindow_le_younger (hist : List Nat) (p : Nat) {c t : Nat} (h : c ≤ t) :
    inWindow hist p t ≤ (hist.filter (younger c p)).length :=
  length_filter_le_of_imp _ _ _ fun _ _ hx =>
    decide_eq_true (Nat.lt_of_le_of_lt h (of_decide_eq_true (Bool.and_eq_true_iff.1 hx).1))

theorem inWindow_append_singleton (hist : List Nat) (p t a : Nat) :
    inWindow (hist ++ [a]) p t =
      inWindow hist p t + (if t < a + p ∧ a ≤ t then 1 else 0) := by
  unfold inWindow
  rw [List.filter_append, List.length_append]
  congr 1
  by_cases h : t < a + p ∧ a ≤ t
  · simp [h.1, h.2]
  · rw [if_neg h]
    have : (decide (t < a + p) && decide (a ≤ t)) = false := by
      simpa using h
    simp [this]

/-- One pass preserves the invariant. -/
theorem Inv.attempt {limits : List Limit} (hm : HeadMax limits) {last : Nat} {s : State}
    (inv : Inv limits last s) {r : Readings}
    (hmono : monoFrom last (r.tPrune :: (r.tTests ++ [r.tPush]))) :
    Inv limits r.tPush (attempt s r).1 := by
  obtain ⟨h1, h2, h3⟩ := pass_bounds hmono
  obtain ⟨hlims, hle, hcomp, hsafe⟩ := inv
  have hle' := attempt_hist_le hle hmono
  -- the log after pruning is complete at `tPrune`
  have hcomp' : ∀ lim ∈ limits, s.hist.filter (younger r.tPrune lim.period) =
      (prune s.limits s.log r.tPrune).filter (younger r.tPrune lim.period) := by
    intro lim hl
    rw [hlims]
    exact complete_prune hm h1 hl (hcomp lim hl)
  rw [attempt_eq] at hle' ⊢
  by_cases hal : allowed (prune s.limits s.log r.tPrune) s.limits r.tTests r.tPrune = true
  · rw [if_pos hal] at hle' ⊢
    refine ⟨hlims, hle', ?_, ?_⟩
    · intro lim hl
      show (s.hist ++ [r.tPush]).filter _ = (prune s.limits s.log r.tPrune ++ [r.tPush]).filter _
      rw [List.filter_append, List.filter_append, complete_lift h2 (hcomp' lim hl)]
    · intro lim hl t
      show inWindow (s.hist ++ [r.tPush]) lim.period t ≤ lim.n
      rw [inWindow_append_singleton]
      by_cases hw : t < r.tPush + lim.period ∧ r.tPush ≤ t
      · -- the new admission counts: the limit had room at its test reading `tt ≤ tPush ≤ t`, and
        -- the window ending at `t` only holds entries younger than `tt - p`
        rw [if_pos hw]
        rw [hlims] at hal
        obtain ⟨tt, ⟨htt1, htt2⟩, hseen⟩ :=
          (allowed_room _ (fun x => r.tPrune ≤ x ∧ x ≤ r.tPush) limits r.tTests r.tPrune h3
            ⟨Nat.le_refl _, h2⟩).1 hal lim hl
        rw [seen_eq, ← hlims, ← complete_lift htt1 (hcomp' lim hl)] at hseen
        exact Nat.lt_of_le_of_lt
          (inWindow_le_younger s.hist lim.period (Nat.le_trans htt2 hw.2)) hseen
      · rw [if_neg hw]
        exact hsafe lim hl t
  · rw [if_neg hal] at hle' ⊢
    exact ⟨hlims, hle', fun lim hl => complete_lift h2 (hcomp' lim hl), hsafe⟩

theorem Inv.run {limits : List Limit} (hm : HeadMax limits) (rs : List Readings) :
    ∀ (last : Nat) (s : State), Inv limits last s → monoFrom last (flatReadings rs) →
      ∃ last', Inv limits last' (run s rs) :=
  run_preserves_mono (fun _ _ _ inv h => inv.attempt hm h) rs

theorem attempt_admits_of_room (s : State) (hsub : s.log.Sublist s.hist) (r : Readings) (t0 : Nat)
    (hmono : monoFrom t0 (r.tPrune :: (r.tTests ++ [r.tPush])))
    (hroom : ∀ lim ∈ s.limits, (s.hist.filter (younger t0 lim.period)).length < lim.n) :
    (attempt s r).2 = true := by
  obtain ⟨h1, _, h3⟩ := pass_bounds hmono
  have hal : allowed (prune s.limits s.log r.tPrune) s.limits r.tTests r.tPrune = true := by
    refine (allowed_room _ (t0 ≤ ·) _ _ _ (fun x hx => Nat.le_trans h1 (h3 x hx).1) h1).2 ?_
    · intro lim hl t ht
      rw [seen_eq]
      have hsub' : (prune s.limits s.log r.tPrune).Sublist s.hist :=
        (prune_sublist _ _ _).trans hsub
      have l1 := (hsub'.filter (younger t lim.period)).length_le
      have l2 : (s.hist.filter (younger t lim.period)).length ≤
          (s.hist.filter (younger t0 lim.period)).length :=
        length_filter_le_of_imp _ _ _ fun _ _ hx =>
          decide_eq_true (Nat.lt_of_le_of_lt ht (of_decide_eq_true hx))
      exact Nat.lt_of_le_of_lt (Nat.le_trans l1 l2) (hroom lim hl)
  rw [attempt_eq, if_pos hal]

theorem insertDesc_perm (l : Limit) : ∀ (xs : List Limit), (insertDesc l xs).Perm (l :: xs)
  | [] => .refl _
  | x :: xs => by
    unfold insertDesc
    split
    · exact .refl _
    · exact ((insertDesc_perm l xs).cons x).trans (.swap l x xs)

theorem sortDesc_perm : ∀ (raw : List Limit), (sortDesc raw).Perm raw
  | [] => .refl _
  | l :: ls => (insertDesc_perm l _).trans ((sortDesc_perm ls).cons l)

theorem mem_sortDesc (a : Limit) (raw : List Limit) : a ∈ sortDesc raw ↔ a ∈ raw :=
  (sortDesc_perm raw).mem_iff

theorem headMax_insertDesc (l : Limit) : ∀ (xs : List Limit), HeadMax xs → HeadMax (insertDesc l xs)
  | [], _ => fun _ _ he y hy => by cases he; cases List.mem_singleton.mp hy; exact Nat.le_refl _
  | x :: xs, h => by
    have hx := h x xs rfl
    unfold insertDesc
    intro first rest he y hy
    by_cases hlt : x.period < l.period
    · rw [if_pos hlt] at he hy
      cases he
      rcases List.mem_cons.mp hy with rfl | hy
      · exact Nat.le_refl _
      · exact Nat.le_trans (hx y hy) (Nat.le_of_lt hlt)
    · rw [if_neg hlt] at he hy
      cases he
      rcases List.mem_cons.mp hy with rfl | hy
      · exact Nat.le_refl _
      · rcases List.mem_cons.mp ((insertDesc_perm l xs).mem_iff.mp hy) with rfl | hy
        · exact Nat.le_of_not_lt hlt
        · exact hx y (List.mem_cons_of_mem _ hy)

theorem headMax_sortDesc : ∀ (raw : List Limit), HeadMax (sortDesc raw)
  | [] => fun _ _ he => nomatch he
  | l :: ls => headMax_insertDesc l _ (headMax_sortDesc ls)

theorem mkLimits_some {raw ls : List Limit} (h : mkLimits raw = some ls) :
    ls = sortDesc raw ∧ ∀ l ∈ raw, l.n ≠ 0 := by
  unfold mkLimits at h
  split at h
  · cases h
  · next hany =>
    refine ⟨(Option.some.inj h).symm, ?_⟩
    intro l hl h0
    apply hany
    rw [List.any_eq_true]
    exact ⟨l, hl, by simp [h0]⟩

end AcmedVerif.Limiter
