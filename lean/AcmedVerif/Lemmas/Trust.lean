/-
`Model/Trust.lean` for `Props/C18.lean`: every trace is `Blocks` of validated connections; it is
`Silent` when no connection validates or no client can be built.
-/
import AcmedVerif.Model.Trust

namespace AcmedVerif.Trust

theorem rootList_eq (cli ep gl : List Path) (es gs : Bool) :
    rootList cli ep gl es gs = cli ++ (if es then ep else []) ++ (if gs then gl else []) := by
  cases es <;> cases gs <;> simp [rootList, rootListOpt]

theorem rootFilesOk_iff (roots : List (Path × RootFile)) :
    rootFilesOk roots = true ↔ ∀ r ∈ roots, r.2 = RootFile.readablePem := by
  simp [rootFilesOk]

theorem loadRoots_eq (roots : List (Path × RootFile)) :
    loadRoots roots = if rootFilesOk roots then some (roots.map Prod.fst) else none := by
  induction roots with
  | nil => rfl
  | cons r rest ih =>
    obtain ⟨p, f⟩ := r
    cases f with
    | readablePem =>
      rw [loadRoots, ih]
      show _ = if (true && rootFilesOk rest) = true then _ else _
      cases rootFilesOk rest <;> rfl
    | unreadable => rfl
    | malformed => rfl

theorem getClient_eq (roots : List (Path × RootFile)) :
    getClient roots =
      if rootFilesOk roots then some { builtin := true, added := roots.map Prod.fst } else none := by
  rw [getClient, loadRoots_eq]
  cases rootFilesOk roots <;> rfl

theorem getClient_none_of_bad (roots : List (Path × RootFile))
    (hbad : ∃ r ∈ roots, r.2 ≠ RootFile.readablePem) : getClient roots = none := by
  obtain ⟨r, hr, hne⟩ := hbad
  rw [getClient_eq, if_neg]
  exact fun hok => hne ((rootFilesOk_iff roots).1 hok r hr)

theorem getClient_isSome (roots : List (Path × RootFile)) :
    (getClient roots).isSome = rootFilesOk roots := by
  rw [getClient_eq]
  cases rootFilesOk roots <;> rfl

theorem withFs_map_fst (fs : Path → RootFile) (paths : List Path) :
    (withFs fs paths).map Prod.fst = paths := by
  simp [withFs, Function.comp_def]

section
variable {Chain Host : Type}

/-- A trace is a concatenation of blocks `[handshakeOk c, requestSent c s]` with `P c`, and of
single events that are neither a handshake success nor a transmission. -/
inductive Blocks (P : Conn Chain Host → Prop) : List (Ev Chain Host) → Prop where
  | nil : Blocks P []
  | skip (e : Ev Chain Host) (t : List (Ev Chain Host)) :
      e.isSent = false → (∀ c, e ≠ .handshakeOk c) → Blocks P t → Blocks P (e :: t)
  | pair (c : Conn Chain Host) (s : Bool) (t : List (Ev Chain Host)) :
      P c → Blocks P t → Blocks P (.handshakeOk c :: .requestSent c s :: t)

theorem Blocks.append {P : Conn Chain Host → Prop} {a b : List (Ev Chain Host)}
    (ha : Blocks P a) (hb : Blocks P b) : Blocks P (a ++ b) := by
  induction ha with
  | nil => exact hb
  | skip e t h1 h2 _ ih => exact Blocks.skip e _ h1 h2 ih
  | pair c s t hp _ ih => exact Blocks.pair c s _ hp ih

theorem Blocks.sent_preceded {P : Conn Chain Host → Prop} {l : List (Ev Chain Host)}
    (hl : Blocks P l) :
    ∀ (pre post : List (Ev Chain Host)) (c : Conn Chain Host) (s : Bool),
      l = pre ++ .requestSent c s :: post →
      ∃ pre', pre = pre' ++ [.handshakeOk c] ∧ P c := by
  induction hl with
  | nil => exact fun pre _ _ _ h => by cases pre <;> cases h
  | skip e t h1 h2 _ ih =>
    intro pre post c s h
    rcases List.cons_eq_append_iff.1 h with ⟨rfl, h'⟩ | ⟨pre2, rfl, h'⟩
    · cases h'; cases h1
    · obtain ⟨pre', rfl, hc⟩ := ih _ _ _ _ h'
      exact ⟨e :: pre', rfl, hc⟩
  | pair c0 s0 t hp _ ih =>
    intro pre post c s h
    rcases List.cons_eq_append_iff.1 h with ⟨rfl, h'⟩ | ⟨pre2, rfl, h'⟩
    · cases h'
    rcases List.cons_eq_append_iff.1 h' with ⟨rfl, h''⟩ | ⟨pre3, rfl, h''⟩
    · cases h''; exact ⟨[], rfl, hp⟩
    · obtain ⟨pre', rfl, hc⟩ := ih _ _ _ _ h''
      exact ⟨_ :: _ :: pre', rfl, hc⟩

theorem Blocks.mono {P Q : Conn Chain Host → Prop} (hpq : ∀ c, P c → Q c)
    {l : List (Ev Chain Host)} (hl : Blocks P l) : Blocks Q l := by
  induction hl with
  | nil => exact Blocks.nil
  | skip e t h1 h2 _ ih => exact Blocks.skip e t h1 h2 ih
  | pair c s t hp _ ih => exact Blocks.pair c s t (hpq c hp) ih

/-- A trace in which nothing was ever transmitted and no handshake succeeded. -/
def Silent (l : List (Ev Chain Host)) : Prop :=
  ∀ e ∈ l, e.isSent = false ∧ ∀ c, e ≠ .handshakeOk c

theorem Silent.nil : Silent ([] : List (Ev Chain Host)) := fun _ he => nomatch he

theorem Silent.cons {e : Ev Chain Host} {t : List (Ev Chain Host)} (h1 : e.isSent = false)
    (h2 : ∀ c, e ≠ .handshakeOk c) (ht : Silent t) : Silent (e :: t) := fun x hx =>
  (List.mem_cons.mp hx).elim (fun h => h ▸ ⟨h1, h2⟩) (ht x)

theorem Silent.append {a b : List (Ev Chain Host)} (ha : Silent a) (hb : Silent b) :
    Silent (a ++ b) := fun e he => (List.mem_append.mp he).elim (ha e) (hb e)

theorem Silent.sentCount {l : List (Ev Chain Host)} (h : Silent l) : sentCount l = 0 := by
  unfold Trust.sentCount
  rw [List.countP_eq_zero]
  intro e he
  rw [(h e he).1]
  exact Bool.false_ne_true

theorem signedSent_le_sent (l : List (Ev Chain Host)) : signedSentCount l ≤ sentCount l := by
  unfold signedSentCount sentCount
  apply List.countP_mono_left
  intro e _ h
  cases e with
  | requestSent c s => rfl
  | _ => cases h

theorem Silent.signedSentCount {l : List (Ev Chain Host)} (h : Silent l) :
    signedSentCount l = 0 :=
  Nat.le_zero.mp (h.sentCount ▸ signedSent_le_sent l)

/-- Used to treat the no-client case uniformly. -/
theorem Silent.blocks {P : Conn Chain Host → Prop} {l : List (Ev Chain Host)} (h : Silent l) :
    Blocks P l := by
  induction l with
  | nil => exact Blocks.nil
  | cons e t ih =>
    have he := h e (List.mem_cons_self)
    exact Blocks.skip e t he.1 he.2 (ih (fun x hx => h x (List.mem_cons_of_mem _ hx)))

/-- If no connection that can be opened validates, nothing is transmitted. -/
theorem Blocks.silent_of_false {P : Conn Chain Host → Prop} {l : List (Ev Chain Host)}
    (hl : Blocks P l) (hP : ∀ c, Ev.handshakeOk c ∈ l → ¬ P c) : sentCount l = 0 := by
  induction hl with
  | nil => rfl
  | skip e t h1 _ _ ih =>
    have := ih (fun c hc => hP c (List.mem_cons_of_mem _ hc))
    simp only [sentCount, List.countP_cons, h1] at this ⊢
    simpa using this
  | pair c s t hp _ _ =>
    exact absurd hp (hP c (List.mem_cons_self))

variable (validates : Chain → Host → Store → Bool)
variable (maxRounds : Nat) (roots : List (Path × RootFile))

def Valid (store : Store) (c : Conn Chain Host) : Prop :=
  validates c.chain c.host store = true

theorem ite_trace {Q : List (Ev Chain Host) → Prop} {c : Prop} [Decidable c]
    {a b : List (Ev Chain Host) × Bool} (ha : Q a.1) (hb : Q b.1) : Q (if c then a else b).1 := by
  split <;> assumption

/-- With projections instead of pattern-matching `let`s. -/
theorem postLoop_cons (store : Store) (r : Round Chain Host) (rest : List (Round Chain Host)) :
    postLoop validates store (r :: rest) =
      let n := nonceStep validates store r
      let p := transfer validates store r.postConn true
      let evs := n.1 ++ .jwsBuilt :: p.1
      if !n.2 then (n.1, false)
      else if !r.builderOk then (n.1, false)
      else if p.2 then (evs, true)
      else if !validates r.postConn.chain r.postConn.host store then (evs, false)
      else if r.again then
        (evs ++ (postLoop validates store rest).1, (postLoop validates store rest).2)
      else (evs, false) := rfl

theorem attempt_cons (c : Call Chain Host)
    (rest : List (Call Chain Host)) :
    attempt validates maxRounds roots (c :: rest) =
      if (call validates maxRounds roots c).2 then
        ((call validates maxRounds roots c).1 ++ (attempt validates maxRounds roots rest).1,
          (attempt validates maxRounds roots rest).2)
      else ((call validates maxRounds roots c).1, false) := rfl

theorem transfer_blocks (store : Store) (c : Conn Chain Host) (signed : Bool) :
    Blocks (Valid validates store) (transfer validates store c signed).1 := by
  unfold transfer
  split
  · exact Blocks.pair c signed [] ‹_› Blocks.nil
  · exact Blocks.skip _ [] rfl nofun Blocks.nil

theorem postLoop_blocks (store : Store) (rs : List (Round Chain Host)) :
    Blocks (Valid validates store) (postLoop validates store rs).1 := by
  induction rs with
  | nil => exact Blocks.nil
  | cons r rest ih =>
    have hN : Blocks (Valid validates store) (nonceStep validates store r).1 :=
      ite_trace (transfer_blocks validates store _ _) Blocks.nil
    have hNP := hN.append
      (Blocks.skip .jwsBuilt _ rfl nofun (transfer_blocks validates store r.postConn true))
    rw [postLoop_cons]
    exact ite_trace hN (ite_trace hN (ite_trace hNP (ite_trace hNP
      (ite_trace (hNP.append ih) hNP))))

theorem call_blocks (store : Store)
    (hs : getClient roots = some store) (cl : Call Chain Host) :
    Blocks (Valid validates store) (call validates maxRounds roots cl).1 := by
  cases cl with
  | get c =>
    simp only [call, hs]
    exact Blocks.skip _ _ rfl nofun (transfer_blocks validates store c false)
  | post rs =>
    simp only [call, hs]
    exact Blocks.skip _ _ rfl nofun (postLoop_blocks validates store _)

theorem call_noClient (hs : getClient roots = none) (cl : Call Chain Host) :
    call validates maxRounds roots cl = ([.clientFailed], false) := by
  cases cl <;> simp only [call, hs]

theorem attempt_blocks (store : Store)
    (hs : getClient roots = some store) (cs : List (Call Chain Host)) :
    Blocks (Valid validates store) (attempt validates maxRounds roots cs).1 := by
  induction cs with
  | nil => exact Blocks.nil
  | cons c rest ih =>
    have hc := call_blocks validates maxRounds roots store hs c
    rw [attempt_cons]
    exact ite_trace (hc.append ih) hc

theorem attempts_blocks (store : Store)
    (hs : getClient roots = some store) (as : List (List (Call Chain Host))) :
    Blocks (Valid validates store) (attempts validates maxRounds roots as) := by
  induction as with
  | nil => exact Blocks.nil
  | cons a rest ih => exact Blocks.append (attempt_blocks validates maxRounds roots store hs a) ih

theorem attempt_noClient (hs : getClient roots = none) (cs : List (Call Chain Host)) :
    attempt validates maxRounds roots cs =
      (match cs with
       | [] => ([], true)
       | _ :: _ => ([.clientFailed], false)) := by
  cases cs with
  | nil => rfl
  | cons c rest => rw [attempt_cons, call_noClient validates maxRounds roots hs c]; rfl

theorem transfer_invalid (store : Store) (c : Conn Chain Host) (s : Bool)
    (h : validates c.chain c.host store = false) :
    transfer validates store c s = ([Ev.handshakeFailed c], false) := by
  unfold transfer
  rw [h]
  rfl

theorem silent_handshakeFailed (c : Conn Chain Host) : Silent [Ev.handshakeFailed c] :=
  Silent.cons rfl nofun Silent.nil

theorem postLoop_invalid (store : Store) (rs : List (Round Chain Host))
    (h : ∀ r ∈ rs, ∀ c ∈ r.conns, validates c.chain c.host store = false) :
    Silent (postLoop validates store rs).1 ∧ (postLoop validates store rs).2 = false := by
  cases rs with
  | nil => exact ⟨Silent.nil, rfl⟩
  | cons r rest =>
    have hp : validates r.postConn.chain r.postConn.host store = false :=
      h r List.mem_cons_self r.postConn (List.mem_append_right _ (List.mem_singleton_self _))
    rw [postLoop_cons]
    unfold nonceStep
    cases hn : r.needNonce with
    | true =>
      -- the `new_nonce` handshake fails: the first branch
      have hc : validates r.nonceConn.chain r.nonceConn.host store = false :=
        h r List.mem_cons_self r.nonceConn (by simp [Round.conns, hn])
      rw [if_pos rfl, transfer_invalid validates store _ _ hc]
      exact ⟨silent_handshakeFailed _, rfl⟩
    | false =>
      rw [if_neg Bool.false_ne_true]
      cases hb : r.builderOk with
      | false => exact ⟨Silent.nil, rfl⟩
      | true =>
        -- the JWS is built, then the POST handshake fails: the fourth branch
        rw [transfer_invalid validates store _ _ hp, hp]
        exact ⟨Silent.cons rfl nofun (silent_handshakeFailed _), rfl⟩

theorem call_invalid (store : Store)
    (hs : getClient roots = some store) (cl : Call Chain Host)
    (h : ∀ c ∈ cl.conns, validates c.chain c.host store = false) :
    Silent (call validates maxRounds roots cl).1 ∧ (call validates maxRounds roots cl).2 = false := by
  cases cl with
  | get c =>
    have hc := h c (List.mem_singleton_self _)
    simp only [call, hs, transfer_invalid validates store c false hc]
    exact ⟨Silent.cons rfl nofun (silent_handshakeFailed _), trivial⟩
  | post rs =>
    have hr : ∀ r ∈ rs.take maxRounds, ∀ c ∈ r.conns, validates c.chain c.host store = false :=
      fun r hr c hc => h c (List.mem_flatMap.2 ⟨r, List.mem_of_mem_take hr, hc⟩)
    obtain ⟨h1, h2⟩ := postLoop_invalid validates store _ hr
    simp only [call, hs]
    exact ⟨Silent.cons rfl nofun h1, h2⟩

/-- Covers "no client can be built" (`h` is then vacuous) and "no connection validates". -/
theorem attempt_untrusted (a : List (Call Chain Host))
    (h : ∀ store, getClient roots = some store →
      ∀ cl ∈ a, ∀ c ∈ cl.conns, validates c.chain c.host store = false) :
    Silent (attempt validates maxRounds roots a).1 ∧
      (a ≠ [] → (attempt validates maxRounds roots a).2 = false) := by
  cases a with
  | nil => exact ⟨Silent.nil, fun hne => absurd rfl hne⟩
  | cons cl rest =>
    rw [attempt_cons]
    cases hs : getClient roots with
    | none =>
      rw [call_noClient validates maxRounds roots hs cl]
      exact ⟨Silent.cons rfl nofun Silent.nil, fun _ => rfl⟩
    | some store =>
      obtain ⟨h1, h2⟩ :=
        call_invalid validates maxRounds roots store hs cl (h store hs cl List.mem_cons_self)
      rw [h2]
      exact ⟨h1, fun _ => rfl⟩

theorem attempts_untrusted (as : List (List (Call Chain Host)))
    (h : ∀ store, getClient roots = some store →
      ∀ a ∈ as, ∀ cl ∈ a, ∀ c ∈ cl.conns, validates c.chain c.host store = false) :
    Silent (attempts validates maxRounds roots as) := by
  induction as with
  | nil => exact Silent.nil
  | cons a rest ih =>
    exact Silent.append
      (attempt_untrusted validates maxRounds roots a
        (fun st hst => h st hst a List.mem_cons_self)).1
      (ih (fun st hst a' ha' => h st hst a' (List.mem_cons_of_mem _ ha')))

theorem attempts_noClient_silent (hs : getClient roots = none) (as : List (List (Call Chain Host))) :
    Silent (attempts validates maxRounds roots as) :=
  attempts_untrusted validates maxRounds roots as (fun _ hst => nomatch hs.symm.trans hst)

end

end AcmedVerif.Trust
