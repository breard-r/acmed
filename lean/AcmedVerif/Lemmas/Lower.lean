/-
Lemmas about `Model/Lower.lean` (`str::to_lowercase` over the tables of `Gen/Lower.lean`).  Taken
from the tables, by `decide +kernel`, are only closed facts:
* `asciiTable`   — the rows of `Gen.lowerMap` below 128 are exactly `A`–`Z` ↦ `a`–`z`;
* `tableOutputs` — no row outputs an ASCII upper-case letter or a full stop; 1..3 characters each;
* the tables are sorted and shorter than `2 ^ searchFuel` (so `findKey_iff`, `inRanges_iff`).
Everything else is proved for all strings.
-/
import AcmedVerif.Model.Lower
import AcmedVerif.Lemmas.Idna

namespace AcmedVerif.Lower
open AcmedVerif.Idna

/-- `findKeyGo` and `inRangesGo` are this search of the window `[lo, hi)` with two comparisons:
`cmp x = .lt` sends it to the right of `x`, `.gt` to the left, `.eq` ends it. -/
def searchGo {α : Type} (a : Array α) (cmp : α → Ordering) : Nat → Nat → Nat → Option α
  | 0, _, _ => none
  | f + 1, lo, hi =>
    if lo < hi then
      match a[(lo + hi) / 2]? with
      | none => none
      | some x =>
        match cmp x with
        | .eq => some x
        | .lt => searchGo a cmp f ((lo + hi) / 2 + 1) hi
        | .gt => searchGo a cmp f lo ((lo + hi) / 2)
    else none

theorem searchGo_sound {α : Type} (a : Array α) (cmp : α → Ordering) (x : α) :
    ∀ f lo hi, searchGo a cmp f lo hi = some x → x ∈ a.toList ∧ cmp x = .eq := by
  intro f
  induction f with
  | zero => intro lo hi h; cases h
  | succ f ih =>
    intro lo hi h
    unfold searchGo at h
    split at h
    · split at h
      · cases h
      · rename_i y hy
        split at h
        · rename_i hc
          cases h
          exact ⟨Array.mem_toList_iff.2 (Array.mem_of_getElem? hy), hc⟩
        · exact ih _ _ h
        · exact ih _ _ h
    · cases h

theorem searchGo_complete {α : Type} (a : Array α) (cmp : α → Ordering) (idx : Nat)
    (hidx : idx < a.size) (hlt : ∀ i (h : i < a.size), i < idx → cmp a[i] = .lt)
    (heq : cmp a[idx] = .eq) (hgt : ∀ i (h : i < a.size), idx < i → cmp a[i] = .gt) :
    ∀ f lo hi, lo ≤ idx → idx < hi → hi ≤ a.size → hi < lo + 2 ^ f →
      searchGo a cmp f lo hi = some a[idx] := by
  intro f
  induction f with
  | zero => intro lo hi _ _ _ h; omega
  | succ f ih =>
    intro lo hi h1 h2 h3 h4
    have hmid : (lo + hi) / 2 < a.size := by omega
    rw [Nat.pow_succ] at h4
    unfold searchGo
    rw [if_pos (by omega), Array.getElem?_eq_getElem hmid]
    rcases Nat.lt_trichotomy ((lo + hi) / 2) idx with hm | hm | hm
    · simp only [hlt _ hmid hm]
      exact ih _ _ hm h2 h3 (by omega)
    · subst hm
      simp only [heq]
    · simp only [hgt _ hmid hm]
      exact ih _ _ h1 hm (by omega) (by omega)

theorem searchGo_found {α : Type} (a : Array α) (cmp : α → Ordering) {R : α → α → Prop}
    (hp : a.toList.Pairwise R)
    (hmono : ∀ x y, R x y → (cmp y = .eq → cmp x = .lt) ∧ (cmp x = .eq → cmp y = .gt))
    {f : Nat} (hsz : a.size < 2 ^ f) {x : α} (hx : x ∈ a.toList) (he : cmp x = .eq) :
    searchGo a cmp f 0 a.size = some x := by
  obtain ⟨i, hi, rfl⟩ := List.mem_iff_getElem.1 hx
  have hi' : i < a.size := by simpa using hi
  have hR (j k : Nat) (hj : j < a.size) (hk : k < a.size) (hjk : j < k) : R a[j] a[k] := by
    have := List.pairwise_iff_getElem.1 hp j k (by simpa using hj) (by simpa using hk) hjk
    rwa [Array.getElem_toList, Array.getElem_toList] at this
  rw [Array.getElem_toList] at he ⊢
  exact searchGo_complete a cmp i hi' (fun j hj hji => (hmono _ _ (hR j i hj hi' hji)).1 he) he
    (fun j hj hij => (hmono _ _ (hR i j hi' hj hij)).2 he) _ 0 a.size (Nat.zero_le _) hi'
    (Nat.le_refl _) (by simpa using hsz)

def keyCmp (k : Nat) (e : Nat × List Nat) : Ordering :=
  if e.1 = k then .eq else if e.1 < k then .lt else .gt

theorem findKeyGo_eq (a : Array (Nat × List Nat)) (k : Nat) :
    ∀ f lo hi, findKeyGo a k f lo hi = (searchGo a (keyCmp k) f lo hi).map (·.2) := by
  intro f
  induction f with
  | zero => intro lo hi; rfl
  | succ f ih =>
    intro lo hi
    unfold findKeyGo searchGo
    by_cases hlt : lo < hi
    · simp only [hlt, if_true]
      cases a[(lo + hi) / 2]? with
      | none => rfl
      | some e =>
        simp only [keyCmp]
        by_cases h1 : e.1 = k
        · simp only [h1, if_true, Option.map_some]
        · by_cases h2 : e.1 < k <;> simp only [h1, h2, if_true, if_false, ih]
    · simp only [hlt, if_false, Option.map_none]

theorem keyCmp_eq {k : Nat} {e : Nat × List Nat} : keyCmp k e = .eq ↔ e.1 = k := by
  unfold keyCmp
  by_cases h1 : e.1 = k
  · simp only [h1, if_true]
  · by_cases h2 : e.1 < k <;> simp [h1, h2]

theorem findKey_mem (a : Array (Nat × List Nat)) (k : Nat) (v : List Nat)
    (h : findKey a k = some v) : (k, v) ∈ a.toList := by
  rw [findKey, findKeyGo_eq, Option.map_eq_some_iff] at h
  obtain ⟨e, he, rfl⟩ := h
  obtain ⟨hm, hc⟩ := searchGo_sound a _ e _ _ _ he
  exact keyCmp_eq.1 hc ▸ hm

theorem findKey_none (a : Array (Nat × List Nat)) (k : Nat) (h : ∀ v, (k, v) ∉ a.toList) :
    findKey a k = none := by
  cases hf : findKey a k with
  | none => rfl
  | some v => exact absurd (findKey_mem a k v hf) (h v)

/-- Keys strictly increasing. -/
def keysSorted : List (Nat × List Nat) → Bool
  | [] => true
  | [_] => true
  | r :: s :: rest => Nat.blt r.1 s.1 && keysSorted (s :: rest)

theorem keysSorted_spec (l : List (Nat × List Nat)) (h : keysSorted l = true) :
    l.Pairwise (fun a b => a.1 < b.1) := by
  induction l with
  | nil => exact List.Pairwise.nil
  | cons r rest ih =>
    cases rest with
    | nil => exact List.pairwise_singleton _ _
    | cons s rest' =>
      simp only [keysSorted, Bool.and_eq_true, Nat.blt_eq] at h
      have hp := ih h.2
      refine List.Pairwise.cons (fun t ht => ?_) hp
      rcases List.mem_cons.1 ht with rfl | ht
      · exact h.1
      · exact Nat.lt_trans h.1 ((List.pairwise_cons.1 hp).1 t ht)

theorem findKey_iff (a : Array (Nat × List Nat)) (hs : keysSorted a.toList = true)
    (hsz : a.size < 2 ^ searchFuel) (k : Nat) (v : List Nat) :
    findKey a k = some v ↔ (k, v) ∈ a.toList := by
  refine ⟨findKey_mem a k v, fun hr => ?_⟩
  rw [findKey, findKeyGo_eq, searchGo_found a (keyCmp k) (keysSorted_spec _ hs) ?_ hsz hr
    (keyCmp_eq.2 rfl)]
  · rfl
  · intro x y hxy
    simp only [keyCmp_eq]
    unfold keyCmp
    constructor <;> intro h
    · rw [if_neg (Nat.ne_of_lt (h ▸ hxy)), if_pos (h ▸ hxy)]
    · rw [if_neg (Nat.ne_of_gt (h ▸ hxy)), if_neg (Nat.lt_asymm (h ▸ hxy))]

def rangeCmp (n : Nat) (r : Nat × Nat) : Ordering :=
  if n < r.1 then .gt else if r.2 < n then .lt else .eq

theorem inRangesGo_eq (a : Array (Nat × Nat)) (n : Nat) :
    ∀ f lo hi, inRangesGo a n f lo hi = (searchGo a (rangeCmp n) f lo hi).isSome := by
  intro f
  induction f with
  | zero => intro lo hi; rfl
  | succ f ih =>
    intro lo hi
    unfold inRangesGo searchGo
    by_cases hlt : lo < hi
    · simp only [hlt, if_true]
      cases a[(lo + hi) / 2]? with
      | none => rfl
      | some e =>
        simp only [rangeCmp]
        by_cases h1 : n < e.1
        · simp only [h1, if_true, ih]
        · by_cases h2 : e.2 < n <;>
            simp only [h1, h2, if_true, if_false, ih, Option.isSome_some]
    · simp only [hlt, if_false, Option.isSome_none]

theorem rangeCmp_eq {n : Nat} {r : Nat × Nat} : rangeCmp n r = .eq ↔ r.1 ≤ n ∧ n ≤ r.2 := by
  unfold rangeCmp
  by_cases h1 : n < r.1
  · simp only [h1, if_true, reduceCtorEq, false_iff]; omega
  · by_cases h2 : r.2 < n
    · simp only [h1, h2, if_true, if_false, reduceCtorEq, false_iff]; omega
    · simp only [h1, h2, if_false, true_iff]; omega

theorem inRanges_mem (a : Array (Nat × Nat)) (n : Nat) (h : inRanges a n = true) :
    ∃ r ∈ a.toList, r.1 ≤ n ∧ n ≤ r.2 := by
  rw [inRanges, inRangesGo_eq, Option.isSome_iff_exists] at h
  obtain ⟨r, hr⟩ := h
  obtain ⟨hm, hc⟩ := searchGo_sound a _ r _ _ _ hr
  exact ⟨r, hm, rangeCmp_eq.1 hc⟩

/-- Inclusive ranges, each well formed, strictly increasing and disjoint. -/
def rangesSorted : List (Nat × Nat) → Bool
  | [] => true
  | [r] => Nat.ble r.1 r.2
  | r :: s :: rest => Nat.ble r.1 r.2 && Nat.blt r.2 s.1 && rangesSorted (s :: rest)

theorem rangesSorted_spec (l : List (Nat × Nat)) (h : rangesSorted l = true) :
    l.Pairwise (fun a b => a.1 ≤ a.2 ∧ a.2 < b.1) := by
  induction l with
  | nil => exact List.Pairwise.nil
  | cons r rest ih =>
    cases rest with
    | nil => exact List.pairwise_singleton _ _
    | cons s rest' =>
      simp only [rangesSorted, Bool.and_eq_true, Nat.ble_eq, Nat.blt_eq] at h
      have hp := ih h.2
      refine List.Pairwise.cons (fun t ht => ⟨h.1.1, ?_⟩) hp
      rcases List.mem_cons.1 ht with rfl | ht
      · exact h.1.2
      · have := (List.pairwise_cons.1 hp).1 t ht
        omega

theorem inRanges_iff (a : Array (Nat × Nat)) (hs : rangesSorted a.toList = true)
    (hsz : a.size < 2 ^ searchFuel) (n : Nat) :
    inRanges a n = true ↔ ∃ r ∈ a.toList, r.1 ≤ n ∧ n ≤ r.2 := by
  refine ⟨inRanges_mem a n, ?_⟩
  rintro ⟨r, hr, hb⟩
  rw [inRanges, inRangesGo_eq, searchGo_found a (rangeCmp n) (rangesSorted_spec _ hs) ?_ hsz hr
    (rangeCmp_eq.2 hb)]
  · rfl
  · intro x y hxy
    simp only [rangeCmp_eq]
    unfold rangeCmp
    constructor <;> intro h
    · have hlt : x.2 < n := Nat.lt_of_lt_of_le hxy.2 h.1
      rw [if_neg (Nat.not_lt.2 (Nat.le_trans hxy.1 (Nat.le_of_lt hlt))), if_pos hlt]
    · rw [if_pos (Nat.lt_of_le_of_lt h.2 hxy.2)]

theorem lowerMap_sorted : keysSorted Gen.lowerMap.toList = true := by decide +kernel
theorem ignorable_sorted : rangesSorted Gen.ignorableRanges.toList = true := by decide +kernel
theorem cased_sorted : rangesSorted Gen.casedRanges.toList = true := by decide +kernel
theorem table_sizes : Gen.lowerMap.size < 2 ^ searchFuel ∧ Gen.ignorableRanges.size < 2 ^ searchFuel ∧
    Gen.casedRanges.size < 2 ^ searchFuel := by decide +kernel

theorem asciiTable :
    Gen.lowerMap.toList.filter (fun e => Nat.blt e.1 128) =
      (List.range' 65 26).map fun n => (n, [n + 32]) := by
  decide +kernel

/-- A scalar value above `Z` (so none of `A`–`Z`, no full stop); `Nat.blt` is a kernel primitive. -/
def codeOk (n : Nat) : Bool :=
  Nat.blt 90 n && (Nat.blt n 0xD800 || Nat.blt 0xDFFF n && Nat.blt n 0x110000)

/-- By cases, so that the kernel runs no list recursion. -/
def rowOk (e : Nat × List Nat) : Bool :=
  match e.2 with
  | [a] => codeOk a
  | [a, b] => codeOk a && codeOk b
  | [a, b, c] => codeOk a && codeOk b && codeOk c
  | _ => false

theorem tableOutputs : Gen.lowerMap.toList.all rowOk = true := by
  decide +kernel

theorem sigma_not_ascii : isAscii capitalSigma = false := by decide

/-- The only unfolding of `lowerChar`: the kernel compares it with its body by running the search
until it is stuck at `c`. -/
theorem lowerChar_eq (c : Char) :
    lowerChar c = ((findKey Gen.lowerMap c.toNat).map (·.map Char.ofNat)).getD [c] := by
  unfold lowerChar
  cases findKey Gen.lowerMap c.toNat <;> rfl

theorem lowerChar_of_row {c : Char} {v : List Nat} (h : (c.toNat, v) ∈ Gen.lowerMap.toList) :
    lowerChar c = v.map Char.ofNat := by
  rw [lowerChar_eq, (findKey_iff _ lowerMap_sorted table_sizes.1 _ _).2 h]
  rfl

theorem lowerChar_of_no_row {c : Char} (h : ∀ v, (c.toNat, v) ∉ Gen.lowerMap.toList) :
    lowerChar c = [c] := by
  rw [lowerChar_eq, findKey_none _ _ h]
  rfl

theorem lowerChar_cases (c : Char) :
    ((∀ v, (c.toNat, v) ∉ Gen.lowerMap.toList) ∧ lowerChar c = [c]) ∨
    ∃ v, (c.toNat, v) ∈ Gen.lowerMap.toList ∧ lowerChar c = v.map Char.ofNat := by
  cases h : findKey Gen.lowerMap c.toNat with
  | none =>
    have hno : ∀ v, (c.toNat, v) ∉ Gen.lowerMap.toList := fun v hv => by
      rw [(findKey_iff _ lowerMap_sorted table_sizes.1 _ _).2 hv] at h; cases h
    exact Or.inl ⟨hno, lowerChar_of_no_row hno⟩
  | some v =>
    have hv := findKey_mem _ _ _ h
    exact Or.inr ⟨_, hv, lowerChar_of_row hv⟩

theorem ascii_row_iff {n : Nat} (hn : n < 128) (v : List Nat) :
    (n, v) ∈ Gen.lowerMap.toList ↔ (65 ≤ n ∧ n ≤ 90) ∧ v = [n + 32] := by
  have : (n, v) ∈ Gen.lowerMap.toList ↔
      (n, v) ∈ Gen.lowerMap.toList.filter (fun e => Nat.blt e.1 128) := by
    simp only [List.mem_filter, Nat.blt_eq, hn, and_true]
  rw [this, asciiTable, List.mem_map]
  constructor
  · rintro ⟨k, hk, h⟩
    cases h
    have := List.mem_range'_1.1 hk
    exact ⟨⟨this.1, by omega⟩, rfl⟩
  · rintro ⟨⟨h1, h2⟩, rfl⟩
    exact ⟨n, List.mem_range'_1.2 ⟨h1, by omega⟩, rfl⟩

theorem lowerChar_ascii (c : Char) (hc : isAscii c = true) : lowerChar c = [asciiLower c] := by
  have hn := isAscii_iff.1 hc
  by_cases hu : isAsciiUpper c = true
  · rw [lowerChar_of_row ((ascii_row_iff hn _).2 ⟨isAsciiUpper_iff.1 hu, rfl⟩), asciiLower, if_pos hu]
    rfl
  · rw [lowerChar_of_no_row fun v hv => hu (isAsciiUpper_iff.2 ((ascii_row_iff hn v).1 hv).1),
      asciiLower_of_not_upper (by simpa using hu)]

theorem row_facts (e : Nat × List Nat) (he : e ∈ Gen.lowerMap.toList) :
    (∀ ch ∈ e.2.map Char.ofNat, isAsciiUpper ch = false ∧ ch ≠ '.') ∧
    1 ≤ (e.2.map Char.ofNat).length ∧ (e.2.map Char.ofNat).length ≤ 3 := by
  have h := List.all_eq_true.1 tableOutputs e he
  have hall : (∀ n ∈ e.2, codeOk n = true) ∧ 1 ≤ e.2.length ∧ e.2.length ≤ 3 := by
    obtain ⟨k, l⟩ := e
    rcases l with _ | ⟨a, _ | ⟨b, _ | ⟨c, _ | _⟩⟩⟩ <;> simp_all [rowOk]
  refine ⟨fun ch hch => ?_, by simpa using hall.2.1, by simpa using hall.2.2⟩
  obtain ⟨n, hn, rfl⟩ := List.mem_map.1 hch
  have hc := hall.1 n hn
  simp only [codeOk, Bool.and_eq_true, Bool.or_eq_true, Nat.blt_eq] at hc
  have ht : (Char.ofNat n).toNat = n := toNat_ofNat hc.2
  refine ⟨isAsciiUpper_false_iff.2 (by omega), fun e => ?_⟩
  have : '.'.toNat = 46 := rfl
  rw [← e, ht] at this
  omega

theorem lowerChar_facts (c : Char) :
    (∀ d ∈ lowerChar c, isAsciiUpper d = false) ∧ (c ≠ '.' → '.' ∉ lowerChar c) ∧
    1 ≤ (lowerChar c).length ∧ (lowerChar c).length ≤ 3 := by
  rcases lowerChar_cases c with ⟨hno, h⟩ | ⟨v, he, h⟩
  · rw [h]
    refine ⟨fun d hd => ?_, fun hc hd => hc (List.mem_singleton.1 hd).symm, Nat.le_refl 1, by simp⟩
    rw [List.mem_singleton.1 hd]
    -- an upper-case letter has its row
    refine Bool.eq_false_iff.2 fun hu => hno _ ((ascii_row_iff ?_ _).2 ⟨isAsciiUpper_iff.1 hu, rfl⟩)
    have := isAsciiUpper_iff.1 hu
    omega
  · rw [h]
    have hr := row_facts _ he
    exact ⟨fun d hd => (hr.1 d hd).1, fun _ hd => (hr.1 '.' hd).2 rfl, hr.2⟩

theorem lowerAt_ascii (r : List Char) (c : Char) (cs : List Char) (hc : isAscii c = true) :
    lowerAt r c cs = [asciiLower c] := by
  unfold lowerAt
  rw [if_neg fun e => absurd (e ▸ hc) (by decide)]
  exact lowerChar_ascii c hc

theorem lowerAt_facts (r : List Char) (c : Char) (cs : List Char) :
    (∀ d ∈ lowerAt r c cs, isAsciiUpper d = false) ∧ (c ≠ '.' → '.' ∉ lowerAt r c cs) ∧
    1 ≤ (lowerAt r c cs).length ∧ (lowerAt r c cs).length ≤ 3 := by
  unfold lowerAt
  split
  · have hs : ∀ d ∈ [mapSigma r cs], isAsciiUpper d = false ∧ d ≠ '.' := by
      unfold mapSigma
      split <;> decide
    exact ⟨fun d hd => (hs d hd).1, fun _ hd => (hs _ hd).2 rfl, Nat.le_refl 1, by simp⟩
  · exact lowerChar_facts c

theorem lowerGo_ascii (s : List Char) : ∀ r, allAscii s = true → lowerGo r s = s.map asciiLower := by
  induction s with
  | nil => intro r _; rfl
  | cons c cs ih =>
    intro r hs
    simp only [allAscii, List.all_cons, Bool.and_eq_true] at hs
    rw [lowerGo, lowerAt_ascii r c cs hs.1, ih (c :: r) hs.2]
    rfl

theorem lowerGo_facts (s : List Char) : ∀ r,
    (∀ d ∈ lowerGo r s, isAsciiUpper d = false) ∧ ('.' ∉ s → '.' ∉ lowerGo r s) ∧
    s.length ≤ (lowerGo r s).length ∧ (lowerGo r s).length ≤ 3 * s.length := by
  induction s with
  | nil => intro r; simp [lowerGo]
  | cons c cs ih =>
    intro r
    obtain ⟨a1, a2, a3, a4⟩ := lowerAt_facts r c cs
    obtain ⟨i1, i2, i3, i4⟩ := ih (c :: r)
    simp only [lowerGo, List.mem_append, List.length_append, List.length_cons, List.mem_cons, not_or]
    exact ⟨fun d hd => hd.elim (a1 d) (i1 d), fun hs => ⟨a2 fun e => hs.1 e.symm, i2 hs.2⟩,
      by omega, by omega⟩

/-- Lower-casing of the segment `seg` standing between `revBefore` (reversed) and `after`. -/
def lowerSeg (revBefore : List Char) : List Char → List Char → List Char
  | [], _ => []
  | c :: cs, after => lowerAt revBefore c (cs ++ after) ++ lowerSeg (c :: revBefore) cs after

theorem lowerGo_eq_seg (s : List Char) : ∀ r, lowerGo r s = lowerSeg r s [] := by
  induction s with
  | nil => intro r; rfl
  | cons c cs ih => intro r; simp only [lowerGo, lowerSeg, List.append_nil, ih]

theorem lowerSeg_append (a : List Char) :
    ∀ r b after, lowerSeg r (a ++ b) after = lowerSeg r a (b ++ after) ++ lowerSeg (a.reverse ++ r) b after := by
  induction a with
  | nil => intro r b after; simp [lowerSeg]
  | cons c cs ih =>
    intro r b after
    simp only [List.cons_append, lowerSeg, ih, List.append_assoc, List.reverse_cons, List.nil_append]

/-- Going away from Σ: only skipped characters, then a not skipped one that is cased. -/
def ReachesCased (l : List Char) : Prop :=
  ∃ a c b, l = a ++ c :: b ∧ (∀ x ∈ a, isIgnorable x = true) ∧ isIgnorable c = false ∧
    isCased c = true

theorem ignorableThenCased_iff (l : List Char) : ignorableThenCased l = true ↔ ReachesCased l := by
  constructor
  · intro h
    induction l with
    | nil => cases h
    | cons x xs ih =>
      unfold ignorableThenCased at h
      by_cases hx : isIgnorable x = true
      · rw [if_pos hx] at h
        obtain ⟨a, c, b, rfl, ha, hc⟩ := ih h
        exact ⟨x :: a, c, b, rfl, fun y hy => (List.mem_cons.1 hy).elim (· ▸ hx) (ha y), hc⟩
      · rw [if_neg hx] at h
        exact ⟨[], x, xs, rfl, fun _ hy => (List.not_mem_nil hy).elim, by simpa using hx, h⟩
  · rintro ⟨a, c, b, rfl, ha, hc, hcc⟩
    induction a with
    | nil => simp only [List.nil_append, ignorableThenCased, hc, Bool.false_eq_true, if_false, hcc]
    | cons x xs ih =>
      simp only [List.cons_append, ignorableThenCased, ha x List.mem_cons_self, if_true]
      exact ih fun y hy => ha y (List.mem_cons_of_mem _ hy)

/-! Indexing a table is linear for the kernel, so a binary search costs it several scans.
`lowerFullL` is `lowerFull` with one scan per look-up; `Props/C01Lower.lean` evaluates through it. -/

def scanWith (ig cased : Char → Bool) : List Char → Bool
  | [] => false
  | c :: cs => if ig c then scanWith ig cased cs else cased c

def lowerGoWith (lc : Char → List Char) (ig cased : Char → Bool) (revBefore : List Char) :
    List Char → List Char
  | [] => []
  | c :: cs =>
    (if c = capitalSigma then
      [if scanWith ig cased revBefore && !scanWith ig cased cs then finalSigma else smallSigma]
    else lc c) ++ lowerGoWith lc ig cased (c :: revBefore) cs

theorem scanWith_eq (l : List Char) : scanWith isIgnorable isCased l = ignorableThenCased l := by
  induction l with
  | nil => rfl
  | cons c cs ih => simp only [scanWith, ignorableThenCased, ih]

theorem lowerGoWith_eq (s : List Char) :
    ∀ r, lowerGoWith lowerChar isIgnorable isCased r s = lowerGo r s := by
  induction s with
  | nil => intro r; rfl
  | cons c cs ih => intro r; simp only [lowerGoWith, lowerGo, lowerAt, mapSigma, scanWith_eq, ih]

def rowScan : List (Nat × List Nat) → Char → List Char
  | [], c => [c]
  | e :: es, c =>
    if Nat.blt c.toNat e.1 then [c]
    else if Nat.beq e.1 c.toNat then e.2.map Char.ofNat
    else rowScan es c

def rangeScan (l : List (Nat × Nat)) (n : Nat) : Bool := l.any fun r => Nat.ble r.1 n && Nat.ble n r.2

theorem rowScan_of_mem {l : List (Nat × List Nat)} (hp : l.Pairwise (fun a b => a.1 < b.1))
    {c : Char} {v : List Nat} (h : (c.toNat, v) ∈ l) : rowScan l c = v.map Char.ofNat := by
  induction l with
  | nil => cases h
  | cons e es ih =>
    obtain ⟨hlt, hp'⟩ := List.pairwise_cons.1 hp
    simp only [rowScan, Nat.blt_eq, Nat.beq_eq]
    rcases List.mem_cons.1 h with rfl | hm
    · rw [if_neg (Nat.lt_irrefl _), if_pos rfl]
    · have := hlt _ hm
      rw [if_neg (Nat.lt_asymm this), if_neg (Nat.ne_of_lt this), ih hp' hm]

theorem rowScan_of_no_row {l : List (Nat × List Nat)} {c : Char} (h : ∀ v, (c.toNat, v) ∉ l) :
    rowScan l c = [c] := by
  induction l with
  | nil => rfl
  | cons e es ih =>
    obtain ⟨k, w⟩ := e
    simp only [rowScan, Nat.blt_eq, Nat.beq_eq]
    split
    · rfl
    · rw [if_neg fun hk : k = c.toNat => h w (hk ▸ List.mem_cons_self),
        ih fun v hv => h v (List.mem_cons_of_mem _ hv)]

theorem lowerChar_eq_scan (c : Char) : lowerChar c = rowScan Gen.lowerMap.toList c := by
  rcases lowerChar_cases c with ⟨hno, h⟩ | ⟨v, hv, h⟩
  · rw [h, rowScan_of_no_row hno]
  · rw [h, rowScan_of_mem (keysSorted_spec _ lowerMap_sorted) hv]

theorem inRanges_eq_scan (a : Array (Nat × Nat)) (hs : rangesSorted a.toList = true)
    (hsz : a.size < 2 ^ searchFuel) (n : Nat) : inRanges a n = rangeScan a.toList n := by
  rw [Bool.eq_iff_iff, inRanges_iff a hs hsz]
  simp only [rangeScan, List.any_eq_true, Bool.and_eq_true, Nat.ble_eq]

def lowerFullL : List Char → List Char :=
  lowerGoWith (rowScan Gen.lowerMap.toList) (fun c => rangeScan Gen.ignorableRanges.toList c.toNat)
    (fun c => rangeScan Gen.casedRanges.toList c.toNat) []

theorem lowerFull_eq_linear : lowerFull = lowerFullL := by
  have h1 : lowerChar = rowScan Gen.lowerMap.toList := funext lowerChar_eq_scan
  have h2 : isIgnorable = fun c => rangeScan Gen.ignorableRanges.toList c.toNat :=
    funext fun c => inRanges_eq_scan _ ignorable_sorted table_sizes.2.1 _
  have h3 : isCased = fun c => rangeScan Gen.casedRanges.toList c.toNat :=
    funext fun c => inRanges_eq_scan _ cased_sorted table_sizes.2.2 _
  funext s
  rw [lowerFullL, ← h1, ← h2, ← h3, lowerGoWith_eq]
  rfl

end AcmedVerif.Lower
