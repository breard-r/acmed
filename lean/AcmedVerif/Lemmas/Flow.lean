/-
Lemmas about `Model/Flow.lean`: the monad `M` over `World` (the trace is a field of the world) and
its programs.

* `Law R` / `Sat R m`: `R w tag w'` relates the world before, the outcome tag (ok | failed step |
  stuck) and the world after, is reflexive and composes through `ok`; `Sat R m`: every run of `m`
  satisfies it.  `TLaw Φ` / `TR Φ`: relations on the events a run adds.
* Per program one lemma: a relation that composes and holds of the program's steps holds of the
  program.  The frame, the event alphabets and the event-wise monitors are instances; so is `InStep`
  of `Props/C11Lost.lean`, whose continuation of an exchange needs to know that the answer is not
  `lost` (the parameter `G` of `AcctSteps`).  `SatB` is walked on its own: its bound adds up along
  `>>=` and it needs the value an exchange returns (the sizes the CA serves).

Sections, in order: runs of `M`; relations that compose; the per-program lemmas; relations on added
events (`TR`, `AllEv`); `Frame`; file writes (`WriteOut`); alphabets (`APrep`, `AAcct`, `AFetch`);
closed forms of key pair / download / check / installation; `SatB` (C07 bound); no certificate write
before the installation; the per-certificate loop and `Sat.attempt`; account programs: closed forms
(`*_run`), shapes (`SaveShape` … `KeyShape`), requests of a block; glue of a monitor over the attempt
(`ARest`, `ATail`, `afterSync_sat2`, `attempt_sat2`); the monitors `regMon`, `savedMon`,
`heldMon` / `heldMonP`; account programs that returned (`*_val`, `Consumed`, `Updated`); `readyMon`
(C05); the authorisation step exactly (C05); anatomy of a returned attempt (`attempt_ok_trace`).
-/
import AcmedVerif.Model.Flow

namespace AcmedVerif.Flow

/-! ### Runs of `M`: outcome tag, bind -/

/-- `Out.result` of the model for any value type (`Out.result_eq_tag`). -/
def Out.tag : Out α → Result
  | .val _ => .ok
  | .fail s => .failed s
  | .stuck => .stuck

@[simp] theorem Out.tag_val (a : α) : (Out.val a).tag = .ok := rfl
@[simp] theorem Out.tag_fail (s : Step) : (Out.fail s : Out α).tag = .failed s := rfl
@[simp] theorem Out.tag_stuck : (Out.stuck : Out α).tag = .stuck := rfl

theorem Out.result_eq_tag (o : Out Unit) : o.result = o.tag := by cases o <;> rfl

theorem bind_run (m : M α) (f : α → M β) (w : World) :
    (m >>= f) w = match m w with
      | (.val a, w1) => f a w1
      | (.fail s, w1) => (.fail s, w1)
      | (.stuck, w1) => (.stuck, w1) := rfl

theorem pure_run (a : α) (w : World) : (pure a : M α) w = (.val a, w) := rfl

theorem bind_cases (m : M α) (f : α → M β) (w : World) :
    (∃ a w1, m w = (.val a, w1) ∧ (m >>= f) w = f a w1) ∨
    ((m w).1.tag ≠ .ok ∧ ((m >>= f) w).1.tag = (m w).1.tag ∧ ((m >>= f) w).2 = (m w).2) := by
  rw [bind_run]
  rcases h : m w with ⟨o, w1⟩
  cases o with
  | val a => exact .inl ⟨a, w1, rfl, rfl⟩
  | fail s => exact .inr ⟨by simp, rfl, rfl⟩
  | stuck => exact .inr ⟨by simp, rfl, rfl⟩

theorem bind_val_inv {m : M α} {f : α → M β} {w w' : World} {b : β}
    (h : (m >>= f) w = (.val b, w')) : ∃ a w1, m w = (.val a, w1) ∧ f a w1 = (.val b, w') := by
  rcases bind_cases m f w with ⟨a, w1, h1, h2⟩ | ⟨h1, h2, _⟩
  · exact ⟨a, w1, h1, by rw [← h2, h]⟩
  · rw [h] at h2; simp at h2; exact absurd h2.symm h1

theorem M.bind_assoc (m : M α) (f : α → M β) (g : β → M γ) :
    (m >>= f) >>= g = m >>= fun a => f a >>= g := by
  funext w
  simp only [bind_run]
  rcases m w with ⟨o, w1⟩
  cases o <;> rfl

theorem M.pure_bind (a : α) (f : α → M β) : (pure a : M α) >>= f = f a := by
  funext w; rfl

theorem authOf_eq_jwk {k : ReqKind} : authOf k = .jwk ↔ k = .newAccount := by
  cases k <;> simp [authOf]

theorem authOf_eq_kid {k : ReqKind} (h1 : k ≠ .newAccount) (h2 : k ≠ .directory) :
    authOf k = .kid := by
  cases k <;> first | rfl | exact absurd rfl h1 | exact absurd rfl h2

/-! ### Relations that compose -/

structure Law (R : World → Result → World → Prop) : Prop where
  refl : ∀ t w, R w t w
  trans : ∀ {w1 w2 w3 t}, R w1 .ok w2 → R w2 t w3 → R w1 t w3

structure Sat (R : World → Result → World → Prop) (m : M α) : Prop where
  run : ∀ w, R w (m w).1.tag (m w).2

theorem Sat.pure {R} (L : Law R) (a : α) : Sat R (pure a : M α) := ⟨fun w => L.refl _ w⟩

theorem Sat.failAt {R} (L : Law R) (s : Step) : Sat R (failAt s : M α) := ⟨fun w => L.refl _ w⟩

theorem Sat.getW {R} (L : Law R) : Sat R getW := ⟨fun w => L.refl _ w⟩

theorem Sat.bind {R} (L : Law R) {m : M α} {f : α → M β} (hm : Sat R m)
    (hf : ∀ a, Sat R (f a)) : Sat R (m >>= f) := by
  constructor
  intro w
  have h1 := hm.run w
  rcases bind_cases m f w with ⟨a, w1, e1, e2⟩ | ⟨_, e2, e3⟩
  · rw [e2]; rw [e1] at h1; exact L.trans h1 ((hf a).run w1)
  · rw [e2, e3]; exact h1

theorem Sat.ite {R} {c : Prop} [Decidable c] {a b : M α} (ha : Sat R a) (hb : Sat R b) :
    Sat R (if c then a else b) := by
  split
  · exact ha
  · exact hb

/-! ### A program satisfies what its steps satisfy

For each program of `Model/Flow.lean`: a relation that composes and holds of the steps the program
is made of holds of the program.  The steps are hypotheses, so that one lemma per program serves
every relation: the frame, event alphabets, trace monitors, the keys "in step" of `Props/C11Lost`. -/

theorem Sat.writeFileHooks {R} (L : Law R) (hpre : Sat R (hookGroup .filePre))
    (hpost : Sat R (hookGroup .filePost)) (step : Step) {act : M Unit} (hact : Sat R act) :
    Sat R (Flow.writeFileHooks step act) :=
  .bind L hpre fun _ => .ite
    (.bind L hact fun _ => .bind L hpost fun _ => .ite (.pure L _) (.failAt L _)) (.failAt L _)

/-- The steps of the account programs: an exchange of a kind in `K`, an update of the account
record that keeps the configured key, an account save.  `G r` is what the law may assume of the
answer `r` when it judges what follows the exchange (nothing for most laws; "not lost" for the
keys in step of `Props/C11Lost.lean`): an update that keeps `caKey = recKey` is judged by `modAcc`,
the ghost effect of a lost answer, which does not, by `ghostLost`. -/
structure AcctSteps (R : World → Result → World → Prop) (K : ReqKind → Prop)
    (G : ExRes → Prop := fun _ => True) : Prop where
  law : Law R
  exchange : ∀ k s, K k → Sat R (exchange k s)
  exchThen : ∀ k s {f : ExRes → M Unit}, K k → (∀ r, G r → Sat R (f r)) →
    Sat R (Flow.exchange k s >>= f)
  modAcc : ∀ f : Acc → Acc, (∀ a, (f a).curKey = a.curKey) →
    (∀ a, a.caKey = a.recKey → (f a).caKey = (f a).recKey) → Sat R (modAcc f)
  ghostLost : ∀ f : Acc → Acc, (∀ a, (f a).curKey = a.curKey) → G .lost → Sat R (Flow.modAcc f)
  saveAccount : Sat R saveAccount

/-- A law that needs to know nothing of the answers. -/
theorem AcctSteps.of {R : World → Result → World → Prop} {K : ReqKind → Prop} (L : Law R)
    (hx : ∀ k s, K k → Sat R (Flow.exchange k s))
    (hm : ∀ f : Acc → Acc, (∀ a, (f a).curKey = a.curKey) → Sat R (Flow.modAcc f))
    (hs : Sat R Flow.saveAccount) : AcctSteps R K :=
  ⟨L, hx, fun k s _ hk hf => .bind L (hx k s hk) fun r => hf r trivial, fun f h _ => hm f h,
    fun f h _ => hm f h, hs⟩

section Programs
variable {R : World → Result → World → Prop} {K : ReqKind → Prop} {G : ExRes → Prop}

theorem AcctSteps.register (h : AcctSteps R K G) (hn : K .newAccount) : Sat R register := by
  have L := h.law
  unfold Flow.register
  refine .bind L (.getW L) fun w => h.exchThen _ _ hn fun r _ => ?_
  split
  · exact .ite (.bind L (h.modAcc _ (fun _ => rfl) fun _ _ => rfl) fun _ => h.saveAccount)
      (.failAt L _)
  · exact .failAt L _

theorem AcctSteps.updateContacts (h : AcctSteps R K G) (hn : K .newAccount)
    (hu : K .accountUpdate) : Sat R updateContacts := by
  have L := h.law
  unfold Flow.updateContacts
  refine .bind L (.getW L) fun w => h.exchThen _ _ hu fun r hr => ?_
  split
  · exact .bind L (h.modAcc _ (fun _ => rfl) fun _ ha => ha) fun _ => h.saveAccount
  · exact h.register hn
  · exact .bind L (h.ghostLost _ (fun _ => rfl) hr) fun _ => .failAt L _
  · exact .failAt L _

theorem AcctSteps.checkNewKey (h : AcctSteps R K G) (hp : K .accountProbe) :
    Sat R checkNewKey := by
  have L := h.law
  unfold Flow.checkNewKey
  refine .bind L (.getW L) fun w => h.exchThen _ _ hp fun r _ => ?_
  split
  · exact .bind L (h.modAcc _ (fun _ => rfl) fun _ _ => rfl) fun _ => h.saveAccount
  · exact .failAt L _

theorem AcctSteps.keyChangeStep (h : AcctSteps R K G) (hn : K .newAccount) (hp : K .accountProbe)
    (hk : K .keyChange) (ca : Bool) : Sat R (keyChangeStep ca) := by
  have L := h.law
  unfold Flow.keyChangeStep
  refine .bind L (.getW L) fun w => h.exchThen _ _ hk fun r hr => ?_
  split
  · exact .bind L (h.modAcc _ (fun _ => rfl) fun _ _ => rfl) fun _ => h.saveAccount
  · exact h.register hn
  · exact .ite (h.checkNewKey hp) (.failAt L _)
  · exact .bind L (h.ghostLost _ (fun _ => rfl) hr) fun _ => .failAt L _
  · exact .failAt L _

theorem AcctSteps.updateKey (h : AcctSteps R K G) (hn : K .newAccount) (hp : K .accountProbe)
    (hk : K .keyChange) (v : Variant) : Sat R (updateKey v) := by
  have L := h.law
  have hs := h.keyChangeStep hn hp hk
  have hc : Sat R Flow.keyChangeChecked := by
    unfold Flow.keyChangeChecked
    refine .bind L (.getW L) fun w => .bind L (h.exchange _ _ hp) fun r => ?_
    split
    · exact hs _
    · exact hs _
    · exact h.checkNewKey hp
    · exact .failAt L _
  unfold Flow.updateKey
  refine .bind L (.getW L) fun w => .ite ?_ (.failAt L _)
  split
  · exact hc
  · exact hs _
  · exact hs _

theorem Sat.synchronize (L : Law R) (hr : Sat R register) (hc : Sat R updateContacts)
    {v : Variant} (hk : Sat R (Flow.updateKey v)) : Sat R (Flow.synchronize v) := by
  have hk' : ∀ c : Prop, ∀ [Decidable c], Sat R (if c then Flow.updateKey v else Pure.pure ()) :=
    fun _ _ => .ite hk (.pure L _)
  have hc' : ∀ c : Prop, ∀ [Decidable c], Sat R (if c then updateContacts else Pure.pure ()) :=
    fun _ _ => .ite hc (.pure L _)
  unfold Flow.synchronize
  exact .bind L (.getW L) fun w => .ite (.ite
    (.ite (.bind L (hk' _) fun _ => hc' _) (.bind L (hc' _) fun _ => hk' _))
    (.bind L hr fun _ => hc' _)) hr

theorem AcctSteps.synchronize (h : AcctSteps R K G) (hn : K .newAccount) (hu : K .accountUpdate)
    (hp : K .accountProbe) (hk : K .keyChange) (v : Variant) : Sat R (synchronize v) :=
  .synchronize h.law (h.register hn) (h.updateContacts hn hu) (h.updateKey hn hp hk v)

theorem Sat.decodeNewOrder (L : Law R) (r : ExRes) : Sat R (decodeNewOrder r) := by
  unfold Flow.decodeNewOrder
  split
  · exact .ite (.pure L _) (.failAt L _)
  · exact .failAt L _

theorem Sat.newOrder (L : Law R) (hx : ∀ s, Sat R (exchange .newOrder s))
    (hr : Sat R register) : Sat R Flow.newOrder := by
  unfold Flow.newOrder
  refine .bind L (.getW L) fun w => .bind L (hx _) fun r => ?_
  split
  · exact .bind L hr fun _ => .bind L (.getW L) fun w2 => .bind L (hx _) fun r2 =>
      .decodeNewOrder L r2
  · exact .decodeNewOrder L r

theorem AcctSteps.newOrder (h : AcctSteps R K G) (hn : K .newAccount) (ho : K .newOrder) :
    Sat R newOrder :=
  .newOrder h.law (fun _ => h.exchange _ _ ho) (h.register hn)

theorem Sat.refreshDirectory (L : Law R) (hx : Sat R (exchange .directory 0)) :
    Sat R Flow.refreshDirectory := by
  unfold Flow.refreshDirectory
  refine .bind L hx fun r => ?_
  split
  · exact .pure L _
  · exact .failAt L _

theorem Sat.solveChallenges (L : Law R) (hh : ∀ c, Sat R (hookGroup (.challenge c)))
    (hx : ∀ c s, Sat R (exchange (.challengeReady c) s)) (ty : ChalType)
    (l : List (ChalType × Nat)) : Sat R (Flow.solveChallenges ty l) := by
  induction l with
  | nil => unfold Flow.solveChallenges; exact .pure L _
  | cons x rest ih =>
    unfold Flow.solveChallenges
    refine .ite (.bind L (hh _) fun ok => .ite ?_ (.failAt L _)) ih
    refine .bind L (.getW L) fun w => .bind L (hx _ _) fun r => ?_
    split
    · exact .bind L ih fun cs => .pure L _
    · exact .failAt L _

theorem Sat.processAuthzs (L : Law R) (hx : ∀ a s, Sat R (exchange (.authz a) s))
    (hp : ∀ a s, Sat R (exchange (.authzPoll a) s)) (hc : ∀ c, Sat R (hookGroup (.clean c)))
    (hs : ∀ ty l, Sat R (Flow.solveChallenges ty l)) (cfg : Cfg) (l : List Nat) :
    Sat R (Flow.processAuthzs cfg l) := by
  have hpoll : ∀ a n, Sat R (pollAuthz a n) := by
    intro a n
    induction n with
    | zero => unfold pollAuthz; exact .failAt L _
    | succ n ih =>
      unfold pollAuthz
      refine .bind L (.getW L) fun w => .bind L (hp _ _) fun r => ?_
      split
      · exact .ite (.pure L _) ih
      · exact .failAt L _
  have hclean : ∀ l, Sat R (cleanHooks l) := by
    intro l
    induction l with
    | nil => unfold cleanHooks; exact .pure L _
    | cons x rest ih => unfold cleanHooks; exact .bind L (hc _) fun ok => .ite ih (.failAt L _)
  induction l with
  | nil => unfold Flow.processAuthzs; exact .pure L _
  | cons a rest ih =>
    unfold Flow.processAuthzs processAuthz
    refine .bind L (.bind L (.getW L) fun w => .bind L (hx _ _) fun r => ?_) fun _ => ih
    split
    · refine .ite (.pure L _) (.ite (.failAt L _) ?_)
      split
      · exact .failAt L _
      · exact .bind L (hs _ _) fun cs => .bind L (hpoll _ _) fun _ => hclean cs
    · exact .failAt L _

theorem Sat.pollOrder (L : Law R) (hx : ∀ s, Sat R (exchange .orderPoll s)) (want : OrderStatus)
    (st : Step) (n : Nat) : Sat R (Flow.pollOrder want st n) := by
  induction n with
  | zero => unfold Flow.pollOrder; exact .failAt L _
  | succ n ih =>
    unfold Flow.pollOrder
    refine .bind L (.getW L) fun w => .bind L (hx _) fun r => ?_
    split
    · exact .ite (.pure L _) ih
    · exact .failAt L _

theorem Sat.prepareM (L : Law R) {v : Variant} {cfg : Cfg} (hd : Sat R Flow.refreshDirectory)
    (hs : Sat R (Flow.synchronize v)) (hn : Sat R Flow.newOrder) (ha : ∀ l, Sat R (Flow.processAuthzs cfg l))
    (hp : ∀ want st n, Sat R (Flow.pollOrder want st n)) : Sat R (Flow.prepareM v cfg) :=
  .bind L hd fun _ => .bind L hs fun _ => .bind L hn fun _ => .bind L (ha _) fun _ =>
    .bind L (hp _ _ _) fun _ => .pure L _

theorem Sat.getKeyPair (L : Law R) (hf : Sat R freshKey) (hg : ∀ k, Sat R (emit (.keygen k)))
    (hr : ∀ k, Sat R (emit (.readKey k))) (cfg : Cfg) : Sat R (Flow.getKeyPair cfg) := by
  have hgen : Sat R genKey := .bind L hf fun k => .bind L (hg k) fun _ => .pure L _
  unfold Flow.getKeyPair
  refine .bind L (.getW L) fun w => .ite ?_ hgen
  split
  · exact .bind L (hr _) fun _ => .pure L _
  · exact hgen

theorem Sat.finalizeOrder (L : Law R) (hx : ∀ s, Sat R (exchange .finalize s))
    (hp : ∀ want st n, Sat R (Flow.pollOrder want st n)) : Sat R Flow.finalizeOrder := by
  unfold Flow.finalizeOrder
  refine .bind L (.getW L) fun w => .bind L (hx _) fun r => ?_
  split
  · exact .bind L (hp _ _ _) fun o => .ite (.pure L _) (.failAt L _)
  · exact .failAt L _

theorem Sat.fetchPre (L : Law R) {v : Variant} {k : KeyId} {isNew : Bool}
    (hw : (isNew && v.keyWriteEarly) = true → Sat R (writeKey k)) (hc : Sat R (emit (.csr k)))
    (hf : Sat R Flow.finalizeOrder) : Sat R (Flow.fetchPre v k isNew) := by
  unfold Flow.fetchPre
  refine .bind L ?_ fun _ => .bind L hc fun _ => hf
  split
  · rename_i h; exact hw h
  · exact .pure L _

theorem Sat.downloadCert (L : Law R) (hx : ∀ s, Sat R (exchange .certDownload s)) :
    Sat R Flow.downloadCert := by
  unfold Flow.downloadCert
  refine .bind L (.getW L) fun w => .bind L (hx _) fun r => ?_
  split
  · exact .pure L _
  · exact .failAt L _

theorem Sat.checkBody (L : Law R) (v : Variant) (k : KeyId) (cb : CertBody) :
    Sat R (Flow.checkBody v k cb) := by
  unfold Flow.checkBody
  refine .ite ?_ (.pure L _)
  split
  · exact .failAt L _
  · exact .ite (.pure L _) (.failAt L _)

theorem Sat.install (L : Law R) {k : KeyId} {c : CertContent} (hk : Sat R (writeKey k))
    (hc : Sat R (writeCert c)) (v : Variant) (isNew : Bool) : Sat R (Flow.install v k isNew c) :=
  .bind L (.ite hk (.pure L _)) fun _ => hc

theorem Sat.obtainM (L : Law R) {v : Variant} {cfg : Cfg} (hp : Sat R (Flow.prepareM v cfg))
    (hg : Sat R (Flow.getKeyPair cfg)) (hf : ∀ k n, Sat R (Flow.fetchPre v k n)) (hd : Sat R Flow.downloadCert) :
    Sat R (Flow.obtainM v cfg) :=
  .bind L hp fun _ => .bind L hg fun p => .bind L (hf _ _) fun _ => .bind L hd fun cb =>
    .bind L (.checkBody L v p.1 cb) fun _ => .pure L _

end Programs

/-! ### Relations on the events a run adds -/

structure TLaw (Φ : List Ev → Result → Prop) : Prop where
  nil : ∀ t, Φ [] t
  app : ∀ {a b t}, Φ a .ok → Φ b t → Φ (a ++ b) t

def TR (Φ : List Ev → Result → Prop) : World → Result → World → Prop :=
  fun w t w' => ∃ es, w'.trace = w.trace ++ es ∧ Φ es t

theorem TLaw.law {Φ} (T : TLaw Φ) : Law (TR Φ) where
  refl := fun t w => ⟨[], by simp, T.nil t⟩
  trans := by
    rintro w1 w2 w3 t ⟨a, ha, pa⟩ ⟨b, hb, pb⟩
    exact ⟨a ++ b, by rw [hb, ha, List.append_assoc], T.app pa pb⟩

/-- From world `w`, the events `m` adds and its outcome satisfy `Φ` (`Sat (TR Φ) m`: from every world). -/
abbrev Adds (Φ : List Ev → Result → Prop) (m : M α) (w : World) : Prop :=
  TR Φ w (m w).1.tag (m w).2

theorem TR.bind_at {Φ1 Φ2 Φ : List Ev → Result → Prop} {m : M α} {f : α → M β} {w : World}
    (hm : Adds Φ1 m w) (hf : ∀ a w1, m w = (.val a, w1) → Adds Φ2 (f a) w1)
    (happ : ∀ {a b t}, Φ1 a .ok → Φ2 b t → Φ (a ++ b) t)
    (hstop : ∀ {a t}, t ≠ .ok → Φ1 a t → Φ a t) : Adds Φ (m >>= f) w := by
  unfold Adds
  obtain ⟨es1, he1, h1⟩ := hm
  rcases bind_cases m f w with ⟨a, w1, e1, e2⟩ | ⟨hne, e2, e3⟩
  · obtain ⟨es2, he2, h2⟩ := hf a w1 e1
    rw [e1] at he1 h1
    rw [e2]
    exact ⟨es1 ++ es2, by rw [he2, he1, List.append_assoc], happ h1 h2⟩
  · rw [e2, e3]
    exact ⟨es1, he1, hstop hne h1⟩

theorem TR.emit {Φ} (e : Ev) (h : Φ [e] .ok) : Sat (TR Φ) (emit e) :=
  ⟨fun _ => ⟨[e], rfl, h⟩⟩

theorem TR.modAcc {Φ} (T : TLaw Φ) (f : Acc → Acc) : Sat (TR Φ) (modAcc f) :=
  ⟨fun _ => ⟨[], by simp [Flow.modAcc], T.nil _⟩⟩

theorem TR.modFiles {Φ} (T : TLaw Φ) (f : Files → Files) : Sat (TR Φ) (modFiles f) :=
  ⟨fun _ => ⟨[], by simp [Flow.modFiles], T.nil _⟩⟩

theorem TR.freshKey {Φ} (T : TLaw Φ) : Sat (TR Φ) freshKey :=
  ⟨fun _ => ⟨[], by simp [Flow.freshKey], T.nil _⟩⟩

theorem TR.exchange {Φ} (T : TLaw Φ) (kind : ReqKind) (signer : KeyId)
    (h : ∀ r, Φ [.exch kind (authOf kind) signer r] .ok) : Sat (TR Φ) (exchange kind signer) := by
  constructor
  intro w
  unfold Flow.exchange
  cases hx : w.exs with
  | nil => exact ⟨[], by simp, T.nil _⟩
  | cons r rest => exact ⟨[_], rfl, h r⟩

theorem TR.hookGroup {Φ} (T : TLaw Φ) (ty : HookKind)
    (h : ∀ b, Φ [.hooks ty b] .ok) : Sat (TR Φ) (hookGroup ty) := by
  constructor
  intro w
  unfold Flow.hookGroup
  cases hx : w.hks with
  | nil => exact ⟨[], by simp, T.nil _⟩
  | cons r rest => exact ⟨[_], rfl, h r⟩

theorem TR.writeFile {Φ} (T : TLaw Φ)
    (hh : ∀ b, Φ [.hooks .filePre b] .ok ∧ Φ [.hooks .filePost b] .ok) (step : Step)
    (f : Files → Files) {e : Ev} (he : Φ [e] .ok) :
    Sat (TR Φ) (writeFileHooks step (Flow.modFiles f >>= fun _ => Flow.emit e)) :=
  .writeFileHooks T.law (TR.hookGroup T _ fun b => (hh b).1) (TR.hookGroup T _ fun b => (hh b).2) _
    (.bind T.law (TR.modFiles T f) fun _ => TR.emit e he)

def AllEv (P : Ev → Prop) : List Ev → Result → Prop := fun es _ => ∀ e ∈ es, P e

theorem AllEv.tlaw (P : Ev → Prop) : TLaw (AllEv P) where
  nil := by intro t e he; cases he
  app := by
    intro a b t ha hb e he
    rcases List.mem_append.mp he with h | h
    · exact ha e h
    · exact hb e h

theorem AllEv.single {P : Ev → Prop} {e : Ev} {t : Result} (h : P e) : AllEv P [e] t := by
  intro e' he; rw [List.mem_singleton] at he; rw [he]; exact h

theorem Sat.mono {R R' : World → Result → World → Prop} {m : M α}
    (h : ∀ w t w', R w t w' → R' w t w') (hm : Sat R m) : Sat R' m :=
  ⟨fun w => h _ _ _ (hm.run w)⟩

theorem AllEv.mono {P Q : Ev → Prop} (h : ∀ e, P e → Q e) {m : M α}
    (hm : Sat (TR (AllEv P)) m) : Sat (TR (AllEv Q)) m :=
  hm.mono fun _ _ _ ⟨es, he, hp⟩ => ⟨es, he, fun e hx => h e (hp e hx)⟩

theorem TLaw.of_all {Φ : List Ev → Result → Prop} (T : TLaw Φ) {P : Ev → Prop}
    (h : ∀ e, P e → Φ [e] .ok) : ∀ (es : List Ev) (t : Result), AllEv P es t → Φ es t := by
  intro es
  induction es with
  | nil => intro t _; exact T.nil t
  | cons e tl ih =>
    intro t hall
    have h1 : Φ [e] .ok := h e (hall e List.mem_cons_self)
    have h2 : Φ tl t := ih t (fun x hx => hall x (List.mem_cons_of_mem _ hx))
    exact T.app h1 h2

theorem Sat.of_all {Φ : List Ev → Result → Prop} (T : TLaw Φ) {P : Ev → Prop}
    (h : ∀ e, P e → Φ [e] .ok) {m : M α} (hm : Sat (TR (AllEv P)) m) : Sat (TR Φ) m :=
  hm.mono fun _ t _ ⟨es, he, hp⟩ => ⟨es, he, T.of_all h es t hp⟩

/-! ### Frame: what nothing before the installation changes (files, `keyReadable`, `curKey`, `scheds`) -/

def Frame : World → Result → World → Prop := fun w _ w' =>
  w'.files = w.files ∧ w'.keyReadable = w.keyReadable ∧ w'.acc.curKey = w.acc.curKey ∧
  w'.scheds = w.scheds

theorem Frame.law : Law Frame where
  refl := fun _ _ => ⟨rfl, rfl, rfl, rfl⟩
  trans := by
    rintro w1 w2 w3 t ⟨a1, a2, a3, a4⟩ ⟨b1, b2, b3, b4⟩
    exact ⟨b1.trans a1, b2.trans a2, b3.trans a3, b4.trans a4⟩

theorem Frame.exchange (k : ReqKind) (s : KeyId) : Sat Frame (exchange k s) := by
  constructor; intro w; unfold Flow.exchange
  cases w.exs <;> exact ⟨rfl, rfl, rfl, rfl⟩

theorem Frame.hookGroup (ty : HookKind) : Sat Frame (hookGroup ty) := by
  constructor; intro w; unfold Flow.hookGroup
  cases w.hks <;> exact ⟨rfl, rfl, rfl, rfl⟩

theorem Frame.emit (e : Ev) : Sat Frame (emit e) := ⟨fun _ => ⟨rfl, rfl, rfl, rfl⟩⟩

theorem Frame.freshKey : Sat Frame freshKey := ⟨fun _ => ⟨rfl, rfl, rfl, rfl⟩⟩

theorem Frame.modAcc (f : Acc → Acc) (h : ∀ a, (f a).curKey = a.curKey) : Sat Frame (modAcc f) :=
  ⟨fun w => ⟨rfl, rfl, h w.acc, rfl⟩⟩

theorem Frame.saveAccount : Sat Frame saveAccount :=
  .writeFileHooks Frame.law (Frame.hookGroup _) (Frame.hookGroup _) _ (Frame.emit _)

theorem Frame.acct : AcctSteps Frame fun _ => True :=
  .of Frame.law (fun k s _ => Frame.exchange k s) Frame.modAcc Frame.saveAccount

theorem Frame.register : Sat Frame register := Frame.acct.register trivial
theorem Frame.updateContacts : Sat Frame updateContacts := Frame.acct.updateContacts trivial trivial
theorem Frame.updateKey (v : Variant) : Sat Frame (updateKey v) :=
  Frame.acct.updateKey trivial trivial trivial v
theorem Frame.synchronize (v : Variant) : Sat Frame (synchronize v) :=
  Frame.acct.synchronize trivial trivial trivial trivial v
theorem Frame.newOrder : Sat Frame newOrder := Frame.acct.newOrder trivial trivial
theorem Frame.refreshDirectory : Sat Frame refreshDirectory :=
  .refreshDirectory Frame.law (Frame.exchange _ _)
theorem Frame.pollOrder (want : OrderStatus) (st : Step) (n : Nat) :
    Sat Frame (pollOrder want st n) :=
  .pollOrder Frame.law (Frame.exchange _) want st n
theorem Frame.prepareM (v : Variant) (cfg : Cfg) : Sat Frame (prepareM v cfg) :=
  .prepareM Frame.law Frame.refreshDirectory (Frame.synchronize v) Frame.newOrder
    (.processAuthzs Frame.law (fun _ => Frame.exchange _) (fun _ => Frame.exchange _)
      (fun _ => Frame.hookGroup _)
      (.solveChallenges Frame.law (fun _ => Frame.hookGroup _) fun _ => Frame.exchange _) cfg)
    Frame.pollOrder
theorem Frame.getKeyPair (cfg : Cfg) : Sat Frame (getKeyPair cfg) :=
  .getKeyPair Frame.law Frame.freshKey (fun _ => Frame.emit _) (fun _ => Frame.emit _) cfg
theorem Frame.finalizeOrder : Sat Frame finalizeOrder :=
  .finalizeOrder Frame.law (Frame.exchange _) Frame.pollOrder
theorem Frame.fetchPre {v : Variant} {isNew : Bool} (hv : (isNew && v.keyWriteEarly) = false)
    (k : KeyId) : Sat Frame (fetchPre v k isNew) :=
  .fetchPre Frame.law (fun h => absurd (hv ▸ h) Bool.false_ne_true) (Frame.emit _)
    Frame.finalizeOrder
theorem Frame.obtainM (v : Variant) (hv : v.keyWriteEarly = false) (cfg : Cfg) :
    Sat Frame (obtainM v cfg) :=
  .obtainM Frame.law (Frame.prepareM v cfg) (Frame.getKeyPair cfg)
    (fun k n => Frame.fetchPre (by rw [hv, Bool.and_false]) k)
    (.downloadCert Frame.law (Frame.exchange _))

/-! ### File writes through `write_file`: closed form and outcome -/

theorem writeFileHooks_run (step : Step) (act : M Unit) (g : World → World)
    (hact : ∀ w, act w = (.val (), g w)) (hg : ∀ w, (g w).hks = w.hks) (w : World) :
    writeFileHooks step act w =
      match w.hks with
      | [] => (.stuck, w)
      | false :: rest => (.fail step, { w with hks := rest, trace := w.trace ++ [.hooks .filePre false] })
      | true :: rest =>
        let w1 := g { w with hks := rest, trace := w.trace ++ [.hooks .filePre true] }
        match rest with
        | [] => (.stuck, w1)
        | b :: rest' =>
          (if b then .val () else .fail step,
           { w1 with hks := rest', trace := w1.trace ++ [.hooks .filePost b] }) := by
  unfold writeFileHooks
  simp only [bind_run, hookGroup]
  rcases hh : w.hks with _ | ⟨b, rest⟩
  · simp
  · cases b
    · simp [failAt]
    · simp only [if_true]
      have := hg { w with hks := rest, trace := w.trace ++ [.hooks .filePre true] }
      simp only at this
      rcases rest with _ | ⟨b2, rest'⟩
      · simp [bind_run, hact, hookGroup, this]
      · cases b2 <;> simp [bind_run, hact, hookGroup, this, failAt, pure_run]

/-- Outcome of one file write through `write_file` with file update `upd` and event `e`. -/
def WriteOut (step : Step) (upd : Files → Files) (e : Ev) (w : World) (o : Out Unit) (w' : World) :
    Prop :=
  w'.acc = w.acc ∧ w'.exs = w.exs ∧ w'.keyReadable = w.keyReadable ∧ w'.nextKey = w.nextKey ∧
  w'.scheds = w.scheds ∧
  ((o = .stuck ∧ w' = w) ∨
   (o = .fail step ∧ w'.files = w.files ∧ w'.trace = w.trace ++ [.hooks .filePre false]) ∨
   (o = .stuck ∧ w'.files = upd w.files ∧ w'.trace = w.trace ++ [.hooks .filePre true, e]) ∨
   (∃ b, o = (if b then .val () else .fail step) ∧ w'.files = upd w.files ∧
      w'.trace = w.trace ++ [.hooks .filePre true, e, .hooks .filePost b]))

theorem WriteOut.events {step upd e w o w'} (h : WriteOut step upd e w o w') :
    ∃ es, w'.trace = w.trace ++ es ∧
      ((es = [] ∧ o = .stuck) ∨ (es = [.hooks .filePre false] ∧ o = .fail step) ∨
       (es = [.hooks .filePre true, e] ∧ o = .stuck) ∨
       ∃ b, es = [.hooks .filePre true, e, .hooks .filePost b] ∧
         o = if b then .val () else .fail step) := by
  obtain ⟨_, _, _, _, _, h | h | h | ⟨b, h⟩⟩ := h
  · exact ⟨[], by rw [h.2]; exact (List.append_nil _).symm, .inl ⟨rfl, h.1⟩⟩
  · exact ⟨_, h.2.2, .inr (.inl ⟨rfl, h.1⟩)⟩
  · exact ⟨_, h.2.2, .inr (.inr (.inl ⟨rfl, h.1⟩))⟩
  · exact ⟨_, h.2.2, .inr (.inr (.inr ⟨b, rfl, h.1⟩))⟩

theorem WriteOut.outcome {step upd e w o w'} (h : WriteOut step upd e w o w') :
    o.tag = .ok ∨ o.tag = .stuck ∨
      (o.tag = .failed step ∧ w'.trace.getLast? ≠ some (.hooks .filePost true)) := by
  obtain ⟨_, _, _, _, _, h | h | h | ⟨b, h⟩⟩ := h
  · exact .inr (.inl (by rw [h.1]; rfl))
  · exact .inr (.inr ⟨by rw [h.1]; rfl, by rw [h.2.2]; simp⟩)
  · exact .inr (.inl (by rw [h.1]; rfl))
  · cases b
    · exact .inr (.inr ⟨by rw [h.1]; rfl, by rw [h.2.2]; simp⟩)
    · exact .inl (by rw [h.1]; rfl)

theorem WriteOut.val {step upd e w w'} {u : Unit} (h : WriteOut step upd e w (.val u) w') :
    w'.files = upd w.files ∧
      w'.trace = w.trace ++ [.hooks .filePre true, e, .hooks .filePost true] ∧ w'.acc = w.acc := by
  obtain ⟨ha, _, _, _, _, h | h | h | ⟨b, h⟩⟩ := h
  · simp at h
  · simp at h
  · simp at h
  · cases b
    · simp at h
    · exact ⟨h.2.1, h.2.2, ha⟩

theorem writeFile_spec (step : Step) (act : M Unit) (upd : Files → Files) (e : Ev)
    (hact : ∀ w, act w = (.val (), { w with files := upd w.files, trace := w.trace ++ [e] }))
    (w : World) :
    WriteOut step upd e w (writeFileHooks step act w).1 (writeFileHooks step act w).2 := by
  rw [writeFileHooks_run step act _ hact (fun _ => rfl) w]
  unfold WriteOut
  rcases w.hks with _ | ⟨b, _ | ⟨b2, rest⟩⟩
  · simp
  · cases b <;> simp
  · cases b <;> simp

theorem writeKey_spec (k : KeyId) (w : World) :
    WriteOut .writeKey (fun f => { f with keyFile := some k }) (.writeKey k) w
      (writeKey k w).1 (writeKey k w).2 :=
  writeFile_spec _ _ _ _ (fun _ => rfl) w

theorem writeCert_spec (c : CertContent) (w : World) :
    WriteOut .writeCert (fun f => { f with certFile := some c }) (.writeCert c) w
      (writeCert c w).1 (writeCert c w).2 :=
  writeFile_spec _ _ _ _ (fun _ => rfl) w

/-! ### Alphabets: which events each part of an attempt can add -/

theorem AllEv.exchange (P : Ev → Prop) (k : ReqKind) (s : KeyId)
    (h : ∀ r, P (.exch k (authOf k) s r)) : Sat (TR (AllEv P)) (exchange k s) :=
  TR.exchange (AllEv.tlaw P) k s fun r => AllEv.single (h r)
theorem AllEv.hookGroup (P : Ev → Prop) (ty : HookKind) (h : ∀ b, P (.hooks ty b)) :
    Sat (TR (AllEv P)) (hookGroup ty) :=
  TR.hookGroup (AllEv.tlaw P) ty fun b => AllEv.single (h b)
theorem AllEv.emit (P : Ev → Prop) (e : Ev) (h : P e) : Sat (TR (AllEv P)) (emit e) :=
  TR.emit e (AllEv.single h)

theorem AllEv.acct (P : Ev → Prop) (K : ReqKind → Prop)
    (hx : ∀ k s r, K k → P (.exch k (authOf k) s r))
    (hh : ∀ b, P (.hooks .filePre b) ∧ P (.hooks .filePost b)) (hs : P .saveAccount) :
    AcctSteps (TR (AllEv P)) K :=
  .of (AllEv.tlaw P).law (fun k s hk => AllEv.exchange P k s fun r => hx k s r hk)
    (fun f _ => TR.modAcc (AllEv.tlaw P) f)
    (.writeFileHooks (AllEv.tlaw P).law (AllEv.hookGroup P _ fun b => (hh b).1)
      (AllEv.hookGroup P _ fun b => (hh b).2) _ (AllEv.emit P _ hs))

theorem AllEv.getKeyPair (P : Ev → Prop) (h3 : ∀ k, P (.keygen k)) (h4 : ∀ k, P (.readKey k))
    (cfg : Cfg) : Sat (TR (AllEv P)) (getKeyPair cfg) :=
  .getKeyPair (AllEv.tlaw P).law (TR.freshKey (AllEv.tlaw P)) (fun k => AllEv.emit P _ (h3 k))
    (fun k => AllEv.emit P _ (h4 k)) cfg

theorem AllEv.install (P : Ev → Prop) (hh : ∀ b, P (.hooks .filePre b) ∧ P (.hooks .filePost b))
    (hk : ∀ k, P (.writeKey k)) (hc : ∀ c, P (.writeCert c)) (v : Variant) (k : KeyId) (n : Bool)
    (x : CertContent) : Sat (TR (AllEv P)) (install v k n x) :=
  have hh' := fun b => And.imp AllEv.single AllEv.single (hh b)
  .install (AllEv.tlaw P).law (TR.writeFile (AllEv.tlaw P) hh' _ _ (AllEv.single (hk k)))
    (TR.writeFile (AllEv.tlaw P) hh' _ _ (AllEv.single (hc x))) v n

/-- Events of `prepareM`: authenticated as `authOf` says, no finalize / download, only challenge,
clean and file hooks, account saves; no key or certificate event. -/
def APrep : Ev → Prop
  | .exch k a _ _ => a = authOf k ∧ k ≠ .finalize ∧ k ≠ .certDownload
  | .hooks ty _ => ty ≠ .postOperation
  | .saveAccount => True
  | _ => False

theorem APrep.acct : AcctSteps (TR (AllEv APrep)) fun k => k ≠ .finalize ∧ k ≠ .certDownload :=
  AllEv.acct APrep _ (fun _ _ _ hk => ⟨rfl, hk⟩) (fun _ => ⟨nofun, nofun⟩) trivial

theorem APrep.saveAccount : Sat (TR (AllEv APrep)) saveAccount := APrep.acct.saveAccount
theorem APrep.register : Sat (TR (AllEv APrep)) register := APrep.acct.register ⟨nofun, nofun⟩
theorem APrep.updateContacts : Sat (TR (AllEv APrep)) updateContacts :=
  APrep.acct.updateContacts ⟨nofun, nofun⟩ ⟨nofun, nofun⟩
theorem APrep.synchronize (v : Variant) : Sat (TR (AllEv APrep)) (synchronize v) :=
  APrep.acct.synchronize ⟨nofun, nofun⟩ ⟨nofun, nofun⟩ ⟨nofun, nofun⟩ ⟨nofun, nofun⟩ v
theorem APrep.newOrder : Sat (TR (AllEv APrep)) newOrder :=
  APrep.acct.newOrder ⟨nofun, nofun⟩ ⟨nofun, nofun⟩
theorem APrep.refreshDirectory : Sat (TR (AllEv APrep)) refreshDirectory :=
  .refreshDirectory APrep.acct.law (APrep.acct.exchange _ _ ⟨nofun, nofun⟩)

theorem APrep.prepareM (v : Variant) (cfg : Cfg) : Sat (TR (AllEv APrep)) (prepareM v cfg) :=
  have L := APrep.acct.law
  have hx : ∀ k s, k ≠ .finalize ∧ k ≠ .certDownload → Sat (TR (AllEv APrep)) (exchange k s) :=
    APrep.acct.exchange
  have hh : ∀ ty, ty ≠ .postOperation → Sat (TR (AllEv APrep)) (hookGroup ty) :=
    fun ty h => AllEv.hookGroup APrep ty fun _ => h
  .prepareM L APrep.refreshDirectory (APrep.synchronize v) APrep.newOrder
    (.processAuthzs L (fun _ _ => hx _ _ ⟨nofun, nofun⟩) (fun _ _ => hx _ _ ⟨nofun, nofun⟩)
      (fun _ => hh _ nofun)
      (.solveChallenges L (fun _ => hh _ nofun) fun _ _ => hx _ _ ⟨nofun, nofun⟩) cfg)
    (.pollOrder L fun _ => hx _ _ ⟨nofun, nofun⟩)

/-- Events of the directory / account / newOrder part. -/
def AAcct : Ev → Prop
  | .exch k a _ _ => a = authOf k ∧
      (k = .directory ∨ k = .newAccount ∨ k = .accountUpdate ∨ k = .keyChange ∨ k = .newOrder ∨
       k = .accountProbe)
  | .hooks ty _ => ty = .filePre ∨ ty = .filePost
  | .saveAccount => True
  | _ => False

theorem AAcct.acct : AcctSteps (TR (AllEv AAcct)) fun k =>
    k = .directory ∨ k = .newAccount ∨ k = .accountUpdate ∨ k = .keyChange ∨ k = .newOrder ∨
      k = .accountProbe :=
  AllEv.acct AAcct _ (fun _ _ _ hk => ⟨rfl, hk⟩) (fun _ => ⟨.inl rfl, .inr rfl⟩) trivial

theorem AAcct.saveAccount : Sat (TR (AllEv AAcct)) saveAccount := AAcct.acct.saveAccount
theorem AAcct.register : Sat (TR (AllEv AAcct)) register := AAcct.acct.register (.inr (.inl rfl))
theorem AAcct.updateContacts : Sat (TR (AllEv AAcct)) updateContacts :=
  AAcct.acct.updateContacts (.inr (.inl rfl)) (.inr (.inr (.inl rfl)))
theorem AAcct.synchronize (v : Variant) : Sat (TR (AllEv AAcct)) (synchronize v) :=
  AAcct.acct.synchronize (.inr (.inl rfl)) (.inr (.inr (.inl rfl)))
    (.inr (.inr (.inr (.inr (.inr rfl))))) (.inr (.inr (.inr (.inl rfl)))) v
theorem AAcct.newOrder : Sat (TR (AllEv AAcct)) newOrder :=
  AAcct.acct.newOrder (.inr (.inl rfl)) (.inr (.inr (.inr (.inr (.inl rfl)))))
theorem AAcct.refreshDirectory : Sat (TR (AllEv AAcct)) refreshDirectory :=
  .refreshDirectory AAcct.acct.law (AAcct.acct.exchange _ _ (.inl rfl))

/-- Events of `fetchPre v k isNew`. -/
def AFetch (v : Variant) (k : KeyId) (isNew : Bool) : Ev → Prop
  | .exch kd a _ _ => a = authOf kd ∧ (kd = .finalize ∨ kd = .orderPoll)
  | .hooks ty _ => (ty = .filePre ∨ ty = .filePost) ∧ isNew = true ∧ v.keyWriteEarly = true
  | .csr k' => k' = k
  | .writeKey k' => k' = k ∧ isNew = true ∧ v.keyWriteEarly = true
  | _ => False

theorem fetchPre_events (v : Variant) (k : KeyId) (isNew : Bool) (w : World) :
    Adds (fun es t => (∀ e ∈ es, AFetch v k isNew e) ∧ (t = .ok → .csr k ∈ es))
      (fetchPre v k isNew) w := by
  have T := AllEv.tlaw (AFetch v k isNew)
  have hw : Sat (TR (AllEv (AFetch v k isNew)))
      (if (isNew && v.keyWriteEarly) = true then writeKey k else pure ()) := by
    split
    · rename_i h
      have h := Bool.and_eq_true_iff.mp h
      exact TR.writeFile T (fun _ => ⟨AllEv.single ⟨.inl rfl, h⟩, AllEv.single ⟨.inr rfl, h⟩⟩) _ _
        (AllEv.single ⟨rfl, h⟩)
    · exact .pure T.law _
  have hfin : Sat (TR (AllEv (AFetch v k isNew))) finalizeOrder :=
    .finalizeOrder T.law (fun s => AllEv.exchange _ _ s fun _ => ⟨rfl, .inl rfl⟩)
      (.pollOrder T.law fun s => AllEv.exchange _ _ s fun _ => ⟨rfl, .inr rfl⟩)
  unfold fetchPre
  refine TR.bind_at (Φ2 := fun es t => (∀ e ∈ es, AFetch v k isNew e) ∧ (t = .ok → .csr k ∈ es))
    (hw.run w) (fun _ w1 _ => ?_)
    (fun h1 h2 => ⟨T.app (t := .ok) h1 h2.1, fun ht => List.mem_append_right _ (h2.2 ht)⟩)
    (fun hne h => ⟨h, fun ht => absurd ht hne⟩)
  -- the CSR event, then the finalize step
  obtain ⟨es, he, hs⟩ := hfin.run { w1 with trace := w1.trace ++ [.csr k] }
  exact ⟨.csr k :: es, he.trans (List.append_assoc ..),
    List.forall_mem_cons.2 ⟨rfl, hs⟩, fun _ => List.mem_cons_self⟩

theorem AFetch.fetchPre (v : Variant) (k : KeyId) (isNew : Bool) :
    Sat (TR (AllEv (AFetch v k isNew))) (fetchPre v k isNew) :=
  ⟨fun w => (fetchPre_events v k isNew w).imp fun _ h => ⟨h.1, h.2.1⟩⟩

/-! ### Key pair, download, check, installation: closed forms -/

theorem getKeyPair_run (cfg : Cfg) (w : World) :
    ∃ k isNew, getKeyPair cfg w = (.val (k, isNew),
        { w with nextKey := if isNew then w.nextKey + 1 else w.nextKey,
                 trace := w.trace ++ [if isNew then .keygen k else .readKey k] }) ∧
      (isNew = false → cfg.kpReuse = true ∧ w.files.keyFile = some k ∧ w.keyReadable = true) ∧
      (isNew = true → k = w.nextKey) := by
  have hg : genKey w = (.val (w.nextKey, true),
      { w with nextKey := w.nextKey + 1, trace := w.trace ++ [.keygen w.nextKey] }) := rfl
  unfold getKeyPair
  simp only [bind_run, Flow.getW]
  by_cases hr : cfg.kpReuse = true
  · simp only [hr, if_true]
    -- a fresh key unless a key file is there and readable
    rcases hk : w.files.keyFile with _ | k <;> cases hrd : w.keyReadable
    case some.true =>
      exact ⟨k, false, by simp [bind_run, Flow.emit, pure_run, hrd], fun _ => ⟨trivial, rfl, rfl⟩,
        by simp⟩
    all_goals exact ⟨w.nextKey, true, by simp [hg, hrd], by simp, fun _ => rfl⟩
  · simp only [hr]
    exact ⟨w.nextKey, true, by simp [hg], by simp, fun _ => rfl⟩

theorem downloadCert_val {w w' : World} {cb : CertBody} (h : downloadCert w = (.val cb, w')) :
    ∃ body rest, w.exs = .ok body :: rest ∧ cb = body.certClass ∧
      w' = { w with exs := rest,
                    trace := w.trace ++ [.exch .certDownload .kid w.acc.curKey (.ok body)] } := by
  unfold downloadCert at h
  simp only [bind_run, Flow.getW, Flow.exchange] at h
  rcases hx : w.exs with _ | ⟨r, rest⟩
  · simp [hx] at h
  · simp only [hx] at h
    cases r with
    | ok body =>
      simp only [pure_run, Prod.mk.injEq, Out.val.injEq] at h
      exact ⟨body, rest, rfl, h.1.symm, h.2.symm⟩
    | acmeErr ty => simp [Flow.failAt] at h
    | otherErr => simp [Flow.failAt] at h
    | lost => simp [Flow.failAt] at h

theorem checkBody_val {v : Variant} {k : KeyId} {cb : CertBody} {w w' : World} {c : CertContent}
    (h : checkBody v k cb w = (.val c, w')) :
    w' = w ∧ (v.parseBody = true → cb = .chainFor k ∧ c = .chain k) ∧
      (v.parseBody = false → c = cb.content) := by
  unfold checkBody at h
  cases hp : v.parseBody
  · rw [hp, if_neg Bool.false_ne_true] at h
    cases h
    exact ⟨rfl, nofun, fun _ => rfl⟩
  · rw [hp, if_pos rfl] at h
    cases cb with
    | unparseable => cases h
    | chainFor k' =>
      simp only at h
      by_cases hk : (k' == k) = true
      · rw [if_pos hk] at h
        cases h
        cases eq_of_beq hk
        exact ⟨rfl, fun _ => ⟨rfl, rfl⟩, nofun⟩
      · rw [if_neg hk] at h
        cases h

theorem attempt_cases (v : Variant) (cfg : Cfg) (w : World) :
    (∃ k isNew c w1, obtainM v cfg w = (.val (k, isNew, c), w1) ∧
        attemptM v cfg w = install v k isNew c w1) ∨
    ((obtainM v cfg w).1.tag ≠ .ok ∧ (attemptM v cfg w).1.tag = (obtainM v cfg w).1.tag ∧
        (attemptM v cfg w).2 = (obtainM v cfg w).2) := by
  unfold attemptM
  rcases bind_cases (obtainM v cfg) (fun q => install v q.1 q.2.1 q.2.2) w with
    ⟨⟨k, isNew, c⟩, w1, h1, h2⟩ | h
  · exact .inl ⟨k, isNew, c, w1, h1, h2⟩
  · exact .inr h

/-- The trace only grows. -/
def Grow : World → Result → World → Prop := TR (AllEv fun _ => True)

theorem Grow.of {P : Ev → Prop} {m : M α} (h : Sat (TR (AllEv P)) m) : Sat Grow m :=
  AllEv.mono (fun _ _ => trivial) h

theorem fetchPre_keyFile {v : Variant} {k : KeyId} {isNew : Bool} {w w' : World}
    (h : fetchPre v k isNew w = (.val (), w')) :
    w'.files.keyFile = if (isNew && v.keyWriteEarly) = true then some k else w.files.keyFile := by
  cases hc : (isNew && v.keyWriteEarly)
  · have := ((Frame.fetchPre hc k).run w).1
    rw [h] at this
    rw [this]; rfl
  · unfold fetchPre at h
    rw [hc, if_pos rfl] at h
    obtain ⟨_, w1, h1, h⟩ := bind_val_inv h
    have hw := writeKey_spec k w
    rw [h1] at hw
    have := ((Sat.bind Frame.law (Frame.emit (.csr k)) fun _ => Frame.finalizeOrder).run w1).1
    rw [h] at this
    exact (congrArg Files.keyFile (this.trans hw.val.1) :)

theorem install_out (v : Variant) (k : KeyId) (isNew : Bool) (c : CertContent) (w : World) :
    ((isNew && !v.keyWriteEarly) = false ∧
      WriteOut .writeCert (fun f => { f with certFile := some c }) (.writeCert c) w
        (install v k isNew c w).1 (install v k isNew c w).2) ∨
    ((isNew && !v.keyWriteEarly) = true ∧ ∃ o1 w1,
      WriteOut .writeKey (fun f => { f with keyFile := some k }) (.writeKey k) w o1 w1 ∧
      ((o1 = .val () ∧
        WriteOut .writeCert (fun f => { f with certFile := some c }) (.writeCert c) w1
          (install v k isNew c w).1 (install v k isNew c w).2) ∨
       (o1.tag ≠ .ok ∧ (install v k isNew c w).1.tag = o1.tag ∧ (install v k isNew c w).2 = w1))) := by
  unfold install
  cases hn : (isNew && !v.keyWriteEarly)
  · left
    refine ⟨rfl, ?_⟩
    simp only [Bool.false_eq_true, if_false, bind_run, pure_run]
    exact writeCert_spec c w
  · right
    refine ⟨rfl, (writeKey k w).1, (writeKey k w).2, writeKey_spec k w, ?_⟩
    simp only [if_true]
    rcases bind_cases (writeKey k) (fun _ => writeCert c) w with ⟨a, w1, h1, h2⟩ | ⟨h1, h2, h3⟩
    · left
      rw [h2, h1]
      exact ⟨rfl, writeCert_spec c w1⟩
    · right
      exact ⟨h1, h2, h3⟩

theorem install_outcome (v : Variant) (k : KeyId) (isNew : Bool) (c : CertContent) (w : World) :
    (install v k isNew c w).1.tag = .ok ∨ (install v k isNew c w).1.tag = .stuck ∨
      (((install v k isNew c w).1.tag = .failed .writeKey ∨
          (install v k isNew c w).1.tag = .failed .writeCert) ∧
        (install v k isNew c w).2.trace.getLast? ≠ some (.hooks .filePost true)) := by
  rcases install_out v k isNew c w with ⟨_, h⟩ | ⟨_, o1, w1, h1, ⟨_, h2⟩ | ⟨hne, h2, h3⟩⟩
  · exact h.outcome.imp_right (.imp_right (.imp_left .inr))
  · exact h2.outcome.imp_right (.imp_right (.imp_left .inr))
  · rw [h2, h3]
    rcases h1.outcome with h | h
    · exact absurd h hne
    · exact .inr (h.imp_right (.imp_left .inl))

theorem install_grow (v : Variant) (k : KeyId) (isNew : Bool) (c : CertContent) (w : World) :
    ∃ es, (install v k isNew c w).2.trace = w.trace ++ es :=
  ((AllEv.install (fun _ => True) (fun _ => ⟨trivial, trivial⟩) (fun _ => trivial)
    (fun _ => trivial) v k isNew c).run w).imp fun _ h => h.1

theorem install_val {v : Variant} {k : KeyId} {isNew : Bool} {c : CertContent} {w w' : World}
    (h : install v k isNew c w = (.val (), w')) :
    w'.files.certFile = some c ∧
    w'.files.keyFile = (if (isNew && !v.keyWriteEarly) = true then some k else w.files.keyFile) ∧
    w'.acc = w.acc ∧
    ∃ pre, w'.trace = w.trace ++ (pre ++ [.writeCert c, .hooks .filePost true]) ∧
      ((isNew && !v.keyWriteEarly) = true → .writeKey k ∈ pre) := by
  rcases install_out v k isNew c w with ⟨hn, h1⟩ | ⟨hn, o1, w1, h1, ⟨ho, h2⟩ | ⟨hne, h2, _⟩⟩
  · rw [h] at h1
    obtain ⟨hf, ht, ha⟩ := h1.val
    refine ⟨by rw [hf], by rw [hf, hn]; simp, ha, [.hooks .filePre true], by rw [ht]; simp, ?_⟩
    intro hc; rw [hn] at hc; cases hc
  · rw [h] at h2
    rw [ho] at h1
    obtain ⟨hf1, ht1, ha1⟩ := h1.val
    obtain ⟨hf, ht, ha⟩ := h2.val
    refine ⟨by rw [hf], by rw [hf, hf1, hn]; simp, by rw [ha, ha1],
      [.hooks .filePre true, .writeKey k, .hooks .filePost true, .hooks .filePre true],
      by rw [ht, ht1]; simp, fun _ => by simp⟩
  · rw [h] at h2
    simp at h2
    exact absurd h2.symm hne

theorem AllEv.obtainM (Q : Ev → Prop) (v : Variant) (cfg : Cfg) (h1 : ∀ e, APrep e → Q e)
    (h2 : ∀ k n e, AFetch v k n e → Q e) (h3 : ∀ k, Q (.keygen k)) (h4 : ∀ k, Q (.readKey k))
    (h5 : ∀ s r, Q (.exch .certDownload .kid s r)) : Sat (TR (AllEv Q)) (obtainM v cfg) :=
  .obtainM (AllEv.tlaw Q).law (AllEv.mono h1 (APrep.prepareM v cfg)) (AllEv.getKeyPair Q h3 h4 cfg)
    (fun k n => AllEv.mono (h2 k n) (AFetch.fetchPre v k n))
    (.downloadCert (AllEv.tlaw Q).law fun s => AllEv.exchange Q _ s (h5 s))

/-! ### Counting exchanges (C07 `attempt_bounded`) -/

def isExch : Ev → Bool
  | .exch .. => true
  | _ => false

def exCount (es : List Ev) : Nat := es.countP isExch

@[simp] theorem exCount_nil : exCount [] = 0 := rfl
@[simp] theorem exCount_append (a b : List Ev) : exCount (a ++ b) = exCount a + exCount b :=
  List.countP_append

/-- Size constraints on the bodies the CA may serve: an order lists at most `A` authorisations, an
authorisation offers at most `c` challenges (of known type). -/
def SizeOk (A c : Nat) : ExRes → Prop
  | .ok (.order o) => o.authzs.length ≤ A
  | .ok (.authz b) => b.challenges.length ≤ c
  | _ => True

def Inv (A c : Nat) (w : World) : Prop := ∀ r ∈ w.exs, SizeOk A c r

/-- Under the size invariant: `m` keeps it, emits at most `n` exchanges, and a returned value
satisfies `Q`. -/
structure SatB (A c n : Nat) (Q : α → Prop) (m : M α) : Prop where
  run : ∀ w, Inv A c w → Inv A c (m w).2 ∧
    (∃ es, (m w).2.trace = w.trace ++ es ∧ exCount es ≤ n) ∧ ∀ a, (m w).1 = .val a → Q a

/-- No condition on the value returned (as `Q` of `SatB`). -/
abbrev T {α : Type} : α → Prop := fun _ => True

theorem SatB.le {A c n n' : Nat} {Q : α → Prop} {m : M α} (h : SatB A c n Q m) (hn : n ≤ n') :
    SatB A c n' Q m :=
  ⟨fun w hi => by
    obtain ⟨h1, ⟨es, he, hc⟩, h3⟩ := h.run w hi
    exact ⟨h1, ⟨es, he, Nat.le_trans hc hn⟩, h3⟩⟩

theorem SatB.weaken {A c n : Nat} {Q : α → Prop} {m : M α} (h : SatB A c n Q m) :
    SatB A c n T m :=
  ⟨fun w hi => by
    obtain ⟨h1, h2, _⟩ := h.run w hi
    exact ⟨h1, h2, fun _ _ => trivial⟩⟩

theorem SatB.pure {A c n : Nat} (a : α) : SatB A c n T (pure a : M α) :=
  ⟨fun w hi => ⟨hi, ⟨[], by simp [pure_run], Nat.zero_le n⟩, fun _ _ => trivial⟩⟩

theorem SatB.pureQ {A c : Nat} {Q : α → Prop} (a : α) (h : Q a) :
    SatB A c 0 Q (Pure.pure a : M α) :=
  ⟨fun w hi => ⟨hi, ⟨[], by simp [pure_run], by simp⟩, fun b hb => by
    simp only [pure_run, Out.val.injEq] at hb; rw [← hb]; exact h⟩⟩

theorem SatB.failAt {A c n : Nat} {Q : α → Prop} (s : Step) : SatB A c n Q (failAt s : M α) :=
  ⟨fun w hi => ⟨hi, ⟨[], by simp [Flow.failAt], Nat.zero_le n⟩,
    fun _ hb => by simp [Flow.failAt] at hb⟩⟩

theorem SatB.getW {A c : Nat} : SatB A c 0 T getW :=
  ⟨fun w hi => ⟨hi, ⟨[], by simp [Flow.getW], by simp⟩, fun _ _ => trivial⟩⟩

theorem SatB.emit {A c : Nat} (e : Ev) (h : isExch e = false) : SatB A c 0 T (emit e) :=
  ⟨fun w hi => ⟨hi, ⟨[e], rfl, by simp [exCount, h]⟩, fun _ _ => trivial⟩⟩

theorem SatB.modAcc {A c : Nat} (f : Acc → Acc) : SatB A c 0 T (modAcc f) :=
  ⟨fun w hi => ⟨hi, ⟨[], by simp [Flow.modAcc], by simp⟩, fun _ _ => trivial⟩⟩

theorem SatB.modFiles {A c : Nat} (f : Files → Files) : SatB A c 0 T (modFiles f) :=
  ⟨fun w hi => ⟨hi, ⟨[], by simp [Flow.modFiles], by simp⟩, fun _ _ => trivial⟩⟩

theorem SatB.freshKey {A c : Nat} : SatB A c 0 T freshKey :=
  ⟨fun w hi => ⟨hi, ⟨[], by simp [Flow.freshKey], by simp⟩, fun _ _ => trivial⟩⟩

theorem SatB.hookGroup {A c : Nat} (ty : HookKind) : SatB A c 0 T (hookGroup ty) :=
  ⟨fun w hi => by
    unfold Flow.hookGroup
    cases w.hks with
    | nil => exact ⟨hi, ⟨[], by simp, by simp⟩, fun _ _ => trivial⟩
    | cons b rest => exact ⟨hi, ⟨[_], rfl, by simp [exCount, isExch]⟩, fun _ _ => trivial⟩⟩

theorem SatB.exchange {A c : Nat} (k : ReqKind) (s : KeyId) :
    SatB A c 1 (SizeOk A c) (exchange k s) :=
  ⟨fun w hi => by
    unfold Flow.exchange
    cases hx : w.exs with
    | nil => exact ⟨hi, ⟨[], by simp, by simp⟩, fun _ hb => by simp at hb⟩
    | cons r rest =>
      refine ⟨?_, ⟨[_], rfl, by simp [exCount, isExch]⟩, ?_⟩
      · intro r' hr'
        exact hi r' (by rw [hx]; exact List.mem_cons_of_mem _ hr')
      · intro a ha
        simp only [Out.val.injEq] at ha
        rw [← ha]
        exact hi r (by rw [hx]; exact List.mem_cons_self)⟩

theorem SatB.bind {A c n1 n2 : Nat} {Q1 : α → Prop} {Q2 : β → Prop} {m : M α} {f : α → M β}
    (hm : SatB A c n1 Q1 m) (hf : ∀ a, Q1 a → SatB A c n2 Q2 (f a)) :
    SatB A c (n1 + n2) Q2 (m >>= f) := by
  constructor
  intro w hi
  obtain ⟨i1, ⟨e1, he1, hc1⟩, q1⟩ := hm.run w hi
  rcases bind_cases m f w with ⟨a, w1, x1, x2⟩ | ⟨x1, x2, x3⟩
  · rw [x2]
    rw [x1] at i1 he1 q1
    obtain ⟨i2, ⟨e2, he2, hc2⟩, q2⟩ := (hf a (q1 a rfl)).run w1 i1
    refine ⟨i2, ⟨e1 ++ e2, by rw [he2, he1]; simp, ?_⟩, q2⟩
    rw [exCount_append]
    exact Nat.add_le_add hc1 hc2
  · rw [x3]
    refine ⟨i1, ⟨e1, he1, Nat.le_trans hc1 (Nat.le_add_right _ _)⟩, ?_⟩
    intro b hb
    rw [hb] at x2
    simp at x2
    exact absurd x2.symm x1

section Bounds
variable {A c : Nat}

theorem SatB.ite {n : Nat} {Q : α → Prop} {p : Prop} [Decidable p] {a b : M α}
    (ha : SatB A c n Q a) (hb : SatB A c n Q b) : SatB A c n Q (if p then a else b) := by
  split
  · exact ha
  · exact hb

theorem SatB.writeFileHooks (step : Step) (act : M Unit) (h : SatB A c 0 T act) :
    SatB A c 0 T (writeFileHooks step act) := by
  unfold Flow.writeFileHooks
  refine .le (.bind (.hookGroup _) fun pre _ => .ite ?_ (.failAt (n := 0) _)) (Nat.le_refl 0)
  exact .le (.bind h fun _ _ => .bind (.hookGroup _) fun post _ =>
    .ite (.pure (n := 0) _) (.failAt _)) (Nat.le_refl 0)

theorem SatB.saveAccount : SatB A c 0 T saveAccount :=
  .writeFileHooks _ _ (.emit _ rfl)

theorem SatB.writeKey (k : KeyId) : SatB A c 0 T (writeKey k) :=
  .writeFileHooks _ _ (.le (.bind (.modFiles _) fun _ _ => .emit _ rfl) (Nat.le_refl 0))

theorem SatB.writeCert (x : CertContent) : SatB A c 0 T (writeCert x) :=
  .writeFileHooks _ _ (.le (.bind (.modFiles _) fun _ _ => .emit _ rfl) (Nat.le_refl 0))

theorem SatB.register : SatB A c 1 T register := by
  unfold Flow.register
  refine .le (.bind .getW fun w _ => .bind (.exchange _ _) fun r _ => (?_ : SatB A c 0 T _))
    (Nat.le_refl 1)
  split
  · exact .ite (.le (.bind (.modAcc _) fun _ _ => .saveAccount) (Nat.le_refl 0)) (.failAt _)
  · exact .failAt _

theorem SatB.updateContacts : SatB A c 2 T updateContacts := by
  unfold Flow.updateContacts
  refine .le (.bind .getW fun w _ => .bind (.exchange _ _) fun r _ => (?_ : SatB A c 1 T _))
    (Nat.le_refl 2)
  split
  · exact .le (.bind (.modAcc _) fun _ _ => .saveAccount) (by omega)
  · exact .register
  · exact .le (.bind (.modAcc _) fun _ _ => (.failAt _ : SatB A c 0 T _)) (by omega)
  · exact .failAt _

theorem SatB.checkNewKey : SatB A c 1 T checkNewKey := by
  unfold Flow.checkNewKey
  refine .le (.bind .getW fun w _ => .bind (.exchange _ _) fun r _ => (?_ : SatB A c 0 T _))
    (Nat.le_refl 1)
  split
  · exact .le (.bind (.modAcc _) fun _ _ => .saveAccount) (by omega)
  · exact .failAt _

theorem SatB.keyChangeStep (ca : Bool) : SatB A c 2 T (keyChangeStep ca) := by
  unfold Flow.keyChangeStep
  refine .le (.bind .getW fun w _ => .bind (.exchange _ _) fun r _ => (?_ : SatB A c 1 T _))
    (Nat.le_refl 2)
  split
  · exact .le (.bind (.modAcc _) fun _ _ => .saveAccount) (by omega)
  · exact .register
  · exact .ite .checkNewKey (.failAt _)
  · exact .le (.bind (.modAcc _) fun _ _ => (.failAt _ : SatB A c 0 T _)) (by omega)
  · exact .failAt _

theorem SatB.keyChangeChecked : SatB A c 3 T keyChangeChecked := by
  unfold Flow.keyChangeChecked
  refine .le (.bind .getW fun w _ => .bind (.exchange _ _) fun r _ => (?_ : SatB A c 2 T _))
    (Nat.le_refl 3)
  split
  · exact .keyChangeStep _
  · exact .keyChangeStep _
  · exact .le .checkNewKey (by omega)
  · exact .failAt _

/-- One more exchange than before 1fb1c1a: the check, the roll-over, the re-registration. -/
theorem SatB.updateKey (v : Variant) : SatB A c 3 T (updateKey v) := by
  unfold Flow.updateKey
  refine .le (.bind .getW fun w _ => (?_ : SatB A c 3 T _)) (Nat.le_refl 3)
  refine .ite ?_ (.failAt _)
  split
  · exact .keyChangeChecked
  · exact .le (.keyChangeStep _) (by omega)
  · exact .le (.keyChangeStep _) (by omega)

theorem SatB.synchronize (v : Variant) : SatB A c 5 T (synchronize v) := by
  unfold Flow.synchronize
  have hk : ∀ p : Prop, ∀ [Decidable p], SatB A c 3 T (if p then Flow.updateKey v else Pure.pure ()) :=
    fun p _ => .ite (.updateKey v) (.pure _)
  have hc : ∀ p : Prop, ∀ [Decidable p], SatB A c 2 T (if p then Flow.updateContacts else Pure.pure ()) :=
    fun p _ => .ite .updateContacts (.pure _)
  refine .le (.bind .getW fun w _ => (?_ : SatB A c 5 T _)) (by omega)
  refine .ite (.ite (.ite ?_ ?_) ?_) (.le .register (by omega))
  · exact .le (.bind (hk _) fun _ _ => hc _) (by omega)
  · exact .le (.bind (hc _) fun _ _ => hk _) (by omega)
  · exact .le (.bind .register fun _ _ => hc _) (by omega)

theorem SatB.decodeNewOrder (r : ExRes) (hr : SizeOk A c r) :
    SatB A c 0 (fun o : OrderBody => o.authzs.length ≤ A) (decodeNewOrder r) := by
  unfold Flow.decodeNewOrder
  split
  · exact .ite (.pureQ _ hr) (.failAt _)
  · exact .failAt _

theorem SatB.newOrder : SatB A c 3 (fun o : OrderBody => o.authzs.length ≤ A) newOrder := by
  unfold Flow.newOrder
  refine .le (.bind .getW fun w _ => .bind (.exchange _ _) fun r hr =>
    (?_ : SatB A c 2 _ _)) (by omega)
  split
  · exact .le (.bind .register fun _ _ => .bind .getW fun w2 _ => .bind (.exchange _ _)
      fun r2 hr2 => .decodeNewOrder r2 hr2) (by omega)
  · exact .le (.decodeNewOrder r hr) (by omega)

theorem SatB.solveChallenges (ty : ChalType) (l : List (ChalType × Nat)) :
    SatB A c l.length T (solveChallenges ty l) := by
  induction l with
  | nil => unfold Flow.solveChallenges; exact .pure _
  | cons x rest ih =>
    obtain ⟨t, ch⟩ := x
    unfold Flow.solveChallenges
    refine .ite ?_ (.le ih (by simp))
    refine .le (.bind (.hookGroup _) fun ok _ => (?_ : SatB A c (rest.length + 1) T _)) (by simp)
    refine .ite ?_ (.failAt _)
    refine .le (.bind .getW fun w _ => .bind (.exchange _ _) fun r _ =>
      (?_ : SatB A c rest.length T _)) (by omega)
    split
    · exact .le (.bind ih fun cs _ => .pure (n := 0) _) (by omega)
    · exact .failAt _

theorem SatB.pollAuthz (a n : Nat) : SatB A c n T (pollAuthz a n) := by
  induction n with
  | zero => unfold Flow.pollAuthz; exact .failAt _
  | succ n ih =>
    unfold Flow.pollAuthz
    refine .le (.bind .getW fun w _ => .bind (.exchange _ _) fun r _ =>
      (?_ : SatB A c n T _)) (by omega)
    split
    · exact .ite (.pure _) ih
    · exact .failAt _

theorem SatB.cleanHooks (l : List Nat) : SatB A c 0 T (cleanHooks l) := by
  induction l with
  | nil => unfold Flow.cleanHooks; exact .pure _
  | cons x rest ih =>
    unfold Flow.cleanHooks
    exact .le (.bind (.hookGroup _) fun ok _ => .ite ih (.failAt _)) (Nat.le_refl 0)

theorem SatB.pollOrder (want : OrderStatus) (st : Step) (n : Nat) :
    SatB A c n T (pollOrder want st n) := by
  induction n with
  | zero => unfold Flow.pollOrder; exact .failAt _
  | succ n ih =>
    unfold Flow.pollOrder
    refine .le (.bind .getW fun w _ => .bind (.exchange _ _) fun r _ =>
      (?_ : SatB A c n T _)) (by omega)
    split
    · exact .ite (.pure _) ih
    · exact .failAt _

/-- Per authorisation: the fetch, one "ready" POST per offered challenge at most, the poll. -/
theorem SatB.processAuthz (cfg : Cfg) (a : Nat) :
    SatB A c (1 + c + Gen.DEFAULT_POOL_NB_TRIES) T (processAuthz cfg a) := by
  unfold Flow.processAuthz
  refine .le (.bind .getW fun w _ => .bind (.exchange _ _) fun r hr =>
    (?_ : SatB A c (c + Gen.DEFAULT_POOL_NB_TRIES) T _)) (by omega)
  split
  · rename_i b
    refine .ite (.pure _) (.ite (.failAt _) ?_)
    split
    · exact .failAt _
    · have hb : b.challenges.length ≤ c := hr
      exact .le (.bind (.solveChallenges _ b.challenges) fun cs _ =>
        .bind (.pollAuthz a _) fun _ _ => .cleanHooks cs) (by omega)
  · exact .failAt _

theorem SatB.processAuthzs (cfg : Cfg) (l : List Nat) :
    SatB A c (l.length * (1 + c + Gen.DEFAULT_POOL_NB_TRIES)) T (processAuthzs cfg l) := by
  induction l with
  | nil => unfold Flow.processAuthzs; exact .pure _
  | cons x rest ih =>
    unfold Flow.processAuthzs
    refine .le (.bind (.processAuthz cfg x) fun _ _ => ih) ?_
    simp only [List.length_cons, Nat.succ_mul]
    omega

theorem SatB.refreshDirectory : SatB A c 1 T refreshDirectory := by
  unfold Flow.refreshDirectory
  refine .le (.bind (.exchange _ _) fun r _ => (?_ : SatB A c 0 T _)) (Nat.le_refl 1)
  split
  · exact .pure _
  · exact .failAt _

theorem SatB.prepareM (v : Variant) (cfg : Cfg) :
    SatB A c (9 + Gen.DEFAULT_POOL_NB_TRIES + A * (1 + c + Gen.DEFAULT_POOL_NB_TRIES)) T
      (prepareM v cfg) := by
  unfold Flow.prepareM
  refine .le (.bind .refreshDirectory fun _ _ => .bind (.synchronize v) fun _ _ =>
    .bind .newOrder fun o ho => (?_ : SatB A c (A * (1 + c + Gen.DEFAULT_POOL_NB_TRIES)
      + Gen.DEFAULT_POOL_NB_TRIES) T _)) (by omega)
  refine .le (.bind (.processAuthzs cfg o.authzs) fun _ _ =>
    .bind (.pollOrder _ _ _) fun _ _ => .pure (n := 0) _) ?_
  have := Nat.mul_le_mul_right (1 + c + Gen.DEFAULT_POOL_NB_TRIES) ho
  omega

theorem SatB.getKeyPair (cfg : Cfg) : SatB A c 0 T (getKeyPair cfg) := by
  have hg : SatB A c 0 T genKey :=
    .le (.bind .freshKey fun k _ => .bind (.emit _ rfl) fun _ _ => .pure (n := 0) _) (Nat.le_refl 0)
  unfold Flow.getKeyPair
  refine .le (.bind .getW fun w _ => (?_ : SatB A c 0 T _)) (Nat.le_refl 0)
  refine .ite ?_ hg
  split
  · exact .le (.bind (.emit _ rfl) fun _ _ => .pure (n := 0) _) (Nat.le_refl 0)
  · exact hg

theorem SatB.finalizeOrder : SatB A c (1 + Gen.DEFAULT_POOL_NB_TRIES) T finalizeOrder := by
  unfold Flow.finalizeOrder
  refine .le (.bind .getW fun w _ => .bind (.exchange _ _) fun r _ =>
    (?_ : SatB A c Gen.DEFAULT_POOL_NB_TRIES T _)) (by omega)
  split
  · exact .le (.bind (.pollOrder _ _ _) fun o _ => .ite (.pure (n := 0) _) (.failAt _)) (by omega)
  · exact .failAt _

theorem SatB.fetchPre (v : Variant) (k : KeyId) (isNew : Bool) :
    SatB A c (1 + Gen.DEFAULT_POOL_NB_TRIES) T (fetchPre v k isNew) := by
  unfold Flow.fetchPre
  exact .le (.bind (.ite (.writeKey k) (.pure _)) fun _ _ => .bind (.emit _ rfl) fun _ _ =>
    .finalizeOrder) (by omega)

theorem SatB.downloadCert : SatB A c 1 T downloadCert := by
  unfold Flow.downloadCert
  refine .le (.bind .getW fun w _ => .bind (.exchange _ _) fun r _ => (?_ : SatB A c 0 T _))
    (Nat.le_refl 1)
  split
  · exact .pure _
  · exact .failAt _

theorem SatB.checkBody (v : Variant) (k : KeyId) (cb : CertBody) :
    SatB A c 0 T (checkBody v k cb) := by
  unfold Flow.checkBody
  refine .ite ?_ (.pure _)
  split
  · exact .failAt _
  · exact .ite (.pure _) (.failAt _)

theorem SatB.install (v : Variant) (k : KeyId) (isNew : Bool) (x : CertContent) :
    SatB A c 0 T (install v k isNew x) := by
  unfold Flow.install
  exact .le (.bind (.ite (.writeKey k) (.pure _)) fun _ _ => .writeCert x) (Nat.le_refl 0)

/-- The bound: `11 + 2·P + A·(1 + c + P)` exchanges, `P` = `DEFAULT_POOL_NB_TRIES` (one more than
before 1fb1c1a: the check that precedes a key roll-over). -/
def attemptBound (A c : Nat) : Nat :=
  11 + 2 * Gen.DEFAULT_POOL_NB_TRIES + A * (1 + c + Gen.DEFAULT_POOL_NB_TRIES)

theorem SatB.attemptM (v : Variant) (cfg : Cfg) :
    SatB A c (attemptBound A c) T (attemptM v cfg) := by
  unfold Flow.attemptM obtainM attemptBound
  exact .le (.bind (.bind (.prepareM v cfg) fun _ _ => .bind (.getKeyPair cfg) fun p _ =>
    .bind (.fetchPre v p.1 p.2) fun _ _ => .bind .downloadCert fun cb _ =>
    .bind (.checkBody v p.1 cb) fun x _ => .pure (n := 0) _) fun q _ => .install v q.1 q.2.1 q.2.2)
    (by omega)
end Bounds

/-! ### No certificate write before the installation (C07 `success_iff_installed`) -/

def NoCertWrite : Ev → Prop
  | .writeCert _ => False
  | _ => True

theorem NoCertWrite.obtainM (v : Variant) (cfg : Cfg) :
    Sat (TR (AllEv NoCertWrite)) (obtainM v cfg) :=
  AllEv.obtainM NoCertWrite v cfg
    (fun e h => by cases e <;> simp_all [APrep, NoCertWrite])
    (fun k n e h => by cases e <;> simp_all [AFetch, NoCertWrite])
    (fun _ => trivial) (fun _ => trivial) (fun _ _ => trivial)

/-! ### The per-certificate loop; from `attemptM` to `attempt` (C07) -/

def isSched : LoopEv → Bool
  | .scheduled _ => true
  | .scheduleErr _ => true
  | _ => false

theorem scheduleLoop_events (files : Files) (ins : List SchedIn) :
    ∀ retries evs rest, scheduleLoop files retries ins = some (evs, rest) →
      ∀ e ∈ evs, isSched e = true := by
  induction ins with
  | nil =>
    intro retries evs rest h
    unfold scheduleLoop at h
    split at h
    · simp only [Option.some.injEq, Prod.mk.injEq] at h
      rw [← h.1]; simp [isSched]
    · simp at h
  | cons i tl ih =>
    intro retries evs rest h
    unfold scheduleLoop at h
    split at h
    · simp only [Option.some.injEq, Prod.mk.injEq] at h
      rw [← h.1]; simp [isSched]
    · simp only at h
      split at h
      · simp only [Option.some.injEq, Prod.mk.injEq] at h
        rw [← h.1]; simp [isSched]
      · split at h
        · simp at h
        · rename_i evs' rest' hrec
          simp only [Option.some.injEq, Prod.mk.injEq] at h
          rw [← h.1]
          intro e he
          rcases List.mem_cons.mp he with rfl | he
          · rfl
          · exact ih _ _ _ hrec e he

theorem renewOnce_shape {v : Variant} {fw : Nat} {cfg : Cfg} {w w' : World} {evs : List LoopEv}
    (h : renewOnce v fw cfg w = some (evs, w')) :
    ∃ sevs scheds' r tr w1 hk hks',
      scheduleLoop w.files 0 w.scheds = some (sevs, scheds') ∧
      attempt v cfg { w with scheds := scheds' } = (r, tr, w1) ∧
      r ≠ .stuck ∧ w1.hks = hk :: hks' ∧ w' = { w1 with hks := hks' } ∧
      evs = sevs ++ [.attempt r tr, .postOp (r == .ok) hk] ++
        (if (!(r == .ok) && v.pauseAfterFail) = true then [.pause fw] else []) := by
  unfold renewOnce at h
  split at h
  · simp at h
  · rename_i sevs scheds' hs
    rcases ha : attempt v cfg { w with scheds := scheds' } with ⟨r, tr, w1⟩
    simp only [ha] at h
    split at h
    · simp at h
    · rename_i hne
      split at h
      · simp at h
      · rename_i hk hks' hh
        simp only [Option.some.injEq, Prod.mk.injEq] at h
        exact ⟨sevs, scheds', r, tr, w1, hk, hks', hs, ha, fun e => hne e, hh, h.2.symm, h.1.symm⟩

theorem renewLoop_mem {v : Variant} {fw : Nat} {cfg : Cfg} {round : List LoopEv} :
    ∀ n w, round ∈ renewLoop v fw cfg n w → ∃ w0 w', renewOnce v fw cfg w0 = some (round, w') := by
  intro n
  induction n with
  | zero => intro w h; simp [renewLoop] at h
  | succ n ih =>
    intro w h
    unfold renewLoop at h
    split at h
    · simp at h
    · rename_i evs w' hr
      rcases List.mem_cons.mp h with rfl | h
      · exact ⟨w, w', hr⟩
      · exact ih w' h

theorem attempt_result_tag (v : Variant) (cfg : Cfg) (w : World) :
    (attempt v cfg w).1 = (attemptM v cfg { w with trace := [] }).1.tag :=
  Out.result_eq_tag _

theorem Sat.attempt {Φ : List Ev → Result → Prop} {v : Variant} {cfg : Cfg}
    (h : Sat (TR Φ) (attemptM v cfg)) (w : World) : Φ (attempt v cfg w).2.1 (attempt v cfg w).1 := by
  obtain ⟨es, he, hs⟩ := h.run { w with trace := [] }
  rw [attempt_result_tag]
  show Φ (attemptM v cfg { w with trace := [] }).2.trace _
  rw [he]
  exact hs

theorem attempt_ok_inv {v : Variant} {cfg : Cfg} {w : World} (h : (attempt v cfg w).1 = .ok) :
    ∃ w', attemptM v cfg { w with trace := [] } = (.val (), w') ∧
      (attempt v cfg w).2 = (w'.trace, w') := by
  rw [attempt_result_tag] at h
  rcases hr : attemptM v cfg { w with trace := [] } with ⟨o, w'⟩
  rw [hr] at h
  cases o with
  | val u => exact ⟨w', rfl, by show (_, _) = _; rw [hr]⟩
  | fail s => cases h
  | stuck => cases h

/-! ### Account programs: closed forms and trace shapes (C11) -/

/-- `isExch e = false`, as a proposition by cases (`noExch_of_all` goes from one to the other). -/
def NoExch : Ev → Prop
  | .exch .. => False
  | _ => True

def isOkRes : ExRes → Bool
  | .ok _ => true
  | _ => false

def isADNE : ExRes → Bool
  | .acmeErr .accountDoesNotExist => true
  | _ => false

/-- An ACME problem document other than accountDoesNotExist. -/
def isRefusal : ExRes → Bool
  | .acmeErr .accountDoesNotExist => false
  | .acmeErr _ => true
  | _ => false

theorem isRefusal_notOk {r : ExRes} (h : isRefusal r = true) : isOkRes r = false := by
  cases r with
  | ok b => cases h
  | _ => rfl

theorem isRefusal_notADNE {r : ExRes} (h : isRefusal r = true) : isADNE r = false := by
  cases r with
  | acmeErr ty =>
    cases ty with
    | accountDoesNotExist => cases h
    | _ => rfl
  | _ => rfl

theorem saveAccount_spec (w : World) :
    WriteOut .saveAccount id .saveAccount w (saveAccount w).1 (saveAccount w).2 :=
  writeFile_spec _ _ _ _ (fun _ => rfl) w

/-- Events of an account save: no exchange; if it returned, the save happened. -/
def SaveShape (es : List Ev) (t : Result) : Prop :=
  (∀ e ∈ es, NoExch e) ∧ (t = .ok → .saveAccount ∈ es)

theorem SaveShape.nil {t : Result} (h : t ≠ .ok) : SaveShape [] t :=
  ⟨fun _ hm => absurd hm List.not_mem_nil, fun e => absurd e h⟩

theorem noExch_of_all : ∀ {l : List Ev}, (l.all fun x => !isExch x) = true → ∀ x ∈ l, NoExch x
  | [], _, _, hm => absurd hm List.not_mem_nil
  | e :: l, h, x, hm => by
    rw [List.all_cons, Bool.and_eq_true] at h
    rcases List.mem_cons.mp hm with rfl | hm
    · cases x with
      | exch => exact absurd h.1 Bool.false_ne_true
      | _ => trivial
    · exact noExch_of_all h.2 x hm

theorem saveAccount_shape (w : World) :
    ∃ es, (saveAccount w).2.trace = w.trace ++ es ∧ SaveShape es (saveAccount w).1.tag ∧
      (saveAccount w).2.acc = w.acc ∧ (saveAccount w).2.exs = w.exs := by
  have hs := saveAccount_spec w
  obtain ⟨es, he, hc⟩ := hs.events
  refine ⟨es, he, ⟨?_, fun ht => ?_⟩, hs.1, hs.2.1⟩
  · rcases hc with ⟨rfl, _⟩ | ⟨rfl, _⟩ | ⟨rfl, _⟩ | ⟨b, rfl, _⟩ <;> exact noExch_of_all rfl
  · rcases hc with ⟨_, ho⟩ | ⟨_, ho⟩ | ⟨_, ho⟩ | ⟨b, rfl, ho⟩
    · rw [ho] at ht; cases ht
    · rw [ho] at ht; cases ht
    · rw [ho] at ht; cases ht
    · exact List.mem_cons_of_mem _ List.mem_cons_self

/-- Shape of `register`: nothing (script exhausted), or the newAccount exchange followed by
events that are not exchanges, among them the save whenever it returned. -/
def RegShape (signer : KeyId) (es : List Ev) (t : Result) : Prop :=
  (es = [] ∧ t = .stuck) ∨
  ∃ r rest, es = .exch .newAccount .jwk signer r :: rest ∧ SaveShape rest t ∧
    (t = .ok → isOkRes r = true)

def World.afterExch (w : World) (k : ReqKind) (s : KeyId) (r : ExRes) (rest : List ExRes) : World :=
  { w with exs := rest, trace := w.trace ++ [.exch k (authOf k) s r] }

def World.withAcc (w : World) (a : Acc) : World := { w with acc := a }

theorem World.afterExch_append (w : World) (k : ReqKind) (s : KeyId) (r : ExRes)
    (rest : List ExRes) (es : List Ev) :
    (w.afterExch k s r rest).trace ++ es = w.trace ++ .exch k (authOf k) s r :: es :=
  List.append_assoc ..

def regAcc (ex : Bool) (a : Acc) : Acc :=
  { a with hasUrl := true, contactsInSync := true, bindingInSync := true,
           recKey := a.curKey, caKey := a.curKey, caContactsOk := !ex || a.caContactsOk }

theorem register_run (w : World) :
    register w = match w.exs with
      | [] => (.stuck, w)
      | r :: rest =>
        match r with
        | .ok (.account _ true ex) =>
          saveAccount ((w.afterExch .newAccount w.acc.curKey r rest).withAcc (regAcc ex w.acc))
        | _ => (.fail .register, w.afterExch .newAccount w.acc.curKey r rest) := by
  unfold register
  simp only [bind_run, getW, exchange]
  rcases w.exs with _ | ⟨r, rest⟩
  · rfl
  · simp only
    split
    · rename_i ho hl ex
      cases hl <;> rfl
    · split
      · rename_i h; exact absurd rfl (h _ _ _)
      · rfl

theorem register_shape (w : World) :
    ∃ es, (register w).2.trace = w.trace ++ es ∧ RegShape w.acc.curKey es (register w).1.tag := by
  rw [register_run]
  rcases hx : w.exs with _ | ⟨r, rest⟩
  · exact ⟨[], (List.append_nil _).symm, .inl ⟨rfl, rfl⟩⟩
  · simp only
    split
    · rename_i ho ex
      obtain ⟨es, he, hs, _, _⟩ := saveAccount_shape
        ((w.afterExch .newAccount w.acc.curKey (.ok (.account ho true ex)) rest).withAcc
          (regAcc ex w.acc))
      exact ⟨_ :: es, he.trans (w.afterExch_append _ _ _ rest _),
        .inr ⟨_, es, rfl, hs, fun _ => rfl⟩⟩
    · refine ⟨[_], rfl, .inr ⟨_, [], rfl, .nil nofun, nofun⟩⟩

/-- The record updates of `Model/Flow.lean` (written there inline): after a contact update / a key
roll-over answered 2xx … -/
def contactsAcc (a : Acc) : Acc := { a with contactsInSync := true, caContactsOk := true }
def keyAcc (a : Acc) : Acc := { a with recKey := a.curKey, caKey := a.curKey }
/-- … and their GHOST part alone, when the request was processed but not answered. -/
def contactsLostAcc (a : Acc) : Acc := { a with caContactsOk := true }
def keyLostAcc (a : Acc) : Acc := { a with caKey := a.curKey }

theorem updateContacts_run (w : World) :
    updateContacts w = match w.exs with
      | [] => (.stuck, w)
      | r :: rest =>
        match r with
        | .ok _ =>
          saveAccount ((w.afterExch .accountUpdate w.acc.curKey r rest).withAcc (contactsAcc w.acc))
        | .acmeErr .accountDoesNotExist => register (w.afterExch .accountUpdate w.acc.curKey r rest)
        | .lost => (.fail .accountUpdate,
            (w.afterExch .accountUpdate w.acc.curKey r rest).withAcc (contactsLostAcc w.acc))
        | _ => (.fail .accountUpdate, w.afterExch .accountUpdate w.acc.curKey r rest) := by
  unfold updateContacts
  simp only [bind_run, getW, exchange]
  rcases w.exs with _ | ⟨r, rest⟩
  · rfl
  · cases r with
    | ok b => rfl
    | acmeErr ty => cases ty <;> rfl
    | otherErr => rfl
    | lost => rfl

theorem checkNewKey_run (w : World) :
    checkNewKey w = match w.exs with
      | [] => (.stuck, w)
      | r :: rest =>
        match r with
        | .ok _ =>
          saveAccount ((w.afterExch .accountProbe w.acc.curKey r rest).withAcc (keyAcc w.acc))
        | _ => (.fail .keyChange, w.afterExch .accountProbe w.acc.curKey r rest) := by
  unfold checkNewKey
  simp only [bind_run, getW, exchange]
  rcases w.exs with _ | ⟨r, rest⟩
  · rfl
  · cases r with
    | ok b => rfl
    | acmeErr ty => rfl
    | otherErr => rfl
    | lost => rfl

theorem keyChangeStep_run (ca : Bool) (w : World) :
    keyChangeStep ca w =
      match w.exs with
      | [] => (.stuck, w)
      | r :: rest =>
        match r with
        | .ok _ =>
          saveAccount ((w.afterExch .keyChange w.acc.recKey r rest).withAcc (keyAcc w.acc))
        | .acmeErr .accountDoesNotExist => register (w.afterExch .keyChange w.acc.recKey r rest)
        | .acmeErr _ =>
          if ca = true then checkNewKey (w.afterExch .keyChange w.acc.recKey r rest)
          else (.fail .keyChange, w.afterExch .keyChange w.acc.recKey r rest)
        | .lost => (.fail .keyChange,
            (w.afterExch .keyChange w.acc.recKey r rest).withAcc (keyLostAcc w.acc))
        | .otherErr => (.fail .keyChange, w.afterExch .keyChange w.acc.recKey r rest) := by
  unfold keyChangeStep
  simp only [bind_run, getW, exchange]
  rcases w.exs with _ | ⟨r, rest⟩
  · rfl
  · cases r with
    | ok b => rfl
    | acmeErr ty =>
      cases ty with
      | accountDoesNotExist => rfl
      | sigRefused => cases ca <;> rfl
      | other => cases ca <;> rfl
    | otherErr => rfl
    | lost => rfl

theorem keyChangeChecked_run (w : World) :
    keyChangeChecked w =
      match w.exs with
      | [] => (.stuck, w)
      | p :: rest =>
        match p with
        | .ok _ => keyChangeStep false (w.afterExch .accountProbe w.acc.recKey p rest)
        | .acmeErr .accountDoesNotExist =>
          keyChangeStep false (w.afterExch .accountProbe w.acc.recKey p rest)
        | .acmeErr .sigRefused => checkNewKey (w.afterExch .accountProbe w.acc.recKey p rest)
        | _ => (.fail .keyChange, w.afterExch .accountProbe w.acc.recKey p rest) := by
  unfold keyChangeChecked
  simp only [bind_run, getW, exchange]
  rcases w.exs with _ | ⟨r, rest⟩
  · rfl
  · cases r with
    | ok b => rfl
    | acmeErr ty => cases ty <;> rfl
    | otherErr => rfl
    | lost => rfl

theorem updateKey_run (v : Variant) (w : World) :
    updateKey v w = if w.acc.pastKeyKnown = true then
      (match v.rolloverCheck with
       | .first => keyChangeChecked w
       | .afterRefusal => keyChangeStep true w
       | .none => keyChangeStep false w)
      else (.fail .pastKey, w) := by
  unfold updateKey
  simp only [bind_run, getW]
  by_cases hp : w.acc.pastKeyKnown = true
  · simp only [hp, if_true]
    cases v.rolloverCheck <;> rfl
  · simp only [hp]
    rfl

/-- Second round of the newOrder loop. -/
def newOrder2 : M OrderBody :=
  getW >>= fun w2 => exchange .newOrder w2.acc.curKey >>= fun r2 => decodeNewOrder r2

theorem newOrder_run (w : World) :
    Flow.newOrder w = match w.exs with
      | [] => (.stuck, w)
      | r :: rest =>
        match r with
        | .acmeErr .accountDoesNotExist =>
          (register >>= fun _ => newOrder2) (w.afterExch .newOrder w.acc.curKey r rest)
        | _ => decodeNewOrder r (w.afterExch .newOrder w.acc.curKey r rest) := by
  unfold Flow.newOrder
  simp only [bind_run, getW, exchange]
  rcases w.exs with _ | ⟨r, rest⟩
  · rfl
  · cases r with
    | ok b => rfl
    | acmeErr ty => cases ty <;> rfl
    | otherErr => rfl
    | lost => rfl

theorem refreshDirectory_run (w : World) :
    refreshDirectory w = match w.exs with
      | [] => (.stuck, w)
      | r :: rest =>
        (match r with
          | .ok (.directory true) => .val ()
          | _ => .fail .directory, w.afterExch .directory 0 r rest) := by
  unfold refreshDirectory
  simp only [bind_run, exchange]
  rcases w.exs with _ | ⟨r, rest⟩
  · rfl
  · cases r with
    | ok b =>
      cases b with
      | directory ok => cases ok <;> rfl
      | _ => rfl
    | _ => rfl

theorem refreshDirectory_acc {w w' : World} {u : Unit} (h : refreshDirectory w = (.val u, w')) :
    w'.acc = w.acc := by
  rw [refreshDirectory_run] at h
  rcases hx : w.exs with _ | ⟨r, rest⟩
  · rw [hx] at h; cases h
  · rw [hx] at h; exact (congrArg (·.2.acc) h).symm

theorem sync_eq_noUrl (v : Variant) (w : World) (hu : w.acc.hasUrl = false) :
    synchronize v w = register w := by
  unfold synchronize
  simp only [bind_run, getW, hu, Bool.false_eq_true, if_false]

theorem sync_eq_binding (v : Variant) (w : World) (hu : w.acc.hasUrl = true)
    (hb : w.acc.bindingInSync = false) :
    synchronize v w = (register >>= fun _ =>
      if (v.bindingThenContacts && (!w.acc.contactsInSync && w.acc.keyInSync)) = true
      then updateContacts else pure ()) w := by
  unfold synchronize
  simp only [bind_run, getW, hu, hb, Bool.false_eq_true, if_true, if_false]

theorem sync_eq_keyFirst (v : Variant) (w : World) (hu : w.acc.hasUrl = true)
    (hb : w.acc.bindingInSync = true) (hv : v.keyFirst = true) :
    synchronize v w = ((if (!w.acc.keyInSync) = true then updateKey v else pure ()) >>= fun _ =>
      if (!w.acc.contactsInSync) = true then updateContacts else pure ()) w := by
  unfold synchronize
  simp only [bind_run, getW, hu, hb, hv, if_true]

theorem sync_eq_contactsFirst (v : Variant) (w : World) (hu : w.acc.hasUrl = true)
    (hb : w.acc.bindingInSync = true) (hv : v.keyFirst = false) :
    synchronize v w = ((if (!w.acc.contactsInSync) = true then updateContacts else pure ()) >>= fun _ =>
      if (!w.acc.keyInSync) = true then updateKey v else pure ()) w := by
  unfold synchronize
  simp only [bind_run, getW, hu, hb, hv, if_true, Bool.false_eq_true, if_false]

/-- Shape of the check after a refused roll-over, once sent: the POST-as-GET of the account signed
by the current key followed by events that are not exchanges, among them the save whenever it
returned. -/
def ProbeShape (cur : KeyId) (es : List Ev) (t : Result) : Prop :=
  ∃ p rest, es = .exch .accountProbe .kid cur p :: rest ∧ SaveShape rest t ∧
    (t = .ok → isOkRes p = true)

/-- Shape of a contact update / key roll-over with its re-registration fallback and (roll-over
only, since 5ce05e3) the check after a refusal. -/
def UpdShape (k : ReqKind) (signer cur : KeyId) (es : List Ev) (t : Result) : Prop :=
  (es = [] ∧ (t = .stuck ∨ t = .failed .pastKey)) ∨
  ∃ r rest, es = .exch k .kid signer r :: rest ∧
    ((isADNE r = true ∧ RegShape cur rest t) ∨
     (isADNE r = false ∧ SaveShape rest t ∧ (t = .ok → isOkRes r = true)) ∨
     (k = .keyChange ∧ isRefusal r = true ∧ ProbeShape cur rest t))

/-- No check after a refused roll-over among the events. -/
def NoProbe (es : List Ev) : Prop := ∀ a s r, Ev.exch .accountProbe a s r ∉ es

theorem updateContacts_shape (w : World) :
    ∃ es, (updateContacts w).2.trace = w.trace ++ es ∧
      UpdShape .accountUpdate w.acc.curKey w.acc.curKey es (updateContacts w).1.tag := by
  rw [updateContacts_run]
  rcases hx : w.exs with _ | ⟨r, rest⟩
  · exact ⟨[], (List.append_nil _).symm, .inl ⟨rfl, .inl rfl⟩⟩
  · simp only
    split
    · rename_i b
      obtain ⟨es, he, hs, _, _⟩ := saveAccount_shape
        ((w.afterExch .accountUpdate w.acc.curKey (.ok b) rest).withAcc (contactsAcc w.acc))
      exact ⟨_ :: es, he.trans (w.afterExch_append _ _ _ rest _),
        .inr ⟨_, es, rfl, .inr (.inl ⟨rfl, hs, fun _ => rfl⟩)⟩⟩
    · obtain ⟨es, he, hs⟩ := register_shape
        (w.afterExch .accountUpdate w.acc.curKey (.acmeErr .accountDoesNotExist) rest)
      exact ⟨_ :: es, he.trans (w.afterExch_append _ _ _ rest _),
        .inr ⟨_, es, rfl, .inl ⟨rfl, hs⟩⟩⟩
    · exact ⟨[.exch .accountUpdate .kid w.acc.curKey .lost], rfl,
        .inr ⟨.lost, [], rfl, .inr (.inl ⟨rfl, .nil nofun, nofun⟩)⟩⟩
    · rename_i h1 h2 h3
      refine ⟨[.exch .accountUpdate .kid w.acc.curKey r], rfl,
        .inr ⟨r, [], rfl, .inr (.inl ⟨?_, .nil nofun, nofun⟩)⟩⟩
      cases r with
      | ok b => exact absurd rfl (h1 b)
      | acmeErr ty => cases ty with
        | accountDoesNotExist => exact absurd rfl h2
        | sigRefused => rfl
        | other => rfl
      | otherErr => rfl
      | lost => rfl

theorem checkNewKey_shape (w : World) :
    ∃ es, (checkNewKey w).2.trace = w.trace ++ es ∧
      ((es = [] ∧ (checkNewKey w).1.tag = .stuck) ∨
       ProbeShape w.acc.curKey es (checkNewKey w).1.tag) := by
  rw [checkNewKey_run]
  rcases hx : w.exs with _ | ⟨r, rest⟩
  · exact ⟨[], (List.append_nil _).symm, .inl ⟨rfl, rfl⟩⟩
  · simp only
    split
    · rename_i b
      obtain ⟨es, he, hs, _, _⟩ := saveAccount_shape
        ((w.afterExch .accountProbe w.acc.curKey (.ok b) rest).withAcc (keyAcc w.acc))
      exact ⟨_ :: es, he.trans (w.afterExch_append _ _ _ rest _),
        .inr ⟨_, es, rfl, hs, fun _ => rfl⟩⟩
    · rename_i h1
      refine ⟨[.exch .accountProbe .kid w.acc.curKey r], rfl,
        .inr ⟨r, [], rfl, .nil nofun, nofun⟩⟩

/-- Whatever its answer, the first request of a contact update is in the trace. -/
theorem updateContacts_head {w : World} {r : ExRes} {rest : List ExRes} (hx : w.exs = r :: rest) :
    ∃ es, (updateContacts w).2.trace = w.trace ++ .exch .accountUpdate .kid w.acc.curKey r :: es := by
  rw [updateContacts_run, hx]
  cases r with
  | ok b =>
    obtain ⟨es, he, _⟩ := saveAccount_shape
      ((w.afterExch .accountUpdate w.acc.curKey (.ok b) rest).withAcc (contactsAcc w.acc))
    exact ⟨es, he.trans (w.afterExch_append _ _ _ rest _)⟩
  | acmeErr ty =>
    cases ty with
    | accountDoesNotExist =>
      obtain ⟨es, he, _⟩ := register_shape
        (w.afterExch .accountUpdate w.acc.curKey (.acmeErr .accountDoesNotExist) rest)
      exact ⟨es, he.trans (w.afterExch_append _ _ _ rest _)⟩
    | _ => exact ⟨[], rfl⟩
  | _ => exact ⟨[], rfl⟩

theorem NoProbe.nil : NoProbe [] := fun _ _ _ => List.not_mem_nil

theorem NoProbe.cons {es : List Ev} (h : NoProbe es) {k : ReqKind} {a : Auth} {s : KeyId}
    {r : ExRes} (hk : k ≠ .accountProbe) : NoProbe (.exch k a s r :: es) := by
  intro a' s' r' hm
  rcases List.mem_cons.mp hm with h' | h'
  · cases h'; exact hk rfl
  · exact h _ _ _ h'

theorem SaveShape.noProbe (h : SaveShape es t) : NoProbe es := fun _ _ _ hm => h.1 _ hm

theorem RegShape.noProbe (h : RegShape s es t) : NoProbe es := by
  rcases h with ⟨rfl, _⟩ | ⟨r, rest, rfl, hs, _⟩
  · exact .nil
  · exact hs.noProbe.cons nofun

/-- The roll-over request and what follows; `NoProbe` unless the tree has the check after a refusal
(5ce05e3) and the first answer is a refusal that triggers it. -/
theorem keyChangeStep_shape (ca : Bool) (w : World) :
    ∃ es, (keyChangeStep ca w).2.trace = w.trace ++ es ∧
      UpdShape .keyChange w.acc.recKey w.acc.curKey es (keyChangeStep ca w).1.tag ∧
      ((ca = false ∨ (w.exs.head?.map isRefusal) ≠ some true) → NoProbe es) := by
  rw [keyChangeStep_run]
  rcases hx : w.exs with _ | ⟨r, rest⟩
  · exact ⟨[], (List.append_nil _).symm, .inl ⟨rfl, .inl rfl⟩, fun _ => .nil⟩
  · -- the request alone, when its answer ends the step
    have hfail : ∀ r : ExRes, isADNE r = false → isOkRes r = false →
        ∃ es, (w.afterExch .keyChange w.acc.recKey r rest).trace = w.trace ++ es ∧
          UpdShape .keyChange w.acc.recKey w.acc.curKey es (.failed .keyChange) ∧ NoProbe es :=
      fun r h1 _ => ⟨[_], rfl, .inr ⟨r, [], rfl, .inr (.inl ⟨h1, .nil nofun, nofun⟩)⟩,
        NoProbe.nil.cons nofun⟩
    simp only
    split
    · rename_i b
      obtain ⟨es, he, hs, _, _⟩ := saveAccount_shape
        ((w.afterExch .keyChange w.acc.recKey (.ok b) rest).withAcc (keyAcc w.acc))
      exact ⟨_ :: es, he.trans (w.afterExch_append _ _ _ rest _),
        .inr ⟨_, es, rfl, .inr (.inl ⟨rfl, hs, fun _ => rfl⟩)⟩, fun _ => hs.noProbe.cons nofun⟩
    · obtain ⟨es, he, hs⟩ := register_shape
        (w.afterExch .keyChange w.acc.recKey (.acmeErr .accountDoesNotExist) rest)
      exact ⟨_ :: es, he.trans (w.afterExch_append _ _ _ rest _),
        .inr ⟨_, es, rfl, .inl ⟨rfl, hs⟩⟩, fun _ => hs.noProbe.cons nofun⟩
    · rename_i ty hty
      have hr : isRefusal (.acmeErr ty) = true := by
        cases ty with
        | accountDoesNotExist => exact absurd rfl hty
        | _ => rfl
      have hna : isADNE (.acmeErr ty) = false := by
        cases ty with
        | accountDoesNotExist => exact absurd rfl hty
        | _ => rfl
      split
      · rename_i hv
        obtain ⟨es, he, hs⟩ := checkNewKey_shape
          (w.afterExch .keyChange w.acc.recKey (.acmeErr ty) rest)
        rcases hs with ⟨rfl, ht⟩ | hs
        · -- the script ends after the refusal: stuck before the check is sent
          have hne : (checkNewKey (w.afterExch .keyChange w.acc.recKey (.acmeErr ty) rest)).1.tag
              ≠ .ok := fun h => nomatch ht.symm.trans h
          exact ⟨[_], he.trans (w.afterExch_append _ _ _ rest _),
            .inr ⟨_, [], rfl, .inr (.inl ⟨hna, .nil hne, fun h => absurd h hne⟩)⟩,
            fun _ => NoProbe.nil.cons nofun⟩
        · refine ⟨_ :: es, he.trans (w.afterExch_append _ _ _ rest _),
            .inr ⟨_, es, rfl, .inr (.inr ⟨rfl, hr, hs⟩)⟩, fun hn => ?_⟩
          rcases hn with hn | hn
          · exact nomatch hv.symm.trans hn
          · exact absurd (congrArg some hr) hn
      · obtain ⟨es, he, hs, hn⟩ := hfail (.acmeErr ty) hna rfl
        exact ⟨es, he, hs, fun _ => hn⟩
    · exact ⟨[_], rfl, .inr ⟨.lost, [], rfl, .inr (.inl ⟨rfl, .nil nofun, nofun⟩)⟩,
        fun _ => NoProbe.nil.cons nofun⟩
    · obtain ⟨es, he, hs, hn⟩ := hfail .otherErr rfl rfl
      exact ⟨es, he, hs, fun _ => hn⟩

/-- Whatever its answer, the query signed by the recorded key is in the trace of the checked
roll-over. -/
theorem keyChangeChecked_head {w : World} {p : ExRes} {rest : List ExRes} (hx : w.exs = p :: rest) :
    ∃ es, (keyChangeChecked w).2.trace =
      w.trace ++ .exch .accountProbe .kid w.acc.recKey p :: es := by
  have hstep : ∃ es, (keyChangeStep false (w.afterExch .accountProbe w.acc.recKey p rest)).2.trace =
      w.trace ++ .exch .accountProbe .kid w.acc.recKey p :: es := by
    obtain ⟨es, he, _⟩ := keyChangeStep_shape false (w.afterExch .accountProbe w.acc.recKey p rest)
    exact ⟨es, he.trans (w.afterExch_append _ _ _ rest _)⟩
  rw [keyChangeChecked_run, hx]
  cases p with
  | ok b => exact hstep
  | acmeErr ty =>
    cases ty with
    | accountDoesNotExist => exact hstep
    | sigRefused =>
      obtain ⟨es, he, _⟩ := checkNewKey_shape
        (w.afterExch .accountProbe w.acc.recKey (.acmeErr .sigRefused) rest)
      exact ⟨es, he.trans (w.afterExch_append _ _ _ rest _)⟩
    | other => exact ⟨[], rfl⟩
  | _ => exact ⟨[], rfl⟩

/-- Shape of the whole roll-over block `update_account_key`.
* trees without the first check: an `UpdShape` (roll-over request first);
* since 1fb1c1a: the check signed by the RECORDED key `rec`, then — answered 2xx or
  accountDoesNotExist — the roll-over request with its fallback (no further check), or — answered
  with an error a failed signature verification produces (`sigRefused`) — the check signed by the
  CURRENT key, or — anything else — nothing. -/
def KeyShape (rec cur : KeyId) (es : List Ev) (t : Result) : Prop :=
  UpdShape .keyChange rec cur es t ∨
  ∃ p rest, es = .exch .accountProbe .kid rec p :: rest ∧
    ((p = .acmeErr .sigRefused ∧ ((rest = [] ∧ t = .stuck) ∨ ProbeShape cur rest t)) ∨
     ((isOkRes p = true ∨ isADNE p = true) ∧ UpdShape .keyChange rec cur rest t ∧ NoProbe rest) ∨
     (rest = [] ∧ t = .failed .keyChange))

/-- **The class of the known finding `rollover-probe-at-deactivated-account`**: a roll-over is due
and the CA answers the FIRST request of the block — since 1fb1c1a the account query signed by the
recorded key — with an error a failed signature verification produces (`sigRefused`).  When the CA
in fact holds the recorded key (a deactivated account), the query signed by the current key that
follows does not verify. -/
def rolloverProbeAtDeactivatedAccount (w : World) : Bool :=
  w.exs.head? == some (.acmeErr .sigRefused)

/-- Whether the roll-over block of tree `v` may send a POST-as-GET signed by the CURRENT key from
world `w`: working tree — the first answer is of class `sigRefused`; 5ce05e3 — the first answer
(to the roll-over request) is any refusal; before — never. -/
def mayAskCur (v : Variant) (w : World) : Bool :=
  match v.rolloverCheck with
  | .first => rolloverProbeAtDeactivatedAccount w
  | .afterRefusal => (w.exs.head?.map isRefusal) == some true
  | .none => false

/-- Events in which every `accountProbe` is signed by `rec`. -/
def ProbesBy (rec : KeyId) (es : List Ev) : Prop :=
  ∀ a s r, Ev.exch .accountProbe a s r ∈ es → s = rec

theorem NoProbe.probesBy {es : List Ev} (h : NoProbe es) (k : KeyId) : ProbesBy k es :=
  fun a s r hm => absurd hm (h a s r)

theorem ProbesBy.cons {k : KeyId} {es : List Ev} (h : ProbesBy k es) {kd : ReqKind} {a : Auth}
    {r : ExRes} : ProbesBy k (.exch kd a k r :: es) := by
  intro a' s r' hm
  rcases List.mem_cons.mp hm with h' | h'
  · cases h'; rfl
  · exact h _ _ _ h'

theorem updateKey_shape (v : Variant) (w : World) :
    ∃ es, (updateKey v w).2.trace = w.trace ++ es ∧
      KeyShape w.acc.recKey w.acc.curKey es (updateKey v w).1.tag ∧
      (v.rolloverCheck ≠ .first →
        UpdShape .keyChange w.acc.recKey w.acc.curKey es (updateKey v w).1.tag) ∧
      (mayAskCur v w = false → ProbesBy w.acc.recKey es) := by
  rw [updateKey_run]
  split
  · cases hv : v.rolloverCheck with
    | none =>
      obtain ⟨es, he, hs, hn⟩ := keyChangeStep_shape false w
      exact ⟨es, he, .inl hs, fun _ => hs, fun _ => (hn (.inl rfl)).probesBy _⟩
    | afterRefusal =>
      obtain ⟨es, he, hs, hn⟩ := keyChangeStep_shape true w
      refine ⟨es, he, .inl hs, fun _ => hs, fun h => (hn (.inr ?_)).probesBy _⟩
      intro hx
      simp [mayAskCur, hv, hx] at h
    | first =>
      simp only
      rw [keyChangeChecked_run]
      rcases hx : w.exs with _ | ⟨p, rest⟩
      · exact ⟨[], (List.append_nil _).symm, .inl (.inl ⟨rfl, .inl rfl⟩), fun h => absurd rfl h,
          fun _ => NoProbe.nil.probesBy _⟩
      · -- the query answered 2xx or accountDoesNotExist: the roll-over request follows
        have hstep : ∀ p : ExRes, (isOkRes p = true ∨ isADNE p = true) → ∃ es,
            (keyChangeStep false (w.afterExch .accountProbe w.acc.recKey p rest)).2.trace
              = w.trace ++ es ∧
            KeyShape w.acc.recKey w.acc.curKey es
              (keyChangeStep false (w.afterExch .accountProbe w.acc.recKey p rest)).1.tag ∧
            ProbesBy w.acc.recKey es := by
          intro p hp
          obtain ⟨es, he, hs, hn⟩ := keyChangeStep_shape false
            (w.afterExch .accountProbe w.acc.recKey p rest)
          exact ⟨_ :: es, he.trans (w.afterExch_append _ _ _ rest _),
            .inr ⟨p, es, rfl, .inr (.inl ⟨hp, hs, hn (.inl rfl)⟩)⟩,
            ((hn (.inl rfl)).probesBy _).cons⟩
        simp only
        split
        · rename_i b
          obtain ⟨es, he, hs, hp⟩ := hstep (.ok b) (.inl rfl)
          exact ⟨es, he, hs, fun h => absurd rfl h, fun _ => hp⟩
        · obtain ⟨es, he, hs, hp⟩ := hstep (.acmeErr .accountDoesNotExist) (.inr rfl)
          exact ⟨es, he, hs, fun h => absurd rfl h, fun _ => hp⟩
        · obtain ⟨es, he, hs⟩ := checkNewKey_shape
            (w.afterExch .accountProbe w.acc.recKey (.acmeErr .sigRefused) rest)
          refine ⟨_ :: es, he.trans (w.afterExch_append _ _ _ rest _),
            .inr ⟨_, es, rfl, .inl ⟨rfl, hs⟩⟩, fun h => absurd rfl h, fun h => ?_⟩
          simp [mayAskCur, hv, rolloverProbeAtDeactivatedAccount, hx] at h
        · exact ⟨[_], rfl, .inr ⟨p, [], rfl, .inr (.inr ⟨rfl, rfl⟩)⟩, fun h => absurd rfl h,
            fun _ => (NoProbe.nil.probesBy _).cons⟩
  · exact ⟨[], (List.append_nil _).symm, .inl (.inl ⟨rfl, .inr rfl⟩), fun _ => .inl ⟨rfl, .inr rfl⟩,
      fun _ => NoProbe.nil.probesBy _⟩

theorem RegShape.exch_mem (h : RegShape sg es t) (hm : .exch k a s r ∈ es) :
    k = .newAccount := by
  rcases h with ⟨rfl, _⟩ | ⟨r', rest, rfl, hs, _⟩
  · cases hm
  · rcases List.mem_cons.mp hm with h | h
    · cases h; rfl
    · exact (hs.1 _ h).elim

theorem ProbeShape.exch_mem (h : ProbeShape cur es t) (hm : .exch k a s r ∈ es) :
    k = .accountProbe ∧ s = cur := by
  obtain ⟨q, rest, rfl, hs, _⟩ := h
  rcases List.mem_cons.mp hm with h | h
  · cases h; exact ⟨rfl, rfl⟩
  · exact (hs.1 _ h).elim

theorem UpdShape.exch_mem (h : UpdShape k0 sg cur es t)
    (hm : .exch k a s r ∈ es) :
    (k = k0 ∧ a = .kid ∧ s = sg) ∨ k = .newAccount ∨
      (k0 = .keyChange ∧ k = .accountProbe ∧ s = cur) := by
  rcases h with ⟨rfl, _⟩ | ⟨r0, rest, rfl, h⟩
  · cases hm
  · rcases List.mem_cons.mp hm with h' | hm
    · cases h'; exact .inl ⟨rfl, rfl, rfl⟩
    · rcases h with ⟨_, hr⟩ | ⟨_, hs, _⟩ | ⟨hk, _, hp⟩
      · exact .inr (.inl (hr.exch_mem hm))
      · exact (hs.1 _ hm).elim
      · exact .inr (.inr ⟨hk, hp.exch_mem hm⟩)

theorem KeyShape.exch_mem (h : KeyShape rec cur es t) (hm : .exch k a s r ∈ es) :
    (k = .keyChange ∧ a = .kid ∧ s = rec) ∨ k = .newAccount ∨
      (k = .accountProbe ∧ (s = rec ∨ s = cur)) := by
  have hu : ∀ {es t}, UpdShape .keyChange rec cur es t → .exch k a s r ∈ es →
      (k = .keyChange ∧ a = .kid ∧ s = rec) ∨ k = .newAccount ∨
        (k = .accountProbe ∧ (s = rec ∨ s = cur)) := fun h hm =>
    (h.exch_mem hm).imp_right (Or.imp_right fun h => ⟨h.2.1, .inr h.2.2⟩)
  rcases h with h | ⟨q, rest, rfl, h⟩
  · exact hu h hm
  · rcases List.mem_cons.mp hm with h' | hm
    · cases h'; exact .inr (.inr ⟨rfl, .inl rfl⟩)
    · rcases h with ⟨_, ⟨rfl, _⟩ | hp⟩ | ⟨_, h, _⟩ | ⟨rfl, _⟩
      · cases hm
      · exact .inr (.inr ⟨(hp.exch_mem hm).1, .inr (hp.exch_mem hm).2⟩)
      · exact hu h hm
      · cases hm

theorem UpdShape.noProbe_of_accountUpdate
    (h : UpdShape .accountUpdate s c es t) : NoProbe es := by
  intro a s' r' hm
  rcases h.exch_mem hm with ⟨h, _⟩ | h | ⟨h, _⟩ <;> cases h

theorem KeyShape.no_accountUpdate (h : KeyShape s c es t) :
    Ev.exch .accountUpdate a s' r ∉ es := by
  intro hm
  rcases h.exch_mem hm with ⟨h, _⟩ | h | ⟨h, _⟩ <;> cases h

theorem UpdShape.accountUpdate_events (h : UpdShape k s c es t)
    (he : .exch .accountUpdate a s' r ∈ es) : k = .accountUpdate ∧ a = .kid ∧ s' = s := by
  rcases h.exch_mem he with ⟨hk, h⟩ | h | ⟨_, h, _⟩
  · exact ⟨hk.symm, h⟩
  · cases h
  · cases h

/-! ### A monitor over the whole attempt: the part after the synchronisation, glue -/

/-- Events of everything that follows the newOrder step: authorisations, polls, key pair,
finalize, download, the two file writes. No account request, no account save. -/
def ARest : Ev → Prop
  | .exch k a _ _ => a = .kid ∧
      ((∃ x, k = .authz x) ∨ (∃ x, k = .challengeReady x) ∨ (∃ x, k = .authzPoll x) ∨
       k = .orderPoll ∨ k = .finalize ∨ k = .certDownload)
  | .hooks ty _ => ty ≠ .postOperation
  | .saveAccount => False
  | _ => True

theorem ARest.getKeyPair (cfg : Cfg) : Sat (TR (AllEv ARest)) (getKeyPair cfg) :=
  AllEv.getKeyPair ARest (fun _ => trivial) (fun _ => trivial) cfg
theorem ARest.install (v : Variant) (k : KeyId) (n : Bool) (x : CertContent) :
    Sat (TR (AllEv ARest)) (install v k n x) :=
  AllEv.install ARest (fun _ => ⟨nofun, nofun⟩) (fun _ => trivial) (fun _ => trivial) v k n x

/-- Everything after the account synchronisation. -/
def afterSync (v : Variant) (cfg : Cfg) : M Unit :=
  newOrder >>= fun o =>
  processAuthzs cfg o.authzs >>= fun _ =>
  pollOrder .ready .orderReadyPoll Gen.DEFAULT_POOL_NB_TRIES >>= fun _ =>
  getKeyPair cfg >>= fun p =>
  fetchPre v p.1 p.2 >>= fun _ =>
  downloadCert >>= fun cb =>
  checkBody v p.1 cb >>= fun c =>
  install v p.1 p.2 c

theorem attemptM_eq (v : Variant) (cfg : Cfg) :
    attemptM v cfg = refreshDirectory >>= fun _ => synchronize v >>= fun _ => afterSync v cfg := by
  unfold attemptM obtainM prepareM afterSync
  simp only [M.bind_assoc]
  have hp : ∀ {α β : Type} (a : α) (f : α → M β), (Pure.pure a : M α) >>= f = f a :=
    fun a f => M.pure_bind a f
  simp only [hp]

/-- `ARest` without what only `solveChallenges` emits. -/
def ATail : Ev → Prop
  | .exch k a _ _ => a = .kid ∧
      ((∃ x, k = .authz x) ∨ (∃ x, k = .authzPoll x) ∨ k = .orderPoll ∨ k = .finalize ∨
       k = .certDownload)
  | .hooks ty _ => (∃ c, ty = .clean c) ∨ ty = .filePre ∨ ty = .filePost
  | .saveAccount => False
  | _ => True

theorem ATail.rest {e : Ev} (h : ATail e) : ARest e := by
  cases e with
  | exch k a s r =>
    obtain ⟨ha, h | h | h | h | h⟩ := h
    · exact ⟨ha, .inl h⟩
    · exact ⟨ha, .inr (.inr (.inl h))⟩
    · exact ⟨ha, .inr (.inr (.inr (.inl h)))⟩
    · exact ⟨ha, .inr (.inr (.inr (.inr (.inl h))))⟩
    · exact ⟨ha, .inr (.inr (.inr (.inr (.inr h))))⟩
  | hooks ty b =>
    obtain ⟨c, rfl⟩ | rfl | rfl := h <;> exact nofun
  | _ => exact h

/-- Glue for monitors with their own treatment of the newOrder step and of `solveChallenges`:
every other event after the synchronisation lies in `ATail`. -/
theorem afterSync_sat2 {Φ : List Ev → Result → Prop} (T : TLaw Φ) (v : Variant) (cfg : Cfg)
    (hno : Sat (TR Φ) newOrder) (hsolve : ∀ ty l, Sat (TR Φ) (solveChallenges ty l))
    (htail : ∀ e, ATail e → Φ [e] .ok) : Sat (TR Φ) (afterSync v cfg) :=
  have L := T.law
  have hx : ∀ k s, ((∃ x, k = .authz x) ∨ (∃ x, k = .authzPoll x) ∨ k = .orderPoll ∨
      k = .finalize ∨ k = .certDownload) → authOf k = .kid → Sat (TR Φ) (exchange k s) :=
    fun k s hk ha => TR.exchange T k s fun _ => htail _ ⟨ha, hk⟩
  have hpoll := Sat.pollOrder L fun s => hx _ s (.inr (.inr (.inl rfl))) rfl
  have hfile : ∀ b, Φ [.hooks .filePre b] .ok ∧ Φ [.hooks .filePost b] .ok :=
    fun _ => ⟨htail _ (.inr (.inl rfl)), htail _ (.inr (.inr rfl))⟩
  have hkey : ∀ k, Sat (TR Φ) (writeKey k) := fun k =>
    TR.writeFile T hfile _ _ (htail (.writeKey k) trivial)
  .bind L hno fun _ =>
  .bind L (.processAuthzs L (fun a s => hx _ s (.inl ⟨a, rfl⟩) rfl)
    (fun a s => hx _ s (.inr (.inl ⟨a, rfl⟩)) rfl)
    (fun c => TR.hookGroup T _ fun _ => htail _ (.inl ⟨c, rfl⟩)) hsolve cfg _) fun _ =>
  .bind L (hpoll _ _ _) fun _ =>
  .bind L (.getKeyPair L (TR.freshKey T) (fun k => TR.emit _ (htail (.keygen k) trivial))
    (fun k => TR.emit _ (htail (.readKey k) trivial)) cfg) fun p =>
  .bind L (.fetchPre L (fun _ => hkey p.1) (TR.emit _ (htail (.csr p.1) trivial))
    (.finalizeOrder L (fun s => hx _ s (.inr (.inr (.inr (.inl rfl)))) rfl) hpoll)) fun _ =>
  .bind L (.downloadCert L fun s => hx _ s (.inr (.inr (.inr (.inr rfl)))) rfl) fun cb =>
  .bind L (.checkBody L v p.1 cb) fun c =>
  .install L (hkey p.1) (TR.writeFile T hfile _ _ (htail (.writeCert c) trivial)) v p.2

theorem afterSync_sat {Φ : List Ev → Result → Prop} (T : TLaw Φ) (v : Variant) (cfg : Cfg)
    (hno : Sat (TR Φ) newOrder) (hrest : ∀ e, ARest e → Φ [e] .ok) :
    Sat (TR Φ) (afterSync v cfg) :=
  afterSync_sat2 T v cfg hno
    (.solveChallenges T.law
      (fun c => TR.hookGroup T _ fun b => hrest (.hooks (.challenge c) b) nofun)
      fun c s => TR.exchange T _ s fun _ => hrest _ ⟨rfl, .inr (.inl ⟨c, rfl⟩)⟩)
    fun e h => hrest e h.rest

theorem attempt_sat2 {Φ : List Ev → Result → Prop} (T : TLaw Φ) (v : Variant) (cfg : Cfg)
    (hacct : ∀ e, AAcct e → Φ [e] .ok) (hsolve : ∀ ty l, Sat (TR Φ) (solveChallenges ty l))
    (htail : ∀ e, ATail e → Φ [e] .ok) : Sat (TR Φ) (attemptM v cfg) := by
  rw [attemptM_eq]
  exact .bind T.law (Sat.of_all T hacct AAcct.refreshDirectory) fun _ =>
    .bind T.law (Sat.of_all T hacct (AAcct.synchronize v)) fun _ =>
      afterSync_sat2 T v cfg (Sat.of_all T hacct AAcct.newOrder) hsolve htail

/-! ### Monitor: an account is created only when allowed (C11 `register_only_when`) -/

/-- Replays the signed requests (the directory GET is skipped): a newAccount request is accepted
only while `allow` holds; after every request `allow` becomes "that request was answered
accountDoesNotExist". -/
def regMon : Bool → List Ev → Bool
  | _, [] => true
  | p, .exch k _ _ r :: es =>
    if k = .directory then regMon p es
    else (k != .newAccount || p) && regMon (isADNE r) es
  | p, _ :: es => regMon p es

theorem regMon_noexch {es : List Ev} (h : ∀ e ∈ es, NoExch e) (p : Bool) : regMon p es = true := by
  induction es with
  | nil => rfl
  | cons e tl ih =>
    have ih' := ih fun x hx => h x (List.mem_cons_of_mem _ hx)
    cases e with
    | exch => exact (h _ List.mem_cons_self).elim
    | _ => exact ih'

theorem regMon_append {a b : List Ev} (hb : ∀ q, regMon q b = true) :
    ∀ p, regMon p a = true → regMon p (a ++ b) = true := by
  induction a with
  | nil => intro p _; exact hb p
  | cons e tl ih =>
    intro p h
    cases e with
    | exch k au s r =>
      simp only [List.cons_append, regMon] at h ⊢
      split
      · rename_i hk; simp only [hk, if_true] at h; exact ih p h
      · rename_i hk
        simp only [hk, if_false, Bool.and_eq_true] at h
        simp only [Bool.and_eq_true]
        exact ⟨h.1, ih _ h.2⟩
    | _ => exact ih p h

def ΦReg : List Ev → Result → Prop := fun es _ => ∀ p, regMon p es = true

theorem ΦReg.tlaw : TLaw ΦReg where
  nil := fun _ _ => rfl
  app := fun ha hb p => regMon_append hb p (ha p)

theorem RegShape.regMon (h : RegShape s es t) :
    regMon true es = true := by
  rcases h with ⟨rfl, _⟩ | ⟨r, rest, rfl, hs, _⟩
  · rfl
  · simp [Flow.regMon, regMon_noexch hs.1]

theorem UpdShape.regMon (h : UpdShape k s c es t) (hk : k ≠ .newAccount) (hd : k ≠ .directory) :
    ∀ p, regMon p es = true := by
  intro p
  rcases h with ⟨rfl, _⟩ | ⟨r, rest, rfl, ⟨ha, hr⟩ | ⟨_, hs, _⟩ | ⟨_, _, q, rest', rfl, hs, _⟩⟩
  · rfl
  · simp [Flow.regMon, hk, hd, ha, hr.regMon]
  · simp [Flow.regMon, hk, hd, regMon_noexch hs.1]
  · simp [Flow.regMon, hk, hd, regMon_noexch hs.1]

theorem regMon_updateContacts : Sat (TR ΦReg) updateContacts :=
  ⟨fun w => (updateContacts_shape w).imp fun _ h => ⟨h.1, h.2.regMon nofun nofun⟩⟩

theorem KeyShape.regMon (h : KeyShape s c es t) :
    ∀ p, regMon p es = true := by
  intro p
  rcases h with h | ⟨q, rest, rfl, ⟨_, ⟨rfl, _⟩ | ⟨q', rest', rfl, hs, _⟩⟩ | ⟨_, hu, _⟩ | ⟨rfl, _⟩⟩
  · exact h.regMon (by simp) (by simp) p
  · simp [Flow.regMon]
  · simp [Flow.regMon, regMon_noexch hs.1]
  · simp [Flow.regMon, hu.regMon (by simp) (by simp)]
  · simp [Flow.regMon]

theorem regMon_updateKey (v : Variant) : Sat (TR ΦReg) (updateKey v) :=
  ⟨fun w => (updateKey_shape v w).imp fun _ h => ⟨h.1, h.2.1.regMon⟩⟩

theorem regMon_of_rest (e : Ev) (h : ARest e) : ΦReg [e] .ok := by
  intro p
  cases e with
  | exch k a s r =>
    obtain ⟨_, ⟨x, rfl⟩ | ⟨x, rfl⟩ | ⟨x, rfl⟩ | rfl | rfl | rfl⟩ := h <;> rfl
  | _ => rfl

/-- The newOrder step: a re-registration happens only right after `accountDoesNotExist`. -/
theorem regMon_newOrder : Sat (TR ΦReg) Flow.newOrder := by
  have L := ΦReg.tlaw.law
  have hd : ∀ r, Sat (TR ΦReg) (decodeNewOrder r) := .decodeNewOrder L
  have htail : Sat (TR ΦReg) newOrder2 :=
    .bind L (.getW L) fun _ =>
      .bind L (TR.exchange ΦReg.tlaw _ _ fun r p => by simp [regMon]) fun r => hd r
  constructor
  intro w
  rw [newOrder_run]
  rcases hx' : w.exs with _ | ⟨r, rest⟩
  · exact ⟨[], (List.append_nil _).symm, fun _ => rfl⟩
  · simp only
    split
    · -- after `accountDoesNotExist` the re-registration is allowed
      obtain ⟨es, he, hs⟩ := TR.bind_at (Φ := fun es _ => regMon true es = true)
        ((register_shape (w.afterExch .newOrder w.acc.curKey (.acmeErr .accountDoesNotExist)
          rest)).imp fun _ h => ⟨h.1, h.2.regMon⟩)
        (fun _ w1 _ => htail.run w1) (fun h1 h2 => regMon_append h2 true h1) fun _ h => h
      exact ⟨_ :: es, he.trans (w.afterExch_append _ _ _ rest _), fun p => by
        simp [regMon, isADNE, hs]⟩
    · obtain ⟨es, he, hs⟩ := (hd r).run (w.afterExch .newOrder w.acc.curKey r rest)
      exact ⟨_ :: es, he.trans (w.afterExch_append _ _ _ rest _), fun p => by
        simp [regMon, hs _]⟩

/-- State of `regMon` after a list of events: unchanged if it contains no signed request, else
whether the last signed request was answered `accountDoesNotExist`. -/
def regState : Bool → List Ev → Bool
  | p, [] => p
  | p, .exch k _ _ r :: es => if k = .directory then regState p es else regState (isADNE r) es
  | p, _ :: es => regState p es

/-- What `regMon` accepting a trace means for each newAccount request in it. -/
theorem regMon_sound {pre post : List Ev} {a : Auth} {s : KeyId} {r : ExRes} :
    ∀ p, regMon p (pre ++ .exch .newAccount a s r :: post) = true → regState p pre = true := by
  induction pre with
  | nil =>
    intro p h
    simp [regMon] at h
    simpa [regState] using h.1
  | cons e tl ih =>
    intro p h
    cases e with
    | exch k au s' r' =>
      simp only [List.cons_append, regMon, regState] at h ⊢
      split
      · rename_i hk; simp only [hk, if_true] at h; exact ih p h
      · rename_i hk
        simp only [hk, if_false, Bool.and_eq_true] at h
        exact ih _ h.2
    | _ => exact ih p h

theorem regMon_skip_dir (p : Bool) (s : KeyId) (r : ExRes) (es : List Ev) (a : Auth) :
    regMon p (.exch .directory a s r :: es) = regMon p es := by
  simp [regMon]

/-- The synchronisation creates an account only when no URL is stored or the binding changed;
otherwise only right after `accountDoesNotExist`. -/
theorem regMon_synchronize (v : Variant) (w : World) :
    ∃ es, (synchronize v w).2.trace = w.trace ++ es ∧
      regMon (!w.acc.hasUrl || !w.acc.bindingInSync) es = true := by
  have L := ΦReg.tlaw.law
  have hk : ∀ c : Prop, ∀ [Decidable c], Sat (TR ΦReg) (if c then updateKey v else pure ()) :=
    fun _ _ => .ite (regMon_updateKey v) (.pure L _)
  have hc : ∀ c : Prop, ∀ [Decidable c], Sat (TR ΦReg) (if c then updateContacts else pure ()) :=
    fun _ _ => .ite regMon_updateContacts (.pure L _)
  have hreg : ∀ w, Adds (fun es _ => regMon true es = true) register w :=
    fun w => (register_shape w).imp fun _ h => ⟨h.1, h.2.regMon⟩
  cases hu : w.acc.hasUrl
  · rw [sync_eq_noUrl v w hu]
    exact hreg w
  · cases hb : w.acc.bindingInSync
    · rw [sync_eq_binding v w hu hb]
      exact TR.bind_at (hreg w) (fun _ w1 _ => (hc _).run w1)
        (fun h1 h2 => regMon_append h2 true h1) fun _ h => h
    · cases hv : v.keyFirst
      · rw [sync_eq_contactsFirst v w hu hb hv]
        exact ((Sat.bind L (hc _) fun _ => hk _).run w).imp fun _ h => ⟨h.1, h.2 false⟩
      · rw [sync_eq_keyFirst v w hu hb hv]
        exact ((Sat.bind L (hk _) fun _ => hc _).run w).imp fun _ h => ⟨h.1, h.2 false⟩

/-! ### Monitor: account state is saved before the next request (C11 `state_saved_before_use`) -/

def isAcctKind : ReqKind → Bool
  | .newAccount | .accountUpdate | .keyChange => true
  | _ => false

/-- `pend` = an account request (creation, contact update, roll-over) was answered 2xx and the
account has not been saved since.  (The POST-as-GETs of the roll-over block are not account
requests in this sense: the one signed by the recorded key changes nothing; that the one signed by
the current key is followed by a save is part of `KeyShape`.)  No request may be sent while `pend`. -/
def savedMon : Bool → List Ev → Bool
  | _, [] => true
  | pend, .exch k _ _ r :: es => !pend && savedMon (isAcctKind k && isOkRes r) es
  | _, .saveAccount :: es => savedMon false es
  | pend, _ :: es => savedMon pend es

/-- State of `savedMon` after a list of events. -/
def savedState : Bool → List Ev → Bool
  | pend, [] => pend
  | _, .exch k _ _ r :: es => savedState (isAcctKind k && isOkRes r) es
  | _, .saveAccount :: es => savedState false es
  | pend, _ :: es => savedState pend es

theorem saved_append (a b : List Ev) : ∀ p,
    savedMon p (a ++ b) = (savedMon p a && savedMon (savedState p a) b) ∧
    savedState p (a ++ b) = savedState (savedState p a) b := by
  induction a with
  | nil => intro p; simp [savedMon, savedState]
  | cons e tl ih =>
    intro p
    cases e <;> simp [savedMon, savedState, ih, Bool.and_assoc]

theorem saved_noexch {es : List Ev} (h : ∀ e ∈ es, NoExch e) (p : Bool) :
    savedMon p es = true ∧ savedState false es = false ∧
      (.saveAccount ∈ es → savedState p es = false) := by
  induction es generalizing p with
  | nil => exact ⟨rfl, rfl, fun hm => nomatch hm⟩
  | cons e tl ih =>
    have ih' := ih fun x hx => h x (List.mem_cons_of_mem _ hx)
    cases e with
    | exch => exact (h _ List.mem_cons_self).elim
    | saveAccount => exact ⟨(ih' false).1, (ih' false).2.1, fun _ => (ih' false).2.1⟩
    | _ =>
      exact ⟨(ih' p).1, (ih' p).2.1, fun hm =>
        (ih' p).2.2 ((List.mem_cons.mp hm).resolve_left fun h => nomatch h)⟩

def ΦSaved : List Ev → Result → Prop := fun es t =>
  savedMon false es = true ∧ (t = .ok → savedState false es = false)

theorem ΦSaved.tlaw : TLaw ΦSaved where
  nil := fun _ => ⟨rfl, fun _ => rfl⟩
  app := by
    rintro a b t ⟨a1, a2⟩ ⟨b1, b2⟩
    have ha := a2 rfl
    exact ⟨by rw [(saved_append ..).1, a1, ha, b1]; rfl,
      fun ht => by rw [(saved_append ..).2, ha, b2 ht]⟩

theorem SaveShape.saved (h : SaveShape es t) (p : Bool) :
    savedMon p es = true ∧ (t = .ok → savedState p es = false) :=
  ⟨(saved_noexch h.1 p).1, fun ht => (saved_noexch h.1 p).2.2 (h.2 ht)⟩

theorem RegShape.saved (h : RegShape s es t) :
    ΦSaved es t := by
  rcases h with ⟨rfl, rfl⟩ | ⟨r, rest, rfl, hs, _⟩
  · exact ⟨rfl, by simp⟩
  · obtain ⟨h1, h2⟩ := hs.saved (isAcctKind .newAccount && isOkRes r)
    exact ⟨by simp [savedMon, h1], fun ht => by simp [savedState, h2 ht]⟩

theorem UpdShape.saved (h : UpdShape k s c es t) : ΦSaved es t := by
  rcases h with ⟨rfl, ht⟩ | ⟨r, rest, rfl, ⟨ha, hr⟩ | ⟨_, hs, _⟩ | ⟨_, hrf, q, rest', rfl, hs, _⟩⟩
  · exact ⟨rfl, fun h => by rcases ht with rfl | rfl <;> simp at h⟩
  · have hno : isOkRes r = false := by
      cases r with
      | ok b => simp [isADNE] at ha
      | _ => rfl
    obtain ⟨h1, h2⟩ := hr.saved
    exact ⟨by simp [savedMon, hno, h1], fun ht => by simp [savedState, hno, h2 ht]⟩
  · obtain ⟨h1, h2⟩ := hs.saved (isAcctKind k && isOkRes r)
    exact ⟨by simp [savedMon, h1], fun ht => by simp [savedState, h2 ht]⟩
  · obtain ⟨h1, h2⟩ := hs.saved (isAcctKind .accountProbe && isOkRes q)
    have hf : isOkRes r = false := isRefusal_notOk hrf
    exact ⟨by simp only [savedMon, hf, Bool.and_false, Bool.not_false, Bool.true_and, h1],
      fun ht => by simp only [savedState, h2 ht]⟩

theorem KeyShape.saved (h : KeyShape s c es t) :
    ΦSaved es t := by
  rcases h with h | ⟨q, rest, rfl, ⟨_, ⟨rfl, ht⟩ | ⟨q', rest', rfl, hs, _⟩⟩ | ⟨_, hu, _⟩ | ⟨rfl, ht⟩⟩
  · exact h.saved
  · exact ⟨by simp [savedMon], fun h => by rw [ht] at h; cases h⟩
  · obtain ⟨h1, h2⟩ := hs.saved false
    exact ⟨by simp [savedMon, isAcctKind, h1], fun ht => by simp [savedState, isAcctKind, h2 ht]⟩
  · obtain ⟨h1, h2⟩ := hu.saved
    exact ⟨by simpa [savedMon, isAcctKind] using h1, fun ht => by simpa [savedState, isAcctKind] using h2 ht⟩
  · exact ⟨by simp [savedMon], fun h => by rw [ht] at h; cases h⟩

theorem saved_register : Sat (TR ΦSaved) register :=
  ⟨fun w => (register_shape w).imp fun _ h => ⟨h.1, h.2.saved⟩⟩
theorem saved_updateContacts : Sat (TR ΦSaved) updateContacts :=
  ⟨fun w => (updateContacts_shape w).imp fun _ h => ⟨h.1, h.2.saved⟩⟩
theorem saved_updateKey (v : Variant) : Sat (TR ΦSaved) (updateKey v) :=
  ⟨fun w => (updateKey_shape v w).imp fun _ h => ⟨h.1, h.2.1.saved⟩⟩

theorem saved_exchange (k : ReqKind) (s : KeyId) (hk : isAcctKind k = false) :
    Sat (TR ΦSaved) (exchange k s) :=
  TR.exchange ΦSaved.tlaw k s fun r => ⟨by simp [savedMon], fun _ => by simp [savedState, hk]⟩

theorem saved_of_rest (e : Ev) (h : ARest e) : ΦSaved [e] .ok := by
  cases e with
  | exch k a s r =>
    obtain ⟨_, ⟨x, rfl⟩ | ⟨x, rfl⟩ | ⟨x, rfl⟩ | rfl | rfl | rfl⟩ := h <;>
      exact ⟨rfl, fun _ => rfl⟩
  | saveAccount => exact h.elim
  | _ => exact ⟨rfl, fun _ => rfl⟩

theorem saved_attemptM (v : Variant) (cfg : Cfg) : Sat (TR ΦSaved) (attemptM v cfg) := by
  have L := ΦSaved.tlaw.law
  rw [attemptM_eq]
  exact .bind L (.refreshDirectory L (saved_exchange _ _ rfl)) fun _ =>
    .bind L (.synchronize L saved_register saved_updateContacts (saved_updateKey v)) fun _ =>
      afterSync_sat ΦSaved.tlaw v cfg
        (.newOrder L (fun _ => saved_exchange _ _ rfl) saved_register) saved_of_rest

/-- What `savedMon` accepting a trace means: between a successful account request and the next
request there is an account save. -/
theorem savedMon_sound {mid post : List Ev} {k k' : ReqKind} {a a' : Auth} {s s' : KeyId}
    {r r' : ExRes} (hk : isAcctKind k = true) (hr : isOkRes r = true) :
    ∀ (pre : List Ev) (p : Bool),
      savedMon p (pre ++ .exch k a s r :: (mid ++ .exch k' a' s' r' :: post)) = true →
      .saveAccount ∈ mid := by
  have key : ∀ mid : List Ev, savedMon true (mid ++ .exch k' a' s' r' :: post) = true →
      .saveAccount ∈ mid := by
    intro mid
    induction mid with
    | nil => intro h; simp [savedMon] at h
    | cons e tl ih =>
      intro h
      cases e with
      | exch => simp [savedMon] at h
      | saveAccount => exact List.mem_cons_self
      | _ => exact List.mem_cons_of_mem _ (ih h)
  intro pre p h
  rw [(saved_append ..).1] at h
  simp only [Bool.and_eq_true] at h
  have h2 := h.2
  simp only [savedMon, hk, hr, Bool.and_self, Bool.and_eq_true] at h2
  exact key mid h2.2

/-! ### Monitor: every `kid` request is signed by the key the CA holds (C11 `sync_order_current`) -/

/-- The `kid` requests whose 2xx answer means "the CA now holds `cur` for this account": the key
change itself, and a POST-as-GET of the account made by the roll-over block and signed by `cur`
(the CA verified that signature). -/
def setsCur (cur : KeyId) (k : ReqKind) (s : KeyId) (r : ExRes) : Bool :=
  (k == .keyChange || (k == .accountProbe && s == cur)) && isOkRes r

/-- Replays what the CA holds for the account (`ca`): a `jwk` request answered 2xx makes it hold
the signer's key; a key change answered 2xx makes it hold the new key `cur`; every `kid` request
must be signed by the key held at that moment. -/
def heldMon (cur : KeyId) : KeyId → List Ev → Bool
  | _, [] => true
  | ca, .exch k a s r :: es =>
    match a with
    | .none => heldMon cur ca es
    | .jwk => heldMon cur (if isOkRes r then s else ca) es
    | .kid => (s == ca) && heldMon cur (if setsCur cur k s r then cur else ca) es
  | ca, _ :: es => heldMon cur ca es

/-- As `heldMon`, except that a POST-as-GET of the account made by the roll-over block
(`accountProbe`) may also be signed by `cur` while the CA holds another key: after a refusal the
client cannot tell which of the two keys the CA holds, and asks. -/
def heldMonP (cur : KeyId) : KeyId → List Ev → Bool
  | _, [] => true
  | ca, .exch k a s r :: es =>
    match a with
    | .none => heldMonP cur ca es
    | .jwk => heldMonP cur (if isOkRes r then s else ca) es
    | .kid => (s == ca || (k == .accountProbe && s == cur)) &&
        heldMonP cur (if setsCur cur k s r then cur else ca) es
  | ca, _ :: es => heldMonP cur ca es

/-- The key the CA holds after a list of events (state of `heldMon` / `heldMonP`). -/
def heldEnd (cur : KeyId) : KeyId → List Ev → KeyId
  | ca, [] => ca
  | ca, .exch k a s r :: es =>
    match a with
    | .none => heldEnd cur ca es
    | .jwk => heldEnd cur (if isOkRes r then s else ca) es
    | .kid => heldEnd cur (if setsCur cur k s r then cur else ca) es
  | ca, _ :: es => heldEnd cur ca es

/-- The two monitors and the key held, over an appended trace. -/
theorem held_append (cur : KeyId) (a b : List Ev) : ∀ ca,
    heldMon cur ca (a ++ b) = (heldMon cur ca a && heldMon cur (heldEnd cur ca a) b) ∧
    heldMonP cur ca (a ++ b) = (heldMonP cur ca a && heldMonP cur (heldEnd cur ca a) b) ∧
    heldEnd cur ca (a ++ b) = heldEnd cur (heldEnd cur ca a) b := by
  induction a with
  | nil => intro ca; simp [heldMon, heldMonP, heldEnd]
  | cons e tl ih =>
    intro ca
    cases e with
    | exch k au s r => cases au <;> simp [heldMon, heldMonP, heldEnd, ih, Bool.and_assoc]
    | _ => simp [heldMon, heldMonP, heldEnd, ih]

theorem heldMon_of_heldMonP (cur : KeyId) : ∀ (es : List Ev) (ca : KeyId),
    (∀ a s r, Ev.exch .accountProbe a s r ∈ es → s ≠ cur) →
    heldMonP cur ca es = true → heldMon cur ca es = true := by
  intro es
  induction es with
  | nil => intro _ _ _; rfl
  | cons e tl ih =>
    intro ca hn h
    have hn' : ∀ a s r, Ev.exch .accountProbe a s r ∈ tl → s ≠ cur :=
      fun a s r hm => hn a s r (List.mem_cons_of_mem _ hm)
    cases e with
    | exch k au s r =>
      cases au with
      | none => exact ih _ hn' h
      | jwk => exact ih _ hn' h
      | kid =>
        simp only [heldMonP, Bool.and_eq_true, Bool.or_eq_true, beq_iff_eq] at h
        simp only [heldMon, Bool.and_eq_true, beq_iff_eq]
        refine ⟨?_, ih _ hn' h.2⟩
        rcases h.1 with h1 | h1
        · exact h1
        · exact absurd h1.2 (hn .kid s r (by rw [h1.1]; exact List.mem_cons_self))
    | _ => exact ih _ hn' h

theorem held_noexch (cur : KeyId) {es : List Ev} (h : ∀ e ∈ es, NoExch e) (ca : KeyId) :
    heldMonP cur ca es = true ∧ heldEnd cur ca es = ca := by
  induction es with
  | nil => exact ⟨rfl, rfl⟩
  | cons e tl ih =>
    have ih' := ih fun x hx => h x (List.mem_cons_of_mem _ hx)
    cases e with
    | exch => exact (h _ List.mem_cons_self).elim
    | _ => exact ih'

/-- What `heldMon` accepting a trace means for each `kid` request in it. -/
theorem heldMon_sound (cur : KeyId) {pre post : List Ev} {k : ReqKind} {s : KeyId} {r : ExRes}
    (ca : KeyId) (h : heldMon cur ca (pre ++ .exch k .kid s r :: post) = true) :
    s = heldEnd cur ca pre := by
  rw [(held_append ..).1] at h
  simp only [Bool.and_eq_true, heldMon, beq_iff_eq] at h
  exact h.2.1

/-- What `heldMonP` accepting a trace means for each `kid` request in it: signed by the key held,
or it is a POST-as-GET of the roll-over block signed by the new key. -/
theorem heldMonP_sound (cur : KeyId) {pre post : List Ev} {k : ReqKind} {s : KeyId} {r : ExRes}
    (ca : KeyId) (h : heldMonP cur ca (pre ++ .exch k .kid s r :: post) = true) :
    s = heldEnd cur ca pre ∨ (k = .accountProbe ∧ s = cur) := by
  rw [(held_append ..).2.1] at h
  simp only [Bool.and_eq_true, heldMonP, Bool.or_eq_true, beq_iff_eq] at h
  exact h.2.1

theorem RegShape.heldP (cur : KeyId) (h : RegShape s es t)
    (ca : KeyId) : heldMonP cur ca es = true ∧ (t = .ok → heldEnd cur ca es = s) := by
  rcases h with ⟨rfl, rfl⟩ | ⟨r, rest, rfl, hs, hr⟩
  · exact ⟨rfl, by simp⟩
  · have hn := held_noexch cur hs.1
    refine ⟨by simp [heldMonP, (hn _).1], fun ht => ?_⟩
    simp [heldEnd, hr ht, (hn _).2]

theorem ProbeShape.heldP (h : ProbeShape c es t)
    (ca : KeyId) : heldMonP c ca es = true ∧ (t = .ok → heldEnd c ca es = c) := by
  obtain ⟨q, rest, rfl, hs, hok⟩ := h
  have hn := held_noexch c hs.1
  refine ⟨by simp [heldMonP, (hn _).1], fun ht => ?_⟩
  simp [heldEnd, setsCur, hok ht, (hn _).2]

theorem UpdShape.heldP (h : UpdShape k s c es t) (hk : k = .keyChange ∨ s = c) :
    heldMonP c s es = true ∧ (t = .ok → heldEnd c s es = c) := by
  rcases h with ⟨rfl, ht⟩ | ⟨r, rest, rfl, ⟨ha, hr⟩ | ⟨_, hs, hok⟩ | ⟨_, hrf, hp⟩⟩
  · exact ⟨rfl, fun h => by rcases ht with rfl | rfl <;> simp at h⟩
  · have hno : isOkRes r = false := by
      cases r with
      | ok b => simp [isADNE] at ha
      | _ => rfl
    obtain ⟨h1, h2⟩ := hr.heldP c s
    exact ⟨by simp [heldMonP, setsCur, hno, h1],
      fun ht => by simp [heldEnd, setsCur, hno, h2 ht]⟩
  · have hn := held_noexch c hs.1
    refine ⟨by simp [heldMonP, (hn _).1], fun ht => ?_⟩
    simp only [heldEnd, (hn _).2, setsCur, hok ht, Bool.and_true]
    rcases hk with rfl | rfl
    · simp
    · simp
  · have hf : isOkRes r = false := isRefusal_notOk hrf
    obtain ⟨h1, h2⟩ := hp.heldP s
    exact ⟨by simp [heldMonP, setsCur, hf, h1], fun ht => by simp [heldEnd, setsCur, hf, h2 ht]⟩

theorem UpdShape.held {k : ReqKind} {s c : KeyId} {es : List Ev} {t : Result}
    (h : UpdShape k s c es t) (hk : k = .keyChange ∨ s = c)
    (hn : NoProbe es) :
    heldMon c s es = true ∧ (t = .ok → heldEnd c s es = c) :=
  ⟨heldMon_of_heldMonP _ _ _ (fun a s r hm => absurd hm (hn a s r)) (h.heldP hk).1,
    (h.heldP hk).2⟩

theorem KeyShape.heldP (h : KeyShape s c es t) :
    heldMonP c s es = true ∧ (t = .ok → heldEnd c s es = c) := by
  have hst : ∀ q : ExRes, (if setsCur c .accountProbe s q then c else s) = s := by
    intro q
    by_cases hq : setsCur c .accountProbe s q = true
    · simp only [hq, if_true]
      simp only [setsCur, Bool.and_eq_true, Bool.or_eq_true, beq_iff_eq] at hq
      rcases hq.1 with h | h
      · cases h
      · exact h.2.symm
    · simp [hq]
  rcases h with h | ⟨q, rest, rfl, ⟨_, ⟨rfl, ht⟩ | hp⟩ | ⟨_, hu, _⟩ | ⟨rfl, ht⟩⟩
  · exact h.heldP (.inl rfl)
  · exact ⟨by simp [heldMonP], fun h => by rw [ht] at h; cases h⟩
  · obtain ⟨h1, h2⟩ := hp.heldP s
    exact ⟨by simp [heldMonP, hst, h1], fun ht => by simp [heldEnd, hst, h2 ht]⟩
  · obtain ⟨h1, h2⟩ := hu.heldP (.inl rfl)
    exact ⟨by simp [heldMonP, hst, h1], fun ht => by simp [heldEnd, hst, h2 ht]⟩
  · exact ⟨by simp [heldMonP], fun h => by rw [ht] at h; cases h⟩

theorem sync_keyFirst_keyChanged (v : Variant) (hv : v.keyFirst = true) (w : World)
    (hu : w.acc.hasUrl = true) (hb : w.acc.bindingInSync = true) (hk : w.acc.keyInSync = false) :
    ∃ es1 es2 t1, (synchronize v w).2.trace = w.trace ++ (es1 ++ es2) ∧
      KeyShape w.acc.recKey w.acc.curKey es1 t1 ∧
      (v.rolloverCheck ≠ .first → UpdShape .keyChange w.acc.recKey w.acc.curKey es1 t1) ∧
      (mayAskCur v w = false → ProbesBy w.acc.recKey es1) ∧
      ((t1 = .ok ∧ ((w.acc.contactsInSync = false ∧
            UpdShape .accountUpdate w.acc.curKey w.acc.curKey es2 (synchronize v w).1.tag) ∨
          (w.acc.contactsInSync = true ∧ es2 = [] ∧ (synchronize v w).1.tag = .ok))) ∨
       (t1 ≠ .ok ∧ es2 = [] ∧ (synchronize v w).1.tag = t1)) := by
  rw [sync_eq_keyFirst v w hu hb hv, hk, Bool.not_false, if_pos rfl]
  obtain ⟨es1, he1, hs1, hus, hnp⟩ := updateKey_shape v w
  rcases bind_cases (updateKey v) (fun _ =>
      if (!w.acc.contactsInSync) = true then updateContacts else pure ()) w with
    ⟨u, w1, e1, e2⟩ | ⟨hne, e2, e3⟩
  · rw [e2]
    rw [e1] at he1 hs1 hus
    have hcur : w1.acc.curKey = w.acc.curKey := by
      have := ((Frame.updateKey v).run w).2.2.1
      rw [e1] at this; exact this
    cases hc : w.acc.contactsInSync
    · simp only [Bool.not_false, if_true]
      obtain ⟨es2, he2, hs2⟩ := updateContacts_shape w1
      rw [hcur] at hs2
      exact ⟨es1, es2, .ok, by rw [he2, he1]; simp, hs1, hus, hnp, .inl ⟨rfl, .inl ⟨trivial, hs2⟩⟩⟩
    · simp only [Bool.not_true, Bool.false_eq_true, if_false]
      exact ⟨es1, [], .ok, by simpa [pure_run] using he1, hs1, hus, hnp, .inl ⟨rfl, .inr ⟨trivial, rfl, rfl⟩⟩⟩
  · exact ⟨es1, [], _, by rw [e3, he1]; simp, hs1, hus, hnp, .inr ⟨hne, rfl, e2⟩⟩

/-! ### Account programs that returned: the record and the script afterwards (C11) -/

theorem saveAccount_val {w w' : World} {u : Unit} (h : saveAccount w = (.val u, w')) :
    w'.acc = w.acc ∧ w'.exs = w.exs ∧
      w'.trace = w.trace ++ [.hooks .filePre true, .saveAccount, .hooks .filePost true] := by
  have hs := saveAccount_spec w
  rw [h] at hs
  exact ⟨hs.val.2.2, hs.2.1, hs.val.2.1⟩

theorem register_val {w w' : World} {u : Unit} (h : register w = (.val u, w')) :
    ∃ ho ex rest, w.exs = .ok (.account ho true ex) :: rest ∧ w'.exs = rest ∧
      w'.acc = regAcc ex w.acc ∧
      w'.trace = w.trace ++ [.exch .newAccount .jwk w.acc.curKey (.ok (.account ho true ex)),
        .hooks .filePre true, .saveAccount, .hooks .filePost true] := by
  rw [register_run] at h
  rcases hx : w.exs with _ | ⟨r, rest⟩
  · rw [hx] at h; simp at h
  · rw [hx] at h
    simp only at h
    split at h
    · rename_i ho ex
      obtain ⟨h1, h2, h3⟩ := saveAccount_val h
      exact ⟨ho, ex, rest, rfl, by rw [h2]; rfl, by rw [h1]; rfl,
        h3.trans (w.afterExch_append _ _ _ rest _)⟩
    · simp at h

theorem updateContacts_val {w w' : World} {u : Unit} (h : updateContacts w = (.val u, w')) :
    (∃ b rest, w.exs = .ok b :: rest ∧ w'.exs = rest ∧ w'.acc = contactsAcc w.acc ∧
      w'.trace = w.trace ++ [.exch .accountUpdate .kid w.acc.curKey (.ok b),
        .hooks .filePre true, .saveAccount, .hooks .filePost true]) ∨
    (∃ rest, w.exs = .acmeErr .accountDoesNotExist :: rest ∧
      register (w.afterExch .accountUpdate w.acc.curKey (.acmeErr .accountDoesNotExist) rest)
        = (.val u, w')) := by
  rw [updateContacts_run] at h
  rcases hx : w.exs with _ | ⟨r, rest⟩
  · rw [hx] at h; simp at h
  · rw [hx] at h
    simp only at h
    split at h
    · rename_i b
      obtain ⟨h1, h2, h3⟩ := saveAccount_val h
      exact .inl ⟨b, rest, rfl, by rw [h2]; rfl, by rw [h1]; rfl,
        h3.trans (w.afterExch_append _ _ _ rest _)⟩
    · exact .inr ⟨rest, rfl, h⟩
    · simp at h
    · simp at h

theorem checkNewKey_val {w w' : World} {u : Unit} (h : checkNewKey w = (.val u, w')) :
    ∃ b rest, w.exs = .ok b :: rest ∧ w'.exs = rest ∧ w'.acc = keyAcc w.acc ∧
      w'.trace = w.trace ++ [.exch .accountProbe .kid w.acc.curKey (.ok b),
        .hooks .filePre true, .saveAccount, .hooks .filePost true] := by
  rw [checkNewKey_run] at h
  rcases hx : w.exs with _ | ⟨r, rest⟩
  · rw [hx] at h; simp at h
  · rw [hx] at h
    simp only at h
    split at h
    · rename_i b
      obtain ⟨h1, h2, h3⟩ := saveAccount_val h
      exact ⟨b, rest, rfl, by rw [h2]; rfl, by rw [h1]; rfl,
        h3.trans (w.afterExch_append _ _ _ rest _)⟩
    · simp at h

theorem keyChangeStep_val {ca : Bool} {w w' : World} {u : Unit}
    (h : keyChangeStep ca w = (.val u, w')) :
    (∃ b rest, w.exs = .ok b :: rest ∧ w'.exs = rest ∧ w'.acc = keyAcc w.acc ∧
      w'.trace = w.trace ++ [.exch .keyChange .kid w.acc.recKey (.ok b),
        .hooks .filePre true, .saveAccount, .hooks .filePost true]) ∨
    (∃ rest, w.exs = .acmeErr .accountDoesNotExist :: rest ∧
      register (w.afterExch .keyChange w.acc.recKey (.acmeErr .accountDoesNotExist) rest)
        = (.val u, w')) ∨
    (ca = true ∧ ∃ r b rest, isRefusal r = true ∧ w.exs = r :: .ok b :: rest ∧
      w'.exs = rest ∧ w'.acc = keyAcc w.acc ∧
      w'.trace = w.trace ++ [.exch .keyChange .kid w.acc.recKey r,
        .exch .accountProbe .kid w.acc.curKey (.ok b),
        .hooks .filePre true, .saveAccount, .hooks .filePost true]) := by
  rw [keyChangeStep_run] at h
  rcases hx : w.exs with _ | ⟨r, rest⟩
  · rw [hx] at h; simp at h
  · rw [hx] at h
    simp only at h
    split at h
    · rename_i b
      obtain ⟨h1, h2, h3⟩ := saveAccount_val h
      exact .inl ⟨b, rest, rfl, by rw [h2]; rfl, by rw [h1]; rfl,
        h3.trans (w.afterExch_append _ _ _ rest _)⟩
    · exact .inr (.inl ⟨rest, rfl, h⟩)
    · rename_i ty hty
      split at h
      · rename_i hv
        obtain ⟨b, rest2, h1, h2, h3, h4⟩ := checkNewKey_val h
        refine .inr (.inr ⟨hv, .acmeErr ty, b, rest2, ?_, ?_, h2, ?_, ?_⟩)
        · cases ty with
          | accountDoesNotExist => exact absurd rfl hty
          | _ => rfl
        · simp only [World.afterExch] at h1; rw [h1]
        · rw [h3]; rfl
        · rw [h4]; simp [World.afterExch, authOf]
      · simp at h
    · simp at h
    · simp at h

theorem keyChangeChecked_val {w w' : World} {u : Unit} (h : keyChangeChecked w = (.val u, w')) :
    ∃ p rest, w.exs = p :: rest ∧
      ((p = .acmeErr .sigRefused ∧
        checkNewKey (w.afterExch .accountProbe w.acc.recKey p rest) = (.val u, w')) ∨
       ((isOkRes p = true ∨ isADNE p = true) ∧
        keyChangeStep false (w.afterExch .accountProbe w.acc.recKey p rest) = (.val u, w'))) := by
  rw [keyChangeChecked_run] at h
  rcases hx : w.exs with _ | ⟨p, rest⟩
  · rw [hx] at h; simp at h
  · rw [hx] at h
    simp only at h
    refine ⟨p, rest, rfl, ?_⟩
    split at h
    · exact .inr ⟨.inl rfl, h⟩
    · exact .inr ⟨.inr rfl, h⟩
    · exact .inl ⟨rfl, h⟩
    · simp at h

theorem updateKey_val {v : Variant} {w w' : World} {u : Unit} (h : updateKey v w = (.val u, w')) :
    (v.rolloverCheck = .first ∧ keyChangeChecked w = (.val u, w')) ∨
    (v.rolloverCheck ≠ .first ∧
      keyChangeStep (v.rolloverCheck == .afterRefusal) w = (.val u, w')) := by
  rw [updateKey_run] at h
  split at h
  · cases hv : v.rolloverCheck with
    | first => rw [hv] at h; exact .inl ⟨rfl, h⟩
    | afterRefusal => rw [hv] at h; exact .inr ⟨by simp, h⟩
    | none => rw [hv] at h; exact .inr ⟨by simp, h⟩
  · simp at h

/-- `w'` is reached from `w` by consuming a prefix of the script. -/
def Consumed (w w' : World) : Prop := ∃ pre, w.exs = pre ++ w'.exs

theorem Consumed.refl (w : World) : Consumed w w := ⟨[], rfl⟩
theorem Consumed.trans {a b c : World} (h1 : Consumed a b) (h2 : Consumed b c) : Consumed a c := by
  obtain ⟨p1, e1⟩ := h1
  obtain ⟨p2, e2⟩ := h2
  exact ⟨p1 ++ p2, by rw [e1, e2, List.append_assoc]⟩
theorem Consumed.mem {a b : World} (h : Consumed a b) {r : ExRes} (hr : r ∈ b.exs) : r ∈ a.exs := by
  obtain ⟨p, e⟩ := h
  rw [e]; exact List.mem_append_right _ hr

theorem register_acc {w w' : World} {u : Unit} (h : register w = (.val u, w')) :
    Consumed w w' ∧ ∃ ho ex, .ok (.account ho true ex) ∈ w.exs ∧ w'.acc = regAcc ex w.acc := by
  obtain ⟨ho, ex, rest, h1, h2, h3, _⟩ := register_val h
  exact ⟨⟨[_], by rw [h1, h2]; rfl⟩, ho, ex, by rw [h1]; exact List.mem_cons_self, h3⟩

/-- An account step that returned: it consumed part of the script and applied `f` to the record —
or, after an `accountDoesNotExist` answer, re-registered instead. -/
def Updated (f : Acc → Acc) (w w' : World) : Prop :=
  Consumed w w' ∧ (.acmeErr .accountDoesNotExist ∉ w.exs → w'.acc = f w.acc) ∧
    (w'.acc = f w.acc ∨ ∃ ho ex, .ok (.account ho true ex) ∈ w.exs ∧ w'.acc = regAcc ex w.acc)

theorem Updated.of_eq {f : Acc → Acc} {w w' : World} (hc : Consumed w w')
    (h : w'.acc = f w.acc) : Updated f w w' :=
  ⟨hc, fun _ => h, .inl h⟩

/-- The step seen from before an answer `p` that changed nothing in the record. -/
theorem Updated.skip {f : Acc → Acc} {w w1 w' : World} {p : ExRes} (hx : w.exs = p :: w1.exs)
    (ha : w1.acc = w.acc) (h : Updated f w1 w') : Updated f w w' := by
  obtain ⟨⟨pre, hc⟩, h1, h2⟩ := h
  have hsub : ∀ r, r ∈ w1.exs → r ∈ w.exs := fun r hm => by rw [hx]; exact List.mem_cons_of_mem _ hm
  refine ⟨⟨p :: pre, by rw [hx, hc]; rfl⟩, fun hn => ha ▸ h1 fun hm => hn (hsub _ hm), ?_⟩
  rcases h2 with h2 | ⟨ho, ex, hm, h2⟩
  · exact .inl (ha ▸ h2)
  · exact .inr ⟨ho, ex, hsub _ hm, ha ▸ h2⟩

theorem Updated.of_register {f : Acc → Acc} {w w' : World} {u : Unit} {k : ReqKind} {s : KeyId}
    {rest : List ExRes} (hx : w.exs = .acmeErr .accountDoesNotExist :: rest)
    (h : register (w.afterExch k s (.acmeErr .accountDoesNotExist) rest) = (.val u, w')) :
    Updated f w w' := by
  obtain ⟨⟨pre, hc⟩, ho, ex, hm, ha⟩ := register_acc h
  exact ⟨⟨_ :: pre, by rw [hx]; exact congrArg _ hc⟩,
    fun hn => absurd (by rw [hx]; exact List.mem_cons_self) hn,
    .inr ⟨ho, ex, by rw [hx]; exact List.mem_cons_of_mem _ hm, ha⟩⟩

theorem updateContacts_acc {w w' : World} {u : Unit} (h : updateContacts w = (.val u, w')) :
    Updated contactsAcc w w' := by
  rcases updateContacts_val h with ⟨b, rest, h1, h2, h3, _⟩ | ⟨rest, h1, h2⟩
  · exact .of_eq ⟨[_], by rw [h1, h2]; rfl⟩ h3
  · exact .of_register h1 h2

theorem checkNewKey_acc {w w' : World} {u : Unit} (h : checkNewKey w = (.val u, w')) :
    Consumed w w' ∧ w'.acc = keyAcc w.acc := by
  obtain ⟨b, rest, h1, h2, h3, _⟩ := checkNewKey_val h
  exact ⟨⟨[_], by rw [h1, h2]; rfl⟩, h3⟩

theorem keyChangeStep_acc {ca : Bool} {w w' : World} {u : Unit}
    (h : keyChangeStep ca w = (.val u, w')) : Updated keyAcc w w' := by
  rcases keyChangeStep_val h with ⟨b, rest, h1, h2, h3, _⟩ | ⟨rest, h1, h2⟩ |
    ⟨_, r, b, rest, _, h1, h2, h3, _⟩
  · exact .of_eq ⟨[_], by rw [h1, h2]; rfl⟩ h3
  · exact .of_register h1 h2
  · exact .of_eq ⟨[_, _], by rw [h1, h2]; rfl⟩ h3

theorem updateKey_acc {v : Variant} {w w' : World} {u : Unit} (h : updateKey v w = (.val u, w')) :
    Updated keyAcc w w' := by
  rcases updateKey_val h with ⟨_, h⟩ | ⟨_, h⟩
  · obtain ⟨p, rest, hx, ⟨_, h1⟩ | ⟨_, h1⟩⟩ := keyChangeChecked_val h
    · obtain ⟨hc, ha⟩ := checkNewKey_acc h1
      exact .skip (w1 := w.afterExch .accountProbe w.acc.recKey p rest) hx rfl (.of_eq hc ha)
    · exact .skip (w1 := w.afterExch .accountProbe w.acc.recKey p rest) hx rfl
        (keyChangeStep_acc h1)
  · exact keyChangeStep_acc h

/-- Possible effects of one account step on the record. -/
def StepEff (w w' : World) : Prop :=
  Consumed w w' ∧ (w'.acc = w.acc ∨ w'.acc = keyAcc w.acc ∨ w'.acc = contactsAcc w.acc ∨
    ∃ ho ex, .ok (.account ho true ex) ∈ w.exs ∧ w'.acc = regAcc ex w.acc)

theorem opt_val_inv {c : Prop} [Decidable c] {m : M Unit} {w w' : World} {u : Unit}
    (h : (if c then m else pure ()) w = (.val u, w')) :
    (c ∧ m w = (.val u, w')) ∨ (¬c ∧ w' = w) := by
  by_cases hc : c
  · rw [if_pos hc] at h; exact .inl ⟨hc, h⟩
  · rw [if_neg hc] at h; exact .inr ⟨hc, (congrArg Prod.snd h).symm⟩

theorem optKey_eff {v : Variant} {c : Prop} [Decidable c] {w w' : World} {u : Unit}
    (h : (if c then updateKey v else pure ()) w = (.val u, w')) :
    (¬c ∧ w' = w) ∨ (c ∧ Updated keyAcc w w') := by
  rcases opt_val_inv h with ⟨hc, h⟩ | h
  · exact .inr ⟨hc, updateKey_acc h⟩
  · exact .inl h

theorem optContacts_eff {c : Prop} [Decidable c] {w w' : World} {u : Unit}
    (h : (if c then updateContacts else pure ()) w = (.val u, w')) :
    (¬c ∧ w' = w) ∨ (c ∧ Updated contactsAcc w w') := by
  rcases opt_val_inv h with ⟨hc, h⟩ | h
  · exact .inr ⟨hc, updateContacts_acc h⟩
  · exact .inl h

/-! ### Monitor: "ready" only right after that challenge's successful hooks (C05) -/

def readyMon : Option Nat → List Ev → Bool
  | _, [] => true
  | st, .exch (.challengeReady c) _ _ _ :: es => (st == some c) && readyMon none es
  | _, .hooks (.challenge c) true :: es => readyMon (some c) es
  | _, _ :: es => readyMon none es

def hookFailed (es : List Ev) : Prop := ∃ c, .hooks (.challenge c) false ∈ es

def ΦReady : List Ev → Result → Prop := fun es t =>
  (∀ st, readyMon st es = true) ∧ (hookFailed es → t = .failed .challengeHooks)

theorem readyMon_append {a b : List Ev} (hb : ∀ st, readyMon st b = true) :
    ∀ st, readyMon st a = true → readyMon st (a ++ b) = true := by
  induction a with
  | nil => intro st _; exact hb st
  | cons e tl ih =>
    intro st h
    cases e with
    | exch k au s r =>
      cases k with
      | challengeReady c =>
        simp only [List.cons_append, readyMon, Bool.and_eq_true] at h ⊢
        exact ⟨h.1, ih _ h.2⟩
      | _ => exact ih _ h
    | hooks ty ok =>
      cases ty with
      | challenge c => cases ok <;> exact ih _ h
      | _ => exact ih _ h
    | _ => exact ih _ h

theorem ΦReady.tlaw : TLaw ΦReady where
  nil := fun _ => ⟨fun _ => rfl, fun ⟨_, h⟩ => by cases h⟩
  app := by
    rintro a b t ⟨a1, a2⟩ ⟨b1, b2⟩
    refine ⟨fun st => readyMon_append b1 st (a1 st), ?_⟩
    rintro ⟨c, hc⟩
    rcases List.mem_append.mp hc with h | h
    · have := a2 ⟨c, h⟩; cases this
    · exact b2 ⟨c, h⟩

theorem ready_single (e : Ev) (h1 : ∀ c a s r, e ≠ .exch (.challengeReady c) a s r)
    (h2 : ∀ c b, e ≠ .hooks (.challenge c) b) : ΦReady [e] .ok := by
  constructor
  · intro st
    cases e with
    | exch k au s r =>
      cases k with
      | challengeReady c => exact absurd rfl (h1 c au s r)
      | _ => rfl
    | hooks ty ok =>
      cases ty with
      | challenge c => exact absurd rfl (h2 c ok)
      | _ => rfl
    | _ => rfl
  · rintro ⟨c, hc⟩
    rw [List.mem_singleton] at hc
    exact absurd hc.symm (h2 c false)

def World.afterHook (w : World) (ty : HookKind) (b : Bool) (rest : List Bool) : World :=
  { w with hks := rest, trace := w.trace ++ [Ev.hooks ty b] }

/-- Continuation of `solveChallenges` after the "ready" POST of challenge `c`. -/
def solveCont (ty : ChalType) (c : Nat) (rest : List (ChalType × Nat)) (r : ExRes) : M (List Nat) :=
  match r with
  | .ok _ => solveChallenges ty rest >>= fun cs => pure (c :: cs)
  | _ => failAt .challengeReady

theorem solve_cons_run (ty t : ChalType) (c : Nat) (rest : List (ChalType × Nat)) (w : World) :
    solveChallenges ty ((t, c) :: rest) w =
      if (t == ty) = true then
        match w.hks with
        | [] => (.stuck, w)
        | false :: h => (.fail .challengeHooks, w.afterHook (.challenge c) false h)
        | true :: h =>
          match w.exs with
          | [] => (.stuck, w.afterHook (.challenge c) true h)
          | r :: x => solveCont ty c rest r
              ((w.afterHook (.challenge c) true h).afterExch (.challengeReady c) w.acc.curKey r x)
      else solveChallenges ty rest w := by
  rw [solveChallenges]
  split
  · simp only [bind_run, hookGroup]
    rcases w.hks with _ | ⟨ok, h⟩
    · rfl
    · cases ok
      · rfl
      · simp only [if_true, World.afterHook]
        rcases w.exs with _ | ⟨r, x⟩
        · rfl
        · cases r <;> rfl
  · rfl

/-- The block: hooks of a challenge, then its "ready" POST; a failed hook group ends the attempt
with no POST. -/
theorem ready_solveChallenges (ty : ChalType) (l : List (ChalType × Nat)) :
    Sat (TR ΦReady) (solveChallenges ty l) := by
  induction l with
  | nil => unfold solveChallenges; exact Sat.pure ΦReady.tlaw.law _
  | cons x rest ih =>
    obtain ⟨t, c⟩ := x
    constructor
    intro w
    rw [solve_cons_run]
    split
    · rcases hh : w.hks with _ | ⟨ok, h⟩
      · exact ⟨[], by simp, ΦReady.tlaw.nil _⟩
      · cases ok
        · exact ⟨[.hooks (.challenge c) false], rfl, ⟨fun st => rfl, fun _ => rfl⟩⟩
        · simp only
          rcases hx : w.exs with _ | ⟨r, x⟩
          · refine ⟨[.hooks (.challenge c) true], rfl, ⟨fun st => rfl, ?_⟩⟩
            rintro ⟨c', hc'⟩
            simp at hc'
          · simp only
            have hcont : Sat (TR ΦReady) (solveCont ty c rest r) := by
              unfold solveCont
              split
              · exact .bind ΦReady.tlaw.law ih fun _ => .pure ΦReady.tlaw.law _
              · exact .failAt ΦReady.tlaw.law _
            obtain ⟨es, he, hs⟩ := hcont.run
              ((w.afterHook (.challenge c) true h).afterExch (.challengeReady c) w.acc.curKey r x)
            refine ⟨[.hooks (.challenge c) true, .exch (.challengeReady c) .kid w.acc.curKey r] ++ es,
              ?_, ?_⟩
            · rw [he]; simp [World.afterHook, World.afterExch, authOf]
            · have hblock : ΦReady [.hooks (.challenge c) true,
                  .exch (.challengeReady c) .kid w.acc.curKey r] .ok := by
                refine ⟨fun st => by simp [readyMon], ?_⟩
                rintro ⟨c', hc'⟩
                simp at hc'
              exact ΦReady.tlaw.app hblock hs
    · exact ih.run w

theorem ready_attemptM (v : Variant) (cfg : Cfg) : Sat (TR ΦReady) (attemptM v cfg) :=
  attempt_sat2 ΦReady.tlaw v cfg
    (fun e h => ready_single e
      (by
        rintro c a s r rfl
        rcases h.2 with h | h | h | h | h | h <;> cases h)
      (by
        rintro c b rfl
        rcases h with h | h <;> cases h))
    ready_solveChallenges
    (fun e h => ready_single e
      (by
        rintro c a s r rfl
        rcases h.2 with ⟨_, h⟩ | ⟨_, h⟩ | h | h | h <;> cases h)
      (by
        rintro c b rfl
        rcases h with ⟨_, h⟩ | h | h <;> cases h))

/-- What `readyMon` accepting a trace means: a "ready" POST for challenge `c` is immediately
preceded by the successful hook group of challenge `c`. -/
theorem readyMon_sound {post : List Ev} {c : Nat} {a : Auth} {s : KeyId} {r : ExRes} :
    ∀ (pre : List Ev) (st : Option Nat),
      readyMon st (pre ++ .exch (.challengeReady c) a s r :: post) = true →
      (pre = [] ∧ st = some c) ∨ ∃ pre', pre = pre' ++ [.hooks (.challenge c) true] := by
  intro pre
  induction pre with
  | nil =>
    intro st h
    simp only [List.nil_append, readyMon, Bool.and_eq_true, beq_iff_eq] at h
    exact .inl ⟨rfl, h.1⟩
  | cons e tl ih =>
    intro st h
    right
    have step : ∀ st', readyMon st' (tl ++ .exch (.challengeReady c) a s r :: post) = true →
        (st' = some c → e = .hooks (.challenge c) true) →
        ∃ pre', e :: tl = pre' ++ [.hooks (.challenge c) true] := by
      intro st' h' hst
      rcases ih st' h' with ⟨rfl, hs⟩ | ⟨pre', rfl⟩
      · exact ⟨[], by rw [hst hs]; rfl⟩
      · exact ⟨e :: pre', rfl⟩
    cases e with
    | exch k au s' r' =>
      cases k with
      | challengeReady c' =>
        simp only [List.cons_append, readyMon, Bool.and_eq_true] at h
        exact step none h.2 (fun hh => by cases hh)
      | _ => exact step none h (fun hh => by cases hh)
    | hooks ty ok =>
      cases ty with
      | challenge c' =>
        cases ok
        · exact step none h (fun hh => by cases hh)
        · exact step (some c') h (fun hh => by cases hh; rfl)
      | _ => exact step none h (fun hh => by cases hh)
    | _ => exact step none h (fun hh => by cases hh)

/-! ### The authorisation step, exactly (C05) -/

theorem processAuthz_valid (cfg : Cfg) (a : Nat) (w : World) (b : AuthzBody) (rest : List ExRes)
    (hx : w.exs = .ok (.authz b) :: rest) (hv : b.status = .valid) :
    processAuthz cfg a w = (.val (), w.afterExch (.authz a) w.acc.curKey (.ok (.authz b)) rest) := by
  unfold processAuthz
  simp only [bind_run, getW, exchange, hx, hv]
  rfl

theorem processAuthz_pending (cfg : Cfg) (a : Nat) (w : World) (b : AuthzBody) (rest : List ExRes)
    (d : Ident) (hx : w.exs = .ok (.authz b) :: rest) (hp : b.status = .pending)
    (hl : lookup cfg.ids b.ident b.wildcard = some d) :
    processAuthz cfg a w =
      (solveChallenges d.chal b.challenges >>= fun cs =>
        pollAuthz a Gen.DEFAULT_POOL_NB_TRIES >>= fun _ => cleanHooks cs)
        (w.afterExch (.authz a) w.acc.curKey (.ok (.authz b)) rest) := by
  unfold processAuthz
  simp only [bind_run, getW, exchange, hx, hp, hl]
  rfl

/-- Ids of the "ready" POSTs answered 2xx in a trace. -/
def readyIds : List Ev → List Nat
  | [] => []
  | .exch (.challengeReady c) _ _ (.ok _) :: es => c :: readyIds es
  | _ :: es => readyIds es

theorem readyIds_append (a b : List Ev) : readyIds (a ++ b) = readyIds a ++ readyIds b := by
  induction a with
  | nil => rfl
  | cons e tl ih =>
    cases e with
    | exch k au s r =>
      cases k with
      | challengeReady c => cases r <;> simp [readyIds, ih]
      | _ => simp [readyIds, ih]
    | _ => simp [readyIds, ih]

/-- `solveChallenges` that returned: the collected list is exactly the offered challenges of the
configured type, in order, each with its hooks run and its "ready" POST answered 2xx. -/
theorem solve_val (ty : ChalType) : ∀ (l : List (ChalType × Nat)) (w w' : World) (cs : List Nat),
    solveChallenges ty l w = (.val cs, w') →
      cs = (l.filter fun x => x.1 == ty).map (·.2) ∧
      ∃ es, w'.trace = w.trace ++ es ∧ readyIds es = cs := by
  intro l
  induction l with
  | nil =>
    intro w w' cs h
    rw [solveChallenges] at h
    simp only [pure_run, Prod.mk.injEq, Out.val.injEq] at h
    exact ⟨by rw [← h.1]; rfl, [], by rw [← h.2]; simp, by rw [← h.1]; rfl⟩
  | cons x rest ih =>
    obtain ⟨t, c⟩ := x
    intro w w' cs h
    rw [solve_cons_run] at h
    by_cases ht : (t == ty) = true
    · simp only [ht, if_true] at h
      rcases hh : w.hks with _ | ⟨ok, hk⟩
      · rw [hh] at h; simp at h
      · rw [hh] at h
        cases ok
        · simp at h
        · simp only at h
          rcases hx : w.exs with _ | ⟨r, x⟩
          · rw [hx] at h; simp at h
          · rw [hx] at h
            simp only [solveCont] at h
            cases r with
            | ok body =>
              simp only at h
              obtain ⟨cs', w2, h1, h2⟩ := bind_val_inv h
              simp only [pure_run, Prod.mk.injEq, Out.val.injEq] at h2
              obtain ⟨hcs, es, he, hr⟩ := ih _ _ _ h1
              refine ⟨by rw [← h2.1, hcs]; simp [List.filter, ht], ?_⟩
              refine ⟨[.hooks (.challenge c) true,
                .exch (.challengeReady c) .kid w.acc.curKey (.ok body)] ++ es, ?_, ?_⟩
              · rw [← h2.2, he]; simp [World.afterHook, World.afterExch, authOf]
              · rw [readyIds_append, hr, ← h2.1]; rfl
            | acmeErr ty' => simp [failAt] at h
            | otherErr => simp [failAt] at h
            | lost => simp [failAt] at h
    · simp only [ht] at h
      obtain ⟨hcs, es, he, hr⟩ := ih _ _ _ h
      exact ⟨by rw [hcs]; simp [List.filter, ht], es, he, hr⟩

/-- `cleanHooks` that returned ran exactly one successful clean hook group per collected challenge,
in order. -/
theorem cleanHooks_val : ∀ (cs : List Nat) (w w' : World) (u : Unit),
    cleanHooks cs w = (.val u, w') →
      w'.trace = w.trace ++ cs.map fun c => .hooks (.clean c) true := by
  intro cs
  induction cs with
  | nil =>
    intro w w' u h
    rw [cleanHooks] at h
    simp only [pure_run, Prod.mk.injEq] at h
    rw [← h.2]; simp
  | cons c rest ih =>
    intro w w' u h
    rw [cleanHooks] at h
    simp only [bind_run, hookGroup] at h
    rcases hh : w.hks with _ | ⟨ok, hk⟩
    · rw [hh] at h; simp at h
    · rw [hh] at h
      cases ok
      · simp [failAt] at h
      · simp only [if_true] at h
        rw [ih _ _ _ h]
        simp

/-- Ids of the clean hook groups in a trace. -/
def cleanIds : List Ev → List Nat
  | [] => []
  | .hooks (.clean c) _ :: es => c :: cleanIds es
  | _ :: es => cleanIds es

/-- Whatever happens, `cleanHooks` emits only clean hook events, for a prefix of the collected
challenges in order. -/
theorem cleanHooks_prefix : ∀ (cs : List Nat) (w : World),
    ∃ es, (cleanHooks cs w).2.trace = w.trace ++ es ∧ cleanIds es <+: cs ∧
      ∀ e ∈ es, ∃ c b, e = .hooks (.clean c) b := by
  intro cs
  induction cs with
  | nil =>
    intro w
    exact ⟨[], by rw [cleanHooks]; simp [pure_run], List.prefix_refl _, by simp⟩
  | cons c rest ih =>
    intro w
    rw [cleanHooks]
    simp only [bind_run, hookGroup]
    rcases hh : w.hks with _ | ⟨ok, hk⟩
    · exact ⟨[], by simp, List.nil_prefix, by simp⟩
    · cases ok
      · refine ⟨[.hooks (.clean c) false], rfl, ?_, by simp⟩
        exact ⟨rest, rfl⟩
      · simp only [if_true]
        obtain ⟨es, he, hp, hall⟩ := ih { w with hks := hk, trace := w.trace ++ [Ev.hooks (HookKind.clean c) true] }
        refine ⟨.hooks (.clean c) true :: es, by rw [he]; simp, ?_, ?_⟩
        · simp only [cleanIds]
          obtain ⟨t, ht⟩ := hp
          exact ⟨t, by rw [← ht]; rfl⟩
        · intro e he'
          rcases List.mem_cons.mp he' with rfl | h
          · exact ⟨c, true, rfl⟩
          · exact hall e h

/-! ### Anatomy of a successful attempt, with its trace (C01 / C02 flow clauses) -/

/-- Events of the installation: file hooks and the two writes. -/
def AInst : Ev → Prop
  | .hooks _ _ => True
  | .writeKey _ => True
  | .writeCert _ => True
  | _ => False

/-- Anatomy of an attempt that returned (any variant): the preparation; the key pair `k`, generated
or read; the events of `fetchPre`, the CSR for `k` among them; the download answered with `body`;
the installation, which ends with the write of `body`'s content and its successful post hook.  At
the end the key file holds `k` and the certificate file that content. -/
theorem attempt_ok_trace {v : Variant} {cfg : Cfg} {w w' : World}
    (h : attemptM v cfg w = (.val (), w')) :
    ∃ k isNew body s es1 es3 pre,
      w'.trace = w.trace ++ (es1 ++ (if isNew then Ev.keygen k else Ev.readKey k) :: es3 ++
        .exch .certDownload .kid s (.ok body) :: pre ++
          [.writeCert body.certClass.content, .hooks .filePost true]) ∧
      (∀ e ∈ es1, APrep e) ∧ (∀ e ∈ es3, AFetch v k isNew e) ∧ .csr k ∈ es3 ∧
      (∀ e ∈ pre, AInst e) ∧ ((isNew && !v.keyWriteEarly) = true → .writeKey k ∈ pre) ∧
      w'.files.certFile = some body.certClass.content ∧ w'.files.keyFile = some k ∧
      (v.parseBody = true → body.certClass = .chainFor k) := by
  -- the run, step by step
  unfold attemptM obtainM at h
  obtain ⟨q, w5, h, h6⟩ := bind_val_inv h
  obtain ⟨_, w1, h1, h⟩ := bind_val_inv h
  obtain ⟨p, w2, h2, h⟩ := bind_val_inv h
  obtain ⟨_, w3, h3, h⟩ := bind_val_inv h
  obtain ⟨cb, w4, h4, h⟩ := bind_val_inv h
  obtain ⟨c, w6, h5, h⟩ := bind_val_inv h
  simp only [pure_run, Prod.mk.injEq, Out.val.injEq] at h
  obtain ⟨rfl, rfl⟩ := h
  cases (checkBody_val h5).1
  obtain ⟨es1, he1, ha1⟩ := (APrep.prepareM v cfg).run w
  rw [h1] at he1 ha1
  obtain ⟨k', isNew', hg, hold, _⟩ := getKeyPair_run cfg w1
  rw [hg] at h2
  simp only [Prod.mk.injEq, Out.val.injEq] at h2
  obtain ⟨rfl, rfl⟩ := h2
  obtain ⟨es3, he3, ha3, hcsr⟩ := fetchPre_events v k' isNew' _
  rw [h3] at he3 hcsr
  obtain ⟨body, rest, _, hcb, hw4⟩ := downloadCert_val h4
  obtain ⟨_, hp1, hp2⟩ := checkBody_val h5
  have hc : c = body.certClass.content := by
    cases hpb : v.parseBody
    · rw [hp2 hpb, hcb]
    · obtain ⟨e1, e2⟩ := hp1 hpb
      rw [e2, ← hcb, e1]; rfl
  subst hc
  obtain ⟨hcert, hkey, _, pre, htr, hwk⟩ := install_val h6
  obtain ⟨esI, heI, haI⟩ := (AllEv.install AInst (fun _ => ⟨trivial, trivial⟩) (fun _ => trivial)
    (fun _ => trivial) v k' isNew' body.certClass.content).run w4
  rw [h6] at heI haI
  have hesI : esI = pre ++ [.writeCert body.certClass.content, .hooks .filePost true] :=
    List.append_cancel_left (heI.symm.trans htr)
  refine ⟨k', isNew', body, w3.acc.curKey, es1, es3, pre, ?_, ha1, ha3, ?_, ?_, hwk, hcert, ?_,
    fun hpb => hcb ▸ (hp1 hpb).1⟩
  · show w'.trace = _
    rw [htr, hw4]
    simp only
    rw [he3]
    simp only
    rw [he1]
    simp
  · exact hcsr rfl
  · exact fun e he => haI e (hesI ▸ List.mem_append_left _ he)
  · rw [hkey, hw4]
    show (if (isNew' && !v.keyWriteEarly) = true then some k' else w3.files.keyFile) = some k'
    rw [fetchPre_keyFile h3]
    cases isNew'
    · exact (hold rfl).2.1
    · generalize v.keyWriteEarly = kw
      cases kw <;> rfl

end AcmedVerif.Flow
