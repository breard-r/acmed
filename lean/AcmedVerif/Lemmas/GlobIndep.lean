/- Lemmas about Model/Glob.lean: the walk of a relative include first goes to the including file's directory, one
escaped component after the other; what it returns from there depends on the file system only through what lies
inside that directory. -/
import AcmedVerif.Lemmas.GlobTree

namespace AcmedVerif.Glob
open AcmedVerif.Spec.C14Glob (withSep inDir)

/-- The two views answer alike for every path inside `q`. -/
structure AgreeIn (fs1 fs2 : FsView) (q : Str) : Prop where
  isDir : ∀ p, InDir q p → fs1.isDir p = fs2.isDir p
  pathExists : ∀ p, InDir q p → fs1.pathExists p = fs2.pathExists p
  readDir : ∀ p, InDir q p → fs1.readDir p = fs2.readDir p

section Agree
variable (fs1 fs2 : FsView) (hwf : fs1.WF) (q : Str) (hq : q ≠ []) (hag : AgreeIn fs1 fs2 q)
include hwf hq hag

theorem addNext_agree : ∀ (rest : List Pattern) (next : PathW), Lit rest → InDir q next.path →
    addNext rest (fillTodo fs1 rest) next = addNext rest (fillTodo fs2 rest) next := by
  intro rest
  induction rest with
  | nil => intro _ _ _; rfl
  | cons pat rest ih =>
    intro path hl hin
    have hj : ∀ s : Str, s.head? ≠ some '/' → InDir q (joinPath path.path s) := fun s hs => InDir.join hq hin hs
    have hadd : ∀ s : Str, s.head? ≠ some '/' →
        addNext rest (fillTodo fs1 rest) (fromPath fs1 (joinPath path.path s)) =
        addNext rest (fillTodo fs2 rest) (fromPath fs2 (joinPath path.path s)) := by
      intro s hs
      rw [show fromPath fs1 (joinPath path.path s) = fromPath fs2 (joinPath path.path s) from
        congrArg (PathW.mk _) (hag.isDir _ (hj s hs))]
      exact ih _ hl.tail (hj s hs)
    show fillTodo fs1 (pat :: rest) path = fillTodo fs2 (pat :: rest) path
    rw [fillTodo, fillTodo]
    cases hs : patternAsStr pat with
    | some s =>
      have hs' := hl pat (by simp) s hs
      simp only [hag.pathExists _ (hj s hs'), hadd s hs']
    | none =>
      simp only [hag.readDir _ hin]
      cases he : fs2.readDir path.path with
      | none => rfl
      | some entries =>
        have he1 : fs1.readDir path.path = some entries := (hag.readDir _ hin).trans he
        have hmap : (sortAsc entries).map (fun e => Item.ok (fromDirEntry fs1 (joinPath path.path e.1) e.2) (some (pat :: rest)))
            = (sortAsc entries).map (fun e => Item.ok (fromDirEntry fs2 (joinPath path.path e.1) e.2) (some (pat :: rest))) := by
          refine List.map_congr_left fun e hemem => ?_
          have hv := hwf.names _ _ he1 e ((mem_sortAsc e entries).1 hemem)
          have := hag.isDir _ (hj e.1 (head_ne_sep_of_noSep (validName_noSep hv)))
          cases e.2 <;> simp only [fromDirEntry, this]
        simp only [hmap, hadd ['.', '.'] (by simp), hadd ['.'] (by simp)]

theorem fillTodo_agree : ∀ (pats : List Pattern) (path : PathW), Lit pats → InDir q path.path →
    fillTodo fs1 pats path = fillTodo fs2 pats path
  | [], _, _, _ => rfl
  | pat :: rest, path, hl, hin => addNext_agree fs1 fs2 hwf q hq hag (pat :: rest) path hl hin

theorem matchNormally_agree (rd : Bool) (path : PathW) (pats : List Pattern) (hl : Lit pats) (hin : InDir q path.path) :
    matchNormally fs1 rd path pats = matchNormally fs2 rd path pats := by
  unfold matchNormally
  split
  · rfl
  · rename_i pat rest
    rw [fillTodo_agree fs1 fs2 hwf q hq hag rest path hl.tail hin]

theorem step_agree (rd : Bool) (it : Item) (hit : ItemIn q it) : step fs1 rd it = step fs2 rd it := by
  match it, hit with
  | .err, _ | .ok _ none, _ | .ok _ (some []), _ => rfl
  | .ok path (some (pat :: rest)), ⟨hl, hin⟩ =>
    cases hr : pat.isRecursive with
    | false =>
      simp only [step, hr, Bool.false_eq_true, if_false]
      exact matchNormally_agree fs1 fs2 hwf q hq hag rd path _ hl hin
    | true =>
      have hlc := hl.collapse
      cases hc : collapseRec pat rest with
      | nil => simp only [step, hr, hc, if_true]
      | cons nextPat after =>
        rw [hc] at hlc
        simp only [step, hr, hc, if_true, fillTodo_agree fs1 fs2 hwf q hq hag _ path hlc hin,
          matchNormally_agree fs1 fs2 hwf q hq hag rd path after hlc.tail hin]

theorem outs_agree (rd : Bool) {todo : List Item} {o : List Str} (h : Outs fs1 rd todo o) :
    (∀ it ∈ todo, ItemIn q it) → Outs fs2 rd todo o := by
  induction h with
  | nil => intro _; exact .nil
  | cons _ _ ih2 ih3 =>
    rename_i it todo o2 o3 _ _
    intro hall
    have hit := hall it (by simp)
    have hs := step_in fs1 hwf q hq rd it hit
    have he := step_agree fs1 fs2 hwf q hq hag rd it hit
    have h2 := ih2 hs.2
    have h3 := ih3 (fun it' h' => hall it' (List.mem_cons_of_mem _ h'))
    rw [he] at h2 ⊢
    exact .cons h2 h3

end Agree

section Arrival
variable (fs : FsView) (cs : List Str) (fpats : List Pattern)

/-- What is on the stack when the walk has arrived at the directory itself. -/
def finalItems : List Item :=
  if fpats.isEmpty then [Item.ok ⟨absDir cs, fs.isDir (absDir cs)⟩ none]
  else fillTodo fs fpats ⟨absDir cs, fs.isDir (absDir cs)⟩

/-- The entry of the parent directory that IS the directory says "directory" exactly when `metadata` does
(true of a real file system; needed only for the last step, where the flag is handed to the include's walk). -/
def LastTypeOk : Prop :=
  ∀ (k : Nat) (hk : k + 1 = cs.length) (es : List (Str × EntryType)) (t : EntryType),
    fs.readDir (absDir (cs.take k)) = some es → (cs[k]'(by omega), t) ∈ es →
    (fromDirEntry fs (absDir cs) t).isDirectory = fs.isDir (absDir cs)

end Arrival

theorem LastTypeOk.entry {fs : FsView} {pre : List Str} {c : Str} (h : LastTypeOk fs (pre ++ [c]))
    {es : List (Str × EntryType)} {t : EntryType} (hr : fs.readDir (absDir pre) = some es) (hm : (c, t) ∈ es) :
    (fromDirEntry fs (absDir (pre ++ [c])) t).isDirectory = fs.isDir (absDir (pre ++ [c])) :=
  h pre.length (by simp) es t (by simpa using hr) (by simpa using hm)

section Chain
variable (fs : FsView) (hwf : fs.WF) (rd : Bool)

theorem outs_entries_escaped (p : Str) (hp : p ≠ []) (c : Str) (rest : List Pattern) :
    ∀ (es : List (Str × EntryType)), (∀ e ∈ es, validName e.1 = true) → (es.map (·.1)).Nodup → ∀ o,
      Outs fs rd (es.map fun e => Item.ok (fromDirEntry fs (joinPath p e.1) e.2) (some (escPattern c :: rest))) o →
      o = [] ∨ ∃ t, (c, t) ∈ es ∧ Outs fs rd (addNext rest (fillTodo fs rest) (fromDirEntry fs (joinPath p c) t)) o := by
  intro es
  induction es with
  | nil => intro _ _ o h; exact .inl h.nil_inv
  | cons e es ih =>
    intro hv hnd o h
    obtain ⟨oa, ob, ha, hb, rfl⟩ := Outs.append_inv [_] _ _ h
    have hrest := ih (fun x hx => hv x (List.mem_cons_of_mem _ hx)) (List.nodup_cons.1 hnd).2 ob hb
    rcases outs_child rfl ha with rfl | ⟨⟨name, hfn, hm⟩, ha'⟩
    · exact hrest.imp_right fun ⟨t, ht, h'⟩ => ⟨t, List.mem_cons_of_mem _ ht, h'⟩
    · -- this is the one; no later entry has the same name
      rw [fromDirEntry_path, fileName_joinPath hp (hv e (by simp))] at hfn
      obtain rfl : e.1 = c := by cases hfn; exact (escPattern_matches _ _).1 hm
      rcases hrest with rfl | ⟨t, ht, _⟩
      · exact .inr ⟨e.2, by simp, by simpa using ha'⟩
      · exact absurd (List.mem_map.2 ⟨_, ht, rfl⟩) (List.nodup_cons.1 hnd).1

include hwf in
theorem outs_escaped {c : Str} (hc : validName c = true) (rest : List Pattern) (path : PathW) (hp : path.path ≠ [])
    {o : List Str} (h : Outs fs rd (fillTodo fs (escPattern c :: rest) path) o) :
    o = [] ∨ ∃ d, (d = fs.isDir (joinPath path.path c) ∨ ∃ es t, fs.readDir path.path = some es ∧ (c, t) ∈ es ∧
        d = (fromDirEntry fs (joinPath path.path c) t).isDirectory) ∧
      Outs fs rd (addNext rest (fillTodo fs rest) ⟨joinPath path.path c, d⟩) o := by
  simp only [fillTodo] at h
  cases hs : patternAsStr (escPattern c) with
  | some s =>
    -- a name without metacharacters: glob asks whether it exists
    obtain rfl := patternAsStr_escPattern hs
    have hnd : (s == ['.']) = false := by simpa using validName_ne_dot hc
    have hndd : (s == ['.', '.']) = false := by simpa using validName_ne_dotdot hc
    simp only [hs, hnd, hndd, Bool.or_self, Bool.false_and, Bool.not_false, Bool.true_and, Bool.false_or] at h
    split at h
    · exact .inr ⟨_, .inl rfl, h⟩
    · exact .inl h.nil_inv
  | none =>
    -- a name with metacharacters: glob lists `path`; `.` and `..` are not matched by an escaped proper name
    have h1 : (escPattern c).matches ['.', '.'] = false :=
      Bool.eq_false_iff.2 fun hm => validName_ne_dotdot hc ((escPattern_matches _ _).1 hm).symm
    have h2 : (escPattern c).matches ['.'] = false :=
      Bool.eq_false_iff.2 fun hm => validName_ne_dot hc ((escPattern_matches _ _).1 hm).symm
    simp only [hs, h1, h2, Bool.false_eq_true, if_false, List.append_nil, ite_self, List.nil_append] at h
    split at h
    · split at h
      · rename_i entries he
        have hv : ∀ e ∈ sortAsc entries, validName e.1 = true :=
          fun e hm => hwf.names _ _ he e ((mem_sortAsc e entries).1 hm)
        refine (outs_entries_escaped fs rd _ hp c rest _ hv (nodup_map_fst_sortAsc _ (hwf.nodup _ _ he)) o h).imp_right ?_
        rintro ⟨t, ht, h'⟩
        refine ⟨_, .inr ⟨entries, t, he, (mem_sortAsc _ _).1 ht, rfl⟩, ?_⟩
        cases t <;> exact h'
      · exact .inl (h.err_inv)
    · exact .inl h.nil_inv

include hwf in
theorem outs_escaped_chain (fpats : List Pattern) : ∀ (post pre : List Str), (∀ c ∈ pre ++ post, validName c = true) →
    post ≠ [] → ∀ (path : PathW), path.path = absDir pre →
    ∀ o, Outs fs rd (fillTodo fs (post.map escPattern ++ fpats) path) o →
      o = [] ∨ ∃ d, (LastTypeOk fs (pre ++ post) → d = fs.isDir (absDir (pre ++ post))) ∧
        Outs fs rd (addNext fpats (fillTodo fs fpats) ⟨absDir (pre ++ post), d⟩) o := by
  intro post
  induction post with
  | nil => intro _ _ h; exact absurd rfl h
  | cons c post ih =>
    intro pre hv _ path hp o h
    have hvc : validName c = true := hv c (by simp)
    have hj : joinPath path.path c = absDir (pre ++ [c]) := by
      rw [hp]; exact joinPath_absDir_comp pre (fun x hx => hv x (List.mem_append_left _ hx)) c hvc
    rcases outs_escaped fs hwf rd hvc (post.map escPattern ++ fpats) path (hp ▸ absDir_ne_nil pre) h with
      rfl | ⟨d, hd, h'⟩
    · exact .inl rfl
    rw [hj] at h' hd
    cases post with
    | nil =>
      refine .inr ⟨d, fun ht => ?_, h'⟩
      rcases hd with rfl | ⟨es, t, hes, hm, rfl⟩
      · rfl
      · exact ht.entry (hp ▸ hes) hm
    | cons c' post =>
      rw [List.append_cons] at hv ⊢
      exact ih (pre ++ [c]) hv (by simp) ⟨_, d⟩ rfl o h'

end Chain

/-- What a relative include resolves to: its component patterns are the escaped components of the directory, then
the include's own (`fpats`); it returns nothing (the directory is not reached), or what the walk started AT the
directory with `fpats` returns. -/
theorem resolve_outs (fs : FsView) (hwf : fs.WF) (cs : List Str) (hv : ∀ c ∈ cs, validName c = true) (file : Str)
    (hrel : file.head? ≠ some '/') (fuel : Nat) (ps : List Str) (h : resolve fs fuel (absDir cs) file = .paths ps) :
    ∃ fpats, dirPatterns (cnfPattern (absDir cs) file) = .ok (cs.map escPattern ++ fpats) ∧ Lit fpats ∧
      (ps = [] ∨ ∃ d, (LastTypeOk fs cs → d = fs.isDir (absDir cs)) ∧
        Outs fs ((cnfPattern (absDir cs) file).getLast? == some '/')
          (addNext fpats (fillTodo fs fpats) ⟨absDir cs, d⟩) ps) := by
  obtain ⟨pats, hp, hr⟩ := glob_paths_run fs fuel _ ps h
  obtain ⟨fpats, hlit, rfl⟩ := dirPatterns_cnf cs hv file hrel pats hp
  refine ⟨fpats, hp, hlit, ?_⟩
  have ho := outs_of_run hr
  cases cs with
  | nil =>
    cases fpats with
    | nil => exact .inl ho.nil_inv
    | cons _ _ => exact .inr ⟨fs.isDir ['/'], fun _ => rfl, ho⟩
  | cons c cs =>
    exact outs_escaped_chain fs hwf _ fpats (c :: cs) [] hv (by simp) (fromPath fs ['/']) rfl ps ho

/-- The same file system with every directory OUTSIDE `dir` stripped of all entries that are not a component of
`dir`: no siblings of `dir`, none of its ancestors'. -/
def pruneOutside (fs : FsView) (cs : List Str) : FsView where
  isDir := fs.isDir
  pathExists := fs.pathExists
  readDir p := if inDir (absDir cs) p then fs.readDir p else (fs.readDir p).map (·.filter fun e => cs.contains e.1)

theorem pruneOutside_agree (fs : FsView) (cs : List Str) : AgreeIn fs (pruneOutside fs cs) (absDir cs) := by
  refine ⟨fun _ _ => rfl, fun _ _ => rfl, fun p hp => ?_⟩
  simp only [pruneOutside, (inDir_iff _ _).2 hp, if_true]

theorem pruneOutside_readDir (fs : FsView) (cs : List Str) (p : Str) (es : List (Str × EntryType))
    (h : (pruneOutside fs cs).readDir p = some es) : ∃ es0, fs.readDir p = some es0 ∧ es.Sublist es0 := by
  simp only [pruneOutside] at h
  split at h
  · exact ⟨es, h, List.Sublist.refl _⟩
  · cases h0 : fs.readDir p with
    | none => simp [h0] at h
    | some es0 =>
      simp [h0] at h; subst h
      exact ⟨es0, rfl, List.filter_sublist⟩

theorem pruneOutside_wf (fs : FsView) (hwf : fs.WF) (cs : List Str) : (pruneOutside fs cs).WF := by
  constructor
  · intro p es h e he
    obtain ⟨es0, h0, hsub⟩ := pruneOutside_readDir fs cs p es h
    exact hwf.names p es0 h0 e (hsub.mem he)
  · intro p es h
    obtain ⟨es0, h0, hsub⟩ := pruneOutside_readDir fs cs p es h
    exact (hwf.nodup p es0 h0).sublist (hsub.map _)

theorem pruneOutside_lastTypeOk (fs : FsView) (cs : List Str) (ht : LastTypeOk fs cs) : LastTypeOk (pruneOutside fs cs) cs := by
  intro k hk es t h hm
  obtain ⟨es0, h0, hsub⟩ := pruneOutside_readDir fs cs _ es h
  have := ht k hk es0 t h0 (hsub.mem hm)
  have he : fromDirEntry (pruneOutside fs cs) (absDir cs) t = fromDirEntry fs (absDir cs) t := by cases t <;> rfl
  rw [he]; exact this

end AcmedVerif.Glob
