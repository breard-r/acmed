/-
Helper lemmas about `Model/Ident.lean`: the identifier list construction, the newOrder / CSR
views of it, the authorization lookup and the reverse names.
-/
import AcmedVerif.Model.Ident
import AcmedVerif.Lemmas.Idna

namespace AcmedVerif.Ident
open AcmedVerif.Idna

theorem Identifier.new_ok (P : Params) (t : IdType) (value challenge : List Char) (env : Env)
    (id : Identifier) (h : Identifier.new P t value challenge env = .ok id) :
    id.idType = t ∧ normValue P t value = .ok id.value ∧ id.env = env ∧
    Challenge.ofStr P.lowerStr challenge = some id.challenge ∧
    id.challenge ∈ supportedChallenges t := by
  unfold Identifier.new at h
  split at h
  · rename_i e he
    -- `normValue` never puts `.ok` in its error slot
    exfalso
    subst h
    cases t <;> simp only [normValue] at he <;> split at he <;> simp at he
  · rename_i v hv
    split at h
    · exact absurd h (by simp)
    · rename_i c hc
      split at h
      · rename_i hs
        simp only [NewRes.ok.injEq] at h
        subst h
        exact ⟨rfl, hv, rfl, hc, by simpa using hs⟩
      · exact absurd h (by simp)

theorem RawId.toGeneric_ok (P : Params) (r : RawId) (id : Identifier)
    (h : r.toGeneric P = .ok id) :
    ∃ t v, r.typed = some (t, v) ∧ id.idType = t ∧ normValue P t v = .ok id.value ∧
      id.env = r.env ∧ Challenge.ofStr P.lowerStr r.challenge = some id.challenge ∧
      id.challenge ∈ supportedChallenges t := by
  unfold RawId.toGeneric at h
  split at h
  · exact absurd h (by simp)
  · rename_i t v htv
    obtain ⟨h1, h2, h3, h4, h5⟩ := Identifier.new_ok P t v r.challenge r.env id h
    exact ⟨t, v, htv, h1, h2, h3, h4, h5⟩

theorem mkIdentifiers_spec (P : Params) (raws : List RawId) :
    ∀ ids, mkIdentifiers P raws = .ok ids →
      ids.length = raws.length ∧ ∀ x ∈ raws.zip ids, x.1.toGeneric P = .ok x.2 := by
  induction raws with
  | nil =>
    intro ids h
    simp only [mkIdentifiers, Except.ok.injEq] at h
    subst h; simp
  | cons r rs ih =>
    intro ids h
    simp only [mkIdentifiers] at h
    split at h
    · rename_i id hid
      split at h
      · rename_i ids' hids'
        simp only [Except.ok.injEq] at h
        subst h
        obtain ⟨i1, i2⟩ := ih ids' hids'
        refine ⟨by simp [i1], ?_⟩
        intro x hx
        simp only [List.zip_cons_cons] at hx
        rcases List.mem_cons.1 hx with rfl | hx
        · exact hid
        · exact i2 x hx
      · exact absurd h (by simp)
    · exact absurd h (by simp)

/-- What the configuration asks for, entry by entry: the type and the normalised value. -/
def expectedIds (P : Params) (raws : List RawId) :
    List (Option (IdType × Except NewRes (List Char))) :=
  raws.map fun r => r.typed.map fun tv => (tv.1, normValue P tv.1 tv.2)

theorem orderIds_eq_expected (P : Params) (raws : List RawId) (ids : List Identifier)
    (h : mkIdentifiers P raws = .ok ids) :
    (orderIds ids).map (fun x => some (x.1, Except.ok x.2)) = expectedIds P raws := by
  obtain ⟨hlen, hz⟩ := mkIdentifiers_spec P raws ids h
  have h1 : raws = (raws.zip ids).map Prod.fst := (List.map_fst_zip (by omega)).symm
  have h2 : ids = (raws.zip ids).map Prod.snd := (List.map_snd_zip (by omega)).symm
  unfold orderIds expectedIds
  conv => lhs; rw [h2]
  conv => rhs; rw [h1]
  simp only [List.map_map]
  refine List.map_congr_left fun x hx => ?_
  obtain ⟨t, v, htv, e1, e2, _⟩ := RawId.toGeneric_ok P x.1 x.2 (hz x hx)
  simp only [Function.comp, htv, Option.map_some, e1, e2]

theorem orderIds_filter (t : IdType) (ids : List Identifier) :
    ((orderIds ids).filter fun x => x.1 = t) =
      ((ids.filter fun e => e.idType = t).map (·.value)).map fun v => (t, v) := by
  simp only [orderIds, List.filter_map, List.map_map]
  exact List.map_congr_left fun i hi => by
    simp only [List.mem_filter, Function.comp, decide_eq_true_eq] at hi
    simp [← hi.2]

theorem csrOf_eq (t : IdType) (ids : List Identifier) :
    (ids.filter fun e => e.idType = t).map (·.value) =
      ((orderIds ids).filter fun x => x.1 = t).map (·.2) := by
  rw [orderIds_filter, List.map_map]
  exact (List.map_id _).symm

theorem csrDomains_eq (ids : List Identifier) :
    csrDomains ids = ((orderIds ids).filter fun x => x.1 = .dns).map (·.2) := csrOf_eq .dns ids

theorem csrIps_eq (ids : List Identifier) :
    csrIps ids = ((orderIds ids).filter fun x => x.1 = .ip).map (·.2) := csrOf_eq .ip ids

theorem typed_split_perm (ids : List Identifier) :
    ((csrDomains ids).map (fun v => (IdType.dns, v)) ++ (csrIps ids).map (fun v => (IdType.ip, v))).Perm
      (orderIds ids) := by
  -- two filters of the payload; `ip` is "not `dns`"
  have : ((orderIds ids).filter fun x => x.1 = IdType.ip) =
      (orderIds ids).filter fun x => !decide (x.1 = IdType.dns) :=
    List.filter_congr fun x _ => by cases x.1 <;> rfl
  unfold csrDomains csrIps
  rw [← orderIds_filter, ← orderIds_filter, this]
  exact List.filter_append_perm _ _

theorem find_first {α : Type} (p : α → Bool) (l : List α) (h : ∃ x ∈ l, p x = true) :
    ∃ pre d post, l = pre ++ d :: post ∧ p d = true ∧ (∀ x ∈ pre, p x = false) ∧
      l.find? p = some d := by
  cases hf : l.find? p with
  | none =>
    obtain ⟨x, hx, hpx⟩ := h
    exact absurd hpx (List.find?_eq_none.1 hf x hx)
  | some d =>
    obtain ⟨hpd, pre, post, hl, hpre⟩ := List.find?_eq_some_iff_append.1 hf
    exact ⟨pre, d, post, hl, hpd, fun x hx => by simpa using hpre x hx, rfl⟩

def nibbles (b : UInt8) : List Char := [hexNibble (b.toNat % 16), hexNibble (b.toNat / 16)]

theorem joinWith_nibbles (l : List UInt8) :
    joinWith '.' (l.map nibblesString) = joinWith '.' ((l.flatMap nibbles).map fun c => [c]) := by
  induction l with
  | nil => rfl
  | cons b bs ih =>
    cases bs with
    | nil => rfl
    | cons b' bs' =>
      simp only [List.map_cons, List.flatMap_cons, nibbles, List.cons_append, List.nil_append,
        joinWith_cons_cons] at ih ⊢
      rw [ih]
      rfl

theorem joinWith_singletons_length (l : List Char) (h : l ≠ []) :
    (joinWith '.' (l.map fun c => [c])).length = 2 * l.length - 1 := by
  induction l with
  | nil => exact absurd rfl h
  | cons c cs ih =>
    cases cs with
    | nil => rfl
    | cons d ds =>
      simp only [List.map_cons, joinWith_cons_cons, List.length_append, List.length_cons,
        List.length_nil] at ih ⊢
      have := ih (by simp)
      omega

theorem flatMap_nibbles_length (l : List UInt8) : (l.flatMap nibbles).length = 2 * l.length := by
  induction l with
  | nil => rfl
  | cons b bs ih => simp only [List.flatMap_cons, List.length_append, ih, nibbles, List.length_cons,
      List.length_nil]; omega

/-- Little-endian value of a byte list (value of the address when the list is the octets reversed). -/
def leVal : List UInt8 → Nat
  | [] => 0
  | b :: bs => b.toNat + 256 * leVal bs

def nibbleVals : List UInt8 → List Nat
  | [] => []
  | b :: bs => b.toNat % 16 :: b.toNat / 16 :: nibbleVals bs

theorem nibbleVals_get (l : List UInt8) :
    ∀ i, i < 2 * l.length → (nibbleVals l)[i]? = some (leVal l / 16 ^ i % 16) := by
  induction l with
  | nil => intro i hi; simp at hi
  | cons b bs ih =>
    intro i hi
    have hb : b.toNat < 256 := b.toNat_lt
    -- the two low nibbles are those of `b`
    have h256 : 256 * leVal bs = 16 * (16 * leVal bs) := by omega
    match i with
    | 0 =>
      simp only [nibbleVals, leVal, List.getElem?_cons_zero, Nat.pow_zero, Nat.div_one]
      rw [h256, Nat.add_mul_mod_self_left]
    | 1 =>
      simp only [nibbleVals, leVal, List.getElem?_cons_succ, List.getElem?_cons_zero, Nat.pow_one]
      rw [h256, Nat.add_mul_div_left _ _ (by decide : 0 < 16), Nat.add_mul_mod_self_left,
        Nat.mod_eq_of_lt (by omega)]
    | i + 2 =>
      simp only [nibbleVals, leVal, List.getElem?_cons_succ]
      rw [ih i (by simp only [List.length_cons] at hi; omega),
        show 16 ^ (i + 2) = 256 * 16 ^ i by rw [Nat.pow_add, Nat.mul_comm],
        ← Nat.div_div_eq_div_mul, Nat.add_mul_div_left _ _ (by decide : 0 < 256),
        Nat.div_eq_of_lt hb, Nat.zero_add]

theorem flatMap_nibbles_eq (l : List UInt8) : l.flatMap nibbles = (nibbleVals l).map hexNibble := by
  induction l with
  | nil => rfl
  | cons b bs ih => simp only [List.flatMap_cons, nibbles, ih, nibbleVals, List.map_cons,
      List.cons_append, List.nil_append]

end AcmedVerif.Ident
