/-
`Model/Period.lean` for `Props/C19.lean`: one `part` consumes one well-formed `Item`, so the checked
fold consumes a list of items and computes their checked running sum (`sumItems`).
-/
import AcmedVerif.Model.Period
namespace AcmedVerif.Period

/-- One checked accumulation step, exactly as in `fold .checked`. -/
def addItem (o : Option Nat) (prod : Nat) : Option Nat :=
  let item : Option Nat := if prod > u64Max then none else some prod
  match o, item with
  | some x, some y => if x + y > u64Max then none else some (x + y)
  | _, _ => none

def sumItems (o : Option Nat) (is : List Item) : Option Nat :=
  is.foldl (fun o i => addItem o i.value) o

theorem unit_not_digit {u : Char} {m : Nat} (h : unitMult u = some m) : isDigit u = false := by
  -- otherwise `u`, a digit, is none of the five letters, and `unitMult u = none`
  cases hd : isDigit u with
  | false => rfl
  | true =>
    have ne (c : Char) (hc : isDigit c = false) : ¬ u = c := fun e => by rw [e, hc] at hd; cases hd
    rw [unitMult, if_neg (ne 's' rfl), if_neg (ne 'm' rfl), if_neg (ne 'h' rfl), if_neg (ne 'd' rfl),
      if_neg (ne 'w' rfl)] at h
    cases h

theorem spanDigits_append (ds : List Char) (u : Char) (rest : List Char)
    (hds : ds.all isDigit = true) (hu : isDigit u = false) :
    spanDigits (ds ++ u :: rest) = (ds, u :: rest) := by
  induction ds with
  | nil => simp [spanDigits, hu]
  | cons d ds ih =>
    simp only [List.all_cons, Bool.and_eq_true] at hds
    simp [spanDigits, hds.1, ih hds.2]

theorem spanDigits_spec (s : List Char) :
    (spanDigits s).1 ++ (spanDigits s).2 = s ∧ (spanDigits s).1.all isDigit = true := by
  induction s with
  | nil => simp [spanDigits]
  | cons c cs ih =>
    by_cases hc : isDigit c = true
    · simp [spanDigits, hc, ih.1, ih.2]
    · simp [spanDigits, hc]

theorem part_nil : part [] = .fail := by
  simp [part, spanDigits]

theorem part_sound {s : List Char} {nb m : Nat} {rest : List Char}
    (h : part s = .part nb m rest) :
    ∃ i : Item, i.wf = true ∧ i.nb = nb ∧ i.nb ≤ u64Max ∧ unitMult i.unit = some m ∧
      s = i.text ++ rest := by
  -- follow `part`: the digit prefix is non-empty and its value fits, a unit letter follows
  have hs := spanDigits_spec s
  unfold part at h
  generalize spanDigits s = p at h hs
  obtain ⟨ds, r⟩ := p
  cases ds with
  | nil => simp at h
  | cons d ds =>
    simp only at h
    split at h
    · cases h
    · rename_i hle
      cases r with
      | nil => simp at h
      | cons u r' =>
        cases hu : unitMult u with
        | none => simp [hu] at h
        | some m' =>
          simp only [hu, PartRes.part.injEq] at h
          obtain ⟨h1, h2, h3⟩ := h
          subst h1 h2 h3
          refine ⟨⟨d :: ds, u⟩, ?_, rfl, ?_, hu, ?_⟩
          · simp only [Item.wf, hu, hs.2]
            simp
          · simp only [Item.nb]; omega
          · simp only [Item.text]
            rw [← hs.1]
            simp

theorem part_complete (i : Item) (rest : List Char) (hwf : i.wf = true) (hnb : i.nb ≤ u64Max) :
    ∃ m, unitMult i.unit = some m ∧ i.value = i.nb * m ∧
      part (i.text ++ rest) = .part i.nb m rest := by
  obtain ⟨ds, u⟩ := i
  simp only [Item.wf, Bool.and_eq_true, Option.isSome_iff_exists] at hwf
  obtain ⟨⟨hne, hall⟩, m, hm⟩ := hwf
  refine ⟨m, hm, by simp [Item.value, hm], ?_⟩
  have hsp : spanDigits (ds ++ u :: rest) = (ds, u :: rest) :=
    spanDigits_append ds u rest hall (unit_not_digit hm)
  simp only [Item.nb] at hnb
  cases ds with
  | nil => simp at hne
  | cons d ds =>
    have : ¬ digitsVal (d :: ds) > u64Max := by omega
    simp only [Item.text, List.append_assoc, List.singleton_append, Item.nb]
    unfold part
    rw [hsp]
    simp only [this, if_false, hm]

theorem part_rest_length {s : List Char} {nb m : Nat} {rest : List Char}
    (h : part s = .part nb m rest) : rest.length + 2 ≤ s.length := by
  obtain ⟨i, hwf, -, -, -, hs⟩ := part_sound h
  subst hs
  obtain ⟨ds, u⟩ := i
  simp only [Item.wf, Bool.and_eq_true] at hwf
  cases ds with
  | nil => simp at hwf
  | cons d ds => simp [Item.text]

theorem fold_fail (a : Arith) (fuel : Nat) {s : List Char} (acc : Acc) (h : part s = .fail) :
    fold a (fuel + 1) s acc = .ok (acc, s) := by
  simp only [fold, h]

theorem fold_nil (a : Arith) (fuel : Nat) (acc : Acc) : fold a fuel [] acc = .ok (acc, []) := by
  cases fuel with
  | zero => simp only [fold]
  | succ n => exact fold_fail a n acc part_nil

theorem fold_fuel_irrel (a : Arith) (f1 : Nat) : ∀ (f2 : Nat) (s : List Char) (acc : Acc),
    s.length ≤ f1 → s.length ≤ f2 → fold a f1 s acc = fold a f2 s acc := by
  -- with no fuel on one side the input is empty, and `fold` on `[]` ignores its fuel
  have nil (f : Nat) (s : List Char) (acc : Acc) (h : s.length ≤ 0) :
      fold a 0 s acc = fold a f s acc := by
    cases List.eq_nil_of_length_eq_zero (Nat.le_zero.mp h)
    rw [fold_nil, fold_nil]
  induction f1 with
  | zero => exact fun f2 s acc h1 _ => nil f2 s acc h1
  | succ n ih =>
    intro f2 s acc h1 h2
    cases f2 with
    | zero => exact (nil _ s acc h2).symm
    | succ k =>
      cases hp : part s with
      | fail => rw [fold_fail a n acc hp, fold_fail a k acc hp]
      | part nb m rest =>
        have hl := part_rest_length hp
        have ih' := fun acc' => ih k rest acc' (by omega) (by omega)
        cases a <;> simp only [fold, hp, ih']

theorem fold_checked_part (fuel : Nat) {s : List Char} (acc : Acc) {nb m : Nat} {rest : List Char}
    (h : part s = .part nb m rest) :
    fold .checked (fuel + 1) s acc =
      fold .checked fuel rest { sum := addItem acc.sum (nb * m), count := acc.count + 1 } := by
  simp only [fold, h]
  rfl

theorem addItem_none (p : Nat) : addItem none p = none := by
  simp [addItem]

theorem sumItems_none (is : List Item) : sumItems none is = none := by
  induction is with
  | nil => rfl
  | cons i is ih => simpa [sumItems, addItem_none] using ih

theorem addItem_some (x p : Nat) :
    addItem (some x) p = if p ≤ u64Max ∧ x + p ≤ u64Max then some (x + p) else none := by
  unfold addItem
  by_cases h1 : p ≤ u64Max
  · by_cases h2 : x + p ≤ u64Max
    · rw [if_neg (Nat.not_lt.2 h1), if_pos ⟨h1, h2⟩]
      exact if_neg (Nat.not_lt.2 h2)
    · rw [if_neg (Nat.not_lt.2 h1), if_neg (fun h => h2 h.2)]
      exact if_pos (Nat.lt_of_not_le h2)
  · rw [if_pos (Nat.lt_of_not_le h1), if_neg (fun h => h1 h.1)]

theorem itemsValue_cons (i : Item) (is : List Item) :
    itemsValue (i :: is) = i.value + itemsValue is := by
  simp [itemsValue]

theorem itemsText_cons (i : Item) (is : List Item) :
    itemsText (i :: is) = i.text ++ itemsText is := by
  simp [itemsText]

theorem sumItems_some (is : List Item) : ∀ (x v : Nat), x ≤ u64Max →
    (sumItems (some x) is = some v ↔
      (∀ i ∈ is, i.value ≤ u64Max) ∧ x + itemsValue is ≤ u64Max ∧ v = x + itemsValue is) := by
  induction is with
  | nil =>
    intro x v hx
    simp [sumItems, itemsValue]
    omega
  | cons i is ih =>
    intro x v hx
    have hstep : sumItems (some x) (i :: is) = sumItems (addItem (some x) i.value) is := rfl
    rw [hstep, addItem_some, itemsValue_cons, ← Nat.add_assoc, List.forall_mem_cons]
    by_cases hc : i.value ≤ u64Max ∧ x + i.value ≤ u64Max
    · rw [if_pos hc, ih (x + i.value) v hc.2, and_iff_right hc.1]
    · rw [if_neg hc, sumItems_none]
      constructor
      · intro h; cases h
      · rintro ⟨⟨h0, _⟩, h2, _⟩
        exact absurd ⟨h0, Nat.le_trans (Nat.le_add_right ..) h2⟩ hc

theorem itemsFit_iff (is : List Item) :
    itemsFit is = true ↔
      (∀ i ∈ is, i.nb ≤ u64Max ∧ i.value ≤ u64Max) ∧ itemsValue is ≤ u64Max := by
  simp [itemsFit, List.all_eq_true]

/-- The checked fold never panics; what it consumed is a list of well-formed items. -/
theorem fold_checked_sound (fuel : Nat) : ∀ (s : List Char) (acc : Acc),
    ∃ (is : List Item) (rest : List Char) (acc' : Acc),
      fold .checked fuel s acc = .ok (acc', rest) ∧
      (∀ i ∈ is, i.wf = true ∧ i.nb ≤ u64Max) ∧
      s = itemsText is ++ rest ∧
      acc'.count = acc.count + is.length ∧
      acc'.sum = sumItems acc.sum is := by
  induction fuel with
  | zero =>
    intro s acc
    exact ⟨[], s, acc, by simp only [fold], by simp, by simp [itemsText], by simp, rfl⟩
  | succ n ih =>
    intro s acc
    cases hp : part s with
    | fail =>
      exact ⟨[], s, acc, fold_fail _ n acc hp, by simp, by simp [itemsText], by simp, rfl⟩
    | part nb m rest =>
      obtain ⟨i, hwf, hnb, hle, hm, hs⟩ := part_sound hp
      obtain ⟨is, rest', acc', hf, hall, hr, hc, hsum⟩ :=
        ih rest { sum := addItem acc.sum (nb * m), count := acc.count + 1 }
      refine ⟨i :: is, rest', acc', ?_, ?_, ?_, ?_, ?_⟩
      · rw [fold_checked_part n acc hp, hf]
      · intro j hj
        rcases List.mem_cons.mp hj with rfl | hj
        · exact ⟨hwf, hle⟩
        · exact hall j hj
      · rw [hs, hr, itemsText_cons, List.append_assoc]
      · simp only [List.length_cons] at hc ⊢; omega
      · rw [hsum]
        have : i.value = nb * m := by simp [Item.value, hm, hnb]
        simp only [sumItems, List.foldl_cons, this]

theorem itemsText_length (is : List Item) : is.length ≤ (itemsText is).length := by
  induction is with
  | nil => exact Nat.zero_le _
  | cons i is ih =>
    rw [itemsText_cons, List.length_append, List.length_cons, Item.text, List.length_append,
      List.length_singleton, Nat.add_comm is.length]
    exact Nat.add_le_add (Nat.le_add_left ..) ih

theorem fold_checked_complete (is : List Item) : ∀ (fuel : Nat) (acc : Acc),
    (∀ i ∈ is, i.wf = true ∧ i.nb ≤ u64Max) → is.length ≤ fuel →
    fold .checked fuel (itemsText is) acc =
      .ok ({ sum := sumItems acc.sum is, count := acc.count + is.length }, []) := by
  induction is with
  | nil =>
    intro fuel acc _ _
    rw [show itemsText [] = [] from rfl, fold_nil]
    rfl
  | cons i is ih =>
    intro fuel acc hall hlen
    cases fuel with
    | zero => simp at hlen
    | succ n =>
      have hi := hall i (List.mem_cons_self ..)
      obtain ⟨m, hm, hv, hp⟩ := part_complete i (itemsText is) hi.1 hi.2
      rw [itemsText_cons, fold_checked_part n acc hp,
        ih n _ (fun j hj => hall j (List.mem_cons_of_mem _ hj))
          (by simp only [List.length_cons] at hlen; omega)]
      simp only [sumItems, List.foldl_cons, hv, List.length_cons]
      congr 3
      omega

theorem parse_eq_ok_iff (s : List Char) (v : Nat) :
    parse s = .ok v ↔
      ∃ is : List Item, is ≠ [] ∧ (∀ i ∈ is, i.wf = true ∧ i.nb ≤ u64Max) ∧ itemsText is = s ∧
        sumItems (some 0) is = some v := by
  constructor
  · intro h
    obtain ⟨is, rest, acc', hf, hall, hs, hc, hsum⟩ :=
      fold_checked_sound s.length s { sum := some 0, count := 0 }
    simp only [parse, parseWith, hf] at h
    split at h
    · cases h
    · rename_i hcount
      split at h
      · cases h
      · rename_i hrest
        have hrest' : rest = [] := by
          cases rest with
          | nil => rfl
          | cons c cs => simp at hrest
        subst hrest'
        refine ⟨is, ?_, hall, by simp [hs], ?_⟩
        · intro hnil; subst hnil; simp at hc; exact hcount hc
        · rw [← hsum]
          split at h
          · rename_i v' hv'; cases h; exact hv'
          · cases h
  · rintro ⟨is, hne, hall, hs, hsum⟩
    subst hs
    have hf := fold_checked_complete is (itemsText is).length { sum := some 0, count := 0 } hall
      (itemsText_length is)
    have hpos : 0 < is.length := List.length_pos_iff.mpr hne
    have hcount : ¬ (0 + is.length = 0) := by omega
    simp only [parse, parseWith, hf, hsum, hcount, if_false]
    simp

theorem parse_no_panic (s : List Char) : (∃ v, parse s = .ok v) ∨ parse s = .reject := by
  obtain ⟨is, rest, acc', hf, -⟩ := fold_checked_sound s.length s { sum := some 0, count := 0 }
  simp only [parse, parseWith, hf]
  split
  · exact Or.inr rfl
  · split
    · exact Or.inr rfl
    · split
      · exact Or.inl ⟨_, rfl⟩
      · exact Or.inr rfl

end AcmedVerif.Period
