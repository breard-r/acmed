/-
`Model/Renew.lean` and the judge `Spec/C06.lean`: `expires_in` is `d.toNat`; `schedule_renewal` and
the judge are a `Sit.pick` over the same four situations.
-/
import AcmedVerif.Model.Renew
import AcmedVerif.Spec.C06

namespace AcmedVerif.Renew

theorem days_secs (d : Int) : days d * 86400 + secs d = d := by
  unfold days secs
  split
  · exact Int.ediv_mul_add_emod d 86400
  · rw [Int.neg_mul, ← Int.neg_add, Int.ediv_mul_add_emod, Int.neg_neg]

theorem days_eq_tdiv (d : Int) : days d = Int.tdiv d 86400 := by
  unfold days
  split
  · rename_i h
    rw [Int.tdiv_eq_ediv_of_nonneg h]
  · rename_i h
    rw [← Int.neg_neg d, Int.neg_tdiv, Int.neg_neg, Int.tdiv_eq_ediv_of_nonneg (by omega)]

theorem secs_eq_tmod (d : Int) : secs d = Int.tmod d 86400 := by
  have h1 := days_secs d
  have h2 := Int.tmod_add_mul_tdiv d 86400
  rw [← days_eq_tdiv] at h2
  omega

theorem days_secs_bounds (d : Int) : -86400 < secs d ∧ secs d < 86400 ∧
    (0 ≤ d → 0 ≤ secs d ∧ 0 ≤ days d) ∧ (d ≤ 0 → secs d ≤ 0 ∧ days d ≤ 0) := by
  unfold days secs
  split <;> omega

theorem nbSecs_eq (d : Int) : days d * 24 * 60 * 60 + secs d = d := by
  rw [Int.mul_assoc, Int.mul_assoc]
  exact days_secs d

theorem expiresIn_eq (d : Int) : expiresIn d = d.toNat := by
  unfold expiresIn
  rw [nbSecs_eq]
  dsimp only
  split
  · rfl
  · exact (Int.toNat_of_nonpos (Int.not_lt.1 ‹_›)).symm

theorem expiresIn_le_of_daysFit (d : Int) (h : daysFit d) :
    expiresIn d ≤ 2147483647 * 86400 + 86399 := by
  rw [expiresIn_eq]
  have h1 := days_secs d
  have h2 := (days_secs_bounds d).2.1
  have h3 := h.2
  omega

theorem wrap32_eq_bmod (x : Int) : wrap32 x = Int.bmod x 4294967296 := by
  unfold wrap32 Int.bmod
  simp only
  split <;> omega

theorem fits32_iff (x : Int) : fits32 x = true ↔ -2147483648 ≤ x ∧ x ≤ 2147483647 := by
  unfold fits32
  simp only [Bool.and_eq_true, decide_eq_true_eq]

theorem wrap32_of_fits (x : Int) (h : fits32 x = true) : wrap32 x = x := by
  rw [fits32_iff] at h
  rw [wrap32_eq_bmod]
  exact Int.bmod_eq_of_le h.1 (Int.lt_add_one_of_le h.2)

theorem step32_of_fits (p : Profile) (x : Int) (h : fits32 x = true) : step32 p x = some x := by
  cases p
  · exact if_pos h
  · exact congrArg some (wrap32_of_fits x h)

/-- The partial products lie between 0 and `d`: none of the four `i32` operations overflows. -/
theorem expiresInOld_of_small (p : Profile) (d : Int) (hlo : -2147483648 ≤ d) (hhi : d < 2147483648) :
    expiresInOld p d = .ok (expiresIn d) := by
  have h := days_secs d
  have hb := days_secs_bounds d
  have f : fits32 (days d * 24) = true ∧ fits32 (days d * 24 * 60) = true ∧
      fits32 (days d * 24 * 60 * 60) = true ∧ fits32 d = true := by
    simp only [fits32_iff]; omega
  unfold expiresInOld expiresIn
  rw [step32_of_fits p _ f.1]; dsimp only
  rw [step32_of_fits p _ f.2.1]; dsimp only
  rw [step32_of_fits p _ f.2.2.1]; dsimp only
  rw [nbSecs_eq, step32_of_fits p _ f.2.2.2]

theorem expiresInOld_dev_ok_iff (d : Int) :
    (∃ n, expiresInOld .dev d = .ok n) ↔ (-2147483648 ≤ d ∧ d < 2147483648) := by
  constructor
  · rintro ⟨n, hn⟩
    -- the last operation, `… + diff.secs`, has the exact result `d`, and did not panic
    by_cases f1 : fits32 (days d * 24) = true
    case neg => simp [expiresInOld, step32, f1] at hn
    by_cases f2 : fits32 (days d * 24 * 60) = true
    case neg => simp [expiresInOld, step32, f1, f2] at hn
    by_cases f3 : fits32 (days d * 24 * 60 * 60) = true
    case neg => simp [expiresInOld, step32, f1, f2, f3] at hn
    by_cases f4 : fits32 d = true
    case neg => simp [expiresInOld, step32, f1, f2, f3, nbSecs_eq, f4] at hn
    rw [fits32_iff] at f4
    omega
  · rintro ⟨h1, h2⟩
    exact ⟨_, expiresInOld_of_small .dev d h1 h2⟩

theorem sub_digits (B a1 a0 b1 b0 : Nat) (c1 : b1 ≤ a1) (c0 : b0 ≤ a0) :
    (a1 - b1) * B + (a0 - b0) + (b1 * B + b0) = a1 * B + a0 := by
  rw [Nat.add_add_add_comm, ← Nat.add_mul, Nat.sub_add_cancel c1, Nat.sub_add_cancel c0]

theorem sub_digits_borrow (B a1 a0 b1 b0 : Nat) (c1 : b1 + 1 ≤ a1) (c0 : b0 ≤ B) :
    (a1 - b1 - 1) * B + (a0 + B - b0) + (b1 * B + b0) = a1 * B + a0 := by
  have h := sub_digits B (a1 - 1) (a0 + B) b1 b0 (Nat.le_sub_one_of_lt c1)
    (Nat.le_trans c0 (Nat.le_add_left ..))
  rw [Nat.sub_right_comm, h, Nat.add_comm a0 B, ← Nat.add_assoc, ← Nat.succ_mul, Nat.succ_eq_add_one,
    Nat.sub_add_cancel (Nat.le_trans (Nat.le_add_left ..) c1)]

theorem lt_of_high_lt (B a1 a0 b1 b0 : Nat) (ha : a0 < B) (c1 : a1 < b1) :
    a1 * B + a0 < b1 * B + b0 :=
  calc a1 * B + a0 < a1 * B + B := Nat.add_lt_add_left ha _
    _ = (a1 + 1) * B := (Nat.succ_mul ..).symm
    _ ≤ b1 * B := Nat.mul_le_mul_right _ c1
    _ ≤ b1 * B + b0 := Nat.le_add_right ..

/-- `checked_sub`: digit-wise with one borrow, `None` exactly when `a < b`. -/
theorem Dur.toNs_satSub (a b : Dur) (ha : a.wf) (hb : b.wf) :
    (a.satSub b).toNs = a.toNs - b.toNs ∧ (a.satSub b).wf := by
  have below (h : a.toNs < b.toNs) : Dur.zero.toNs = a.toNs - b.toNs ∧ Dur.zero.wf :=
    ⟨(Nat.sub_eq_zero_of_le (Nat.le_of_lt h)).symm, Nat.lt_of_le_of_lt (Nat.zero_le _) ha⟩
  unfold Dur.satSub Dur.checkedSub
  by_cases c1 : b.secs ≤ a.secs
  · rw [if_pos c1]
    by_cases c0 : b.nanos ≤ a.nanos
    · rw [if_pos c0]
      exact ⟨Nat.eq_sub_of_add_eq (sub_digits NS _ _ _ _ c1 c0),
        Nat.lt_of_le_of_lt (Nat.sub_le ..) ha⟩
    · rw [if_neg c0]
      by_cases cs : 1 ≤ a.secs - b.secs
      · rw [if_pos cs]
        exact ⟨Nat.eq_sub_of_add_eq
            (sub_digits_borrow NS _ _ _ _ (Nat.add_le_of_le_sub' c1 cs) (Nat.le_of_lt hb)),
          Nat.sub_lt_left_of_lt_add (Nat.le_trans (Nat.le_of_lt hb) (Nat.le_add_left ..))
            (Nat.add_lt_add_right (Nat.lt_of_not_le c0) _)⟩
      · rw [if_neg cs]
        refine below ?_
        show a.secs * NS + a.nanos < b.secs * NS + b.nanos
        rw [Nat.le_antisymm (Nat.le_of_sub_eq_zero (Nat.eq_zero_of_not_pos cs)) c1]
        exact Nat.add_lt_add_left (Nat.lt_of_not_le c0) _
  · rw [if_neg c1]
    exact below (lt_of_high_lt NS _ _ _ _ ha (Nat.lt_of_not_le c1))

theorem Dur.isZero_iff (a : Dur) : a.isZero = true ↔ a.toNs = 0 := by
  unfold Dur.isZero Dur.toNs
  rw [Bool.and_eq_true, beq_iff_eq, beq_iff_eq, Nat.add_eq_zero_iff, Nat.mul_eq_zero]
  exact and_congr_left' ⟨Or.inl, fun h => h.resolve_right (by decide)⟩

theorem Dur.fromSecs_wf (s : Nat) : (Dur.fromSecs s).wf := by
  show 0 < NS; decide

theorem Dur.toNs_fromSecs (s : Nat) : (Dur.fromSecs s).toNs = s * NS := Nat.add_zero _

theorem renewIn_eq (expSecs delayNs rerNs jitterNs : Nat) :
    renewIn expSecs delayNs rerNs jitterNs =
      (expSecs * NS - delayNs) - (if rerNs = 0 then 0 else jitterNs) := by
  unfold renewIn
  by_cases h : rerNs = 0
  · rw [if_neg (not_not_intro h), if_pos h]; rfl
  · rw [if_pos h, if_neg h]

theorem renewInP_eq (expSecs delayNs rerNs jitterNs : Nat) :
    renewInP expSecs delayNs rerNs jitterNs = some (renewIn expSecs delayNs rerNs jitterNs) := by
  unfold renewInP renewIn genRange
  by_cases h : rerNs = 0
  · simp [h]
  · have : 0 < rerNs := Nat.pos_of_ne_zero h
    simp [h, this]

theorem renewIn_le (expSecs delayNs rerNs jitterNs : Nat) :
    renewIn expSecs delayNs rerNs jitterNs ≤ expSecs * NS - delayNs := by
  rw [renewIn_eq]
  exact Nat.sub_le ..

theorem missing_eq_not_covered (ids sans : List (List Char)) :
    missing ids sans = !Spec.C06.covered ids sans := by
  unfold missing Spec.C06.covered
  induction ids with
  | nil => rfl
  | cons i rest ih =>
    simp only [List.any_cons, List.all_cons, ih, Bool.not_and]

theorem missing_iff (ids sans : List (List Char)) :
    missing ids sans = true ↔ ∃ i ∈ ids, i ∉ sans := by
  unfold missing
  simp [List.any_eq_true]

inductive Sit where
  | absent              -- a file is missing
  | unparsed            -- the certificate cannot be parsed
  | lacking             -- it lacks a configured identifier
  | covering (c : Cert) -- it parses as `c` and names them all

def sit (disk : Disk) (ids : List (List Char)) : Sit :=
  if !filesExist disk then .absent
  else match disk.cert with
    | none => .unparsed
    | some c => if missing ids c.sans then .lacking else .covering c

def Sit.pick {α : Type} (now err : α) (wait : Cert → α) : Sit → α
  | .absent | .lacking => now
  | .unparsed => err
  | .covering c => wait c

/-- Every function of the shape of `schedule_renewal` is a `pick`. -/
theorem pick_sit {α : Type} (now err : α) (wait : Cert → α) (disk : Disk) (ids : List (List Char)) :
    (if !filesExist disk then now
     else match disk.cert with
      | none => err
      | some c => if missing ids c.sans then now else wait c) = (sit disk ids).pick now err wait := by
  unfold sit
  cases filesExist disk
  · rfl
  · cases disk.cert with
    | none => rfl
    | some c => dsimp only; cases missing ids c.sans <;> rfl

theorem schedule_eq (disk : Disk) (ids : List (List Char)) (delayNs rerNs jitterNs : Nat) :
    schedule disk ids delayNs rerNs jitterNs =
      (sit disk ids).pick .now .error fun c =>
        .wait (renewIn (expiresIn c.notAfterIn) delayNs rerNs jitterNs) :=
  pick_sit ..

/-- The hypothesis is `Props.C06.covering disk ids c`. -/
theorem sit_of_covering {disk : Disk} {ids : List (List Char)} {c : Cert}
    (h : disk.keyFile = true ∧ disk.certFile = true ∧ disk.cert = some c ∧ ∀ i ∈ ids, i ∈ c.sans) :
    sit disk ids = .covering c := by
  obtain ⟨hk, hcf, hc, hcov⟩ := h
  have hm : missing ids c.sans = false := Bool.eq_false_iff.2 fun hm =>
    let ⟨i, hi, hn⟩ := (missing_iff ids c.sans).1 hm
    hn (hcov i hi)
  rw [sit, filesExist, hk, hcf, hc]
  dsimp only
  rw [hm]
  rfl

theorem sit_cert (disk : Disk) (ids : List (List Char)) :
    (sit disk ids).pick True (filesExist disk = true ∧ disk.cert = none)
      fun c => disk.cert = some c := by
  unfold sit
  cases filesExist disk
  · trivial
  · cases disk.cert with
    | none => exact ⟨rfl, rfl⟩
    | some c => dsimp only; cases missing ids c.sans <;> first | rfl | trivial

theorem loopSleeps_error_prefix (n r : Nat) :
    loopSleeps r (List.replicate n .error) =
      ((List.range n).map (fun k => backoffSecs (r + k) * NS), false) := by
  induction n generalizing r with
  | zero => rfl
  | succ n ih =>
    simp only [List.replicate_succ, loopSleeps, ih, List.range_succ_eq_map, List.map_cons,
      List.map_map, Nat.add_zero, Function.comp_def, Nat.succ_eq_add_one, Nat.add_assoc,
      Nat.add_comm 1]

end AcmedVerif.Renew

namespace AcmedVerif.Spec.C06
open AcmedVerif.Renew

theorem expNs_zero (d : Int) : expNs d 0 = d.toNat * NS := by
  unfold expNs NS
  omega

theorem expNs_mono (d : Int) (s t : Int) (h : s ≤ t) : expNs d s ≤ expNs d t :=
  Int.toNat_le_toNat (Int.add_le_add_left h _)

theorem hi_mono (e e' d : Nat) (h : e ≤ e') : hi e d ≤ hi e' d :=
  Nat.sub_le_sub_right h d

theorem lo_mono (e e' d r : Nat) (h : e ≤ e') : lo e d r ≤ lo e' d r := by
  unfold lo
  split
  · exact hi_mono e e' d h
  · exact Nat.sub_le_sub_right (hi_mono e e' d h) _

theorem lo_le_hi (e d r : Nat) : lo e d r ≤ hi e d := by
  unfold lo
  split
  · exact Nat.le_refl _
  · exact Nat.sub_le ..

theorem renewIn_mem (expSecs delayNs rerNs jitterNs : Nat) (hj : rerNs = 0 ∨ jitterNs < rerNs) :
    lo (expSecs * NS) delayNs rerNs ≤ renewIn expSecs delayNs rerNs jitterNs ∧
    renewIn expSecs delayNs rerNs jitterNs ≤ hi (expSecs * NS) delayNs := by
  refine ⟨?_, renewIn_le ..⟩
  rw [renewIn_eq]
  unfold lo hi
  rcases hj with h | h
  · rw [if_pos h, if_pos h]; exact Nat.le_refl _
  · have h0 : rerNs ≠ 0 := Nat.ne_zero_of_lt h
    rw [if_neg h0, if_neg h0]
    exact Nat.sub_le_sub_left (Nat.le_sub_one_of_lt h) _

theorem lo_pos (e d r : Nat) (h : d + r < e) : 0 < lo e d r := by
  unfold lo hi
  split
  · exact Nat.sub_pos_of_lt (Nat.lt_of_le_of_lt (Nat.le_add_right d r) h)
  · exact Nat.sub_pos_of_lt (Nat.lt_sub_of_add_lt (Nat.lt_of_le_of_lt
      (Nat.add_le_add_right (Nat.sub_le r 1) d) (Nat.add_comm d r ▸ h)))

theorem holdsWithSlack_eq (disk : Disk) (ids : List (List Char)) (delayNs rerNs slackNs obs : Nat) :
    holdsWithSlack disk ids delayNs rerNs slackNs obs =
      (sit disk ids).pick (obs == 0) false fun c =>
        decide (lo (expNs c.notAfterIn (-(slackNs : Int))) delayNs rerNs ≤ obs) &&
        decide (obs ≤ hi (expNs c.notAfterIn slackNs) delayNs) := by
  rw [← pick_sit]
  simp only [missing_eq_not_covered]
  rfl

theorem freshOk_eq (disk : Disk) (ids : List (List Char)) (delayNs rerNs obs : Nat) :
    freshOk disk ids delayNs rerNs obs =
      match sit disk ids with
      | .covering c => if delayNs + rerNs < expNs c.notAfterIn 0 then decide (0 < obs) else true
      | _ => true := by
  unfold freshOk sit filesExist
  cases disk.cert with
  | none => cases disk.keyFile && disk.certFile <;> rfl
  | some c =>
    dsimp only
    rw [missing_eq_not_covered]
    cases disk.keyFile && disk.certFile
    · rfl
    · cases covered ids c.sans
      · rfl
      · by_cases h : delayNs + rerNs < expNs c.notAfterIn 0 <;> simp [h]

theorem holdsWithSlack_mono (disk : Renew.Disk) (ids : List (List Char)) (delayNs rerNs : Nat)
    (s t obs : Nat) (hst : s ≤ t) (h : holdsWithSlack disk ids delayNs rerNs s obs = true) :
    holdsWithSlack disk ids delayNs rerNs t obs = true := by
  rw [holdsWithSlack_eq] at h ⊢
  generalize sit disk ids = st at h ⊢
  cases st <;> dsimp only [Sit.pick] at h ⊢ <;> try exact h
  rw [Bool.and_eq_true, decide_eq_true_eq, decide_eq_true_eq] at h ⊢
  exact ⟨Nat.le_trans (lo_mono _ _ _ _ (expNs_mono _ _ _ (Int.neg_le_neg (Int.ofNat_le.2 hst)))) h.1,
    Nat.le_trans h.2 (hi_mono _ _ _ (expNs_mono _ _ _ (Int.ofNat_le.2 hst)))⟩

end AcmedVerif.Spec.C06
