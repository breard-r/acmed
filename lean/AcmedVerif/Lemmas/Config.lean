/-
`read_cnf`, `get_hook_rec` and `MainEventLoop::new` of Model/Config.lean against the vocabulary of
Spec/C14.lean.  The loader reads the depth-first order and appends (`readCnf_spec`), fails only in the ways of
`LoadErr`, never for lack of fuel (`readCnf_fuel`), and more fuel changes nothing (`readCnf_more_fuel`).  What
`get_hook_rec` returns is the denotation of the name, visited within the limits (`expandHook_ok_spec`); what
resolves within them expands (`VisitsList.loop`, `getHook_isOk`); its fuel does not run out (`expandHook_fuel`).
Each start-up check succeeds exactly when its references resolve (`*_isOk`), and what the judge of Spec/C14
sees of a built configuration is what it expects (`CertBuilt.obs`, `buildCerts_obs`, `holdsSettings_expected`).
-/
import AcmedVerif.Model.Config
import AcmedVerif.Spec.C14

namespace AcmedVerif.Config
open AcmedVerif.Spec.C14

/-! ## Maps, `lastSome`, and the `[global]` merge block -/

theorem envLookup_append (k : String) (a b : Env) :
    envLookup k (a ++ b) = (envLookup k b).or (envLookup k a) := by
  unfold envLookup
  rw [List.filter_append, List.getLast?_append, Option.map_or]

theorem envLookup_nil (k : String) : envLookup k [] = none := rfl

theorem lastSome_nil {α : Type} : lastSome ([] : List (Option α)) = none := rfl

theorem lastSome_append {α : Type} (a b : List (Option α)) :
    lastSome (a ++ b) = (lastSome b).or (lastSome a) := by
  unfold lastSome
  rw [List.reverse_append, List.findSome?_append]

theorem lastSome_singleton {α : Type} (x : Option α) : lastSome [x] = x := by
  cases x <;> rfl

/-- A device for `Global.get_set` only: a `[global]` table given by its option values and its `env` map.
Assigning an option updates the function (`set_ofFn`), so the options are gone through one by one, not pair
by pair. -/
private def Global.ofFn (f : GlobalOpt → Option Val) (e : Env) : Global :=
  { accounts_directory := f .accounts_directory, cert_file_group := f .cert_file_group,
    cert_file_mode := f .cert_file_mode, cert_file_user := f .cert_file_user, cert_file_ext := f .cert_file_ext,
    certificates_directory := f .certificates_directory, env := e, file_name_format := f .file_name_format,
    pk_file_group := f .pk_file_group, pk_file_mode := f .pk_file_mode, pk_file_user := f .pk_file_user,
    pk_file_ext := f .pk_file_ext, random_early_renew := f .random_early_renew, renew_delay := f .renew_delay,
    root_certificates := f .root_certificates }

private theorem Global.ofFn_get (g : Global) : Global.ofFn g.get g.env = g := rfl

private theorem Global.get_ofFn (f : GlobalOpt → Option Val) (e : Env) (o : GlobalOpt) (ho : o ≠ .env) :
    (Global.ofFn f e).get o = f o := by
  cases o <;> first | rfl | exact absurd rfl ho

private theorem Global.set_ofFn (f : GlobalOpt → Option Val) (e : Env) (o : GlobalOpt) (v : Option Val) :
    (Global.ofFn f e).set o v = Global.ofFn (fun o' => if o = o' then v else f o') e := by
  cases o <;> rfl

theorem Global.get_set (g : Global) (o o' : GlobalOpt) (v : Option Val) :
    (g.set o v).get o' = if o = o' ∧ o ≠ .env then v else g.get o' := by
  by_cases ho' : o' = .env
  · subst ho'; cases o <;> rfl
  · rw [← Global.ofFn_get g, Global.set_ofFn, Global.get_ofFn _ _ _ ho', Global.get_ofFn _ _ _ ho']
    by_cases h : o = o'
    · subst h; simp [ho']
    · simp [h]

theorem Global.env_set (g : Global) (o : GlobalOpt) (v : Option Val) : (g.set o v).env = g.env := by
  cases o <;> rfl

theorem mergeOpt_of_ne_env (acc new : Global) {o : GlobalOpt} (he : o ≠ .env) :
    mergeOpt acc new o =
      match new.get o with
      | some v => acc.set o (some v)
      | none => acc := by
  cases o <;> first | rfl | exact absurd rfl he

theorem get_mergeOpt (acc new : Global) (o o' : GlobalOpt) :
    (mergeOpt acc new o).get o' =
      if o = o' ∧ o ≠ .env then (new.get o).or (acc.get o') else acc.get o' := by
  by_cases he : o = .env
  · subst he
    have : (mergeOpt acc new .env).get o' = acc.get o' := by cases o' <;> rfl
    simp [this]
  · rw [mergeOpt_of_ne_env acc new he]
    cases hn : new.get o with
    | none => simp
    | some v =>
      simp only [Global.get_set]
      by_cases hoo : o = o'
      · subst hoo; simp [he]
      · simp [hoo]

theorem env_mergeOpt (acc new : Global) (o : GlobalOpt) :
    (mergeOpt acc new o).env = if o = .env then acc.env ++ new.env else acc.env := by
  by_cases he : o = .env
  · subst he; rfl
  · rw [mergeOpt_of_ne_env acc new he, if_neg he]
    cases new.get o <;> simp [Global.env_set]

theorem get_mergeGlobalWith (opts : List GlobalOpt) (cur new : Global) (o : GlobalOpt)
    (ho : o ≠ .env) :
    (mergeGlobalWith opts cur new).get o =
      if o ∈ opts then (new.get o).or (cur.get o) else cur.get o := by
  induction opts generalizing cur with
  | nil => simp [mergeGlobalWith]
  | cons a rest ih =>
    have hstep : mergeGlobalWith (a :: rest) cur new = mergeGlobalWith rest (mergeOpt cur new a) new := rfl
    rw [hstep, ih, get_mergeOpt]
    by_cases hao : a = o
    · subst hao
      simp only [List.mem_cons, true_or, if_true, ho, ne_eq, not_false_eq_true, and_self]
      cases new.get a <;> simp
    · have hoa : ¬ o = a := fun h => hao h.symm
      simp [hao, hoa]

theorem envLookup_mergeGlobalWith (opts : List GlobalOpt) (cur new : Global) (k : String) :
    envLookup k (mergeGlobalWith opts cur new).env =
      if GlobalOpt.env ∈ opts then (envLookup k new.env).or (envLookup k cur.env)
      else envLookup k cur.env := by
  induction opts generalizing cur with
  | nil => simp [mergeGlobalWith]
  | cons a rest ih =>
    have hstep : mergeGlobalWith (a :: rest) cur new = mergeGlobalWith rest (mergeOpt cur new a) new := rfl
    rw [hstep, ih, env_mergeOpt]
    by_cases hae : a = .env
    · subst hae
      simp only [if_true, List.mem_cons, true_or, envLookup_append]
      cases envLookup k new.env <;> simp
    · have hea : ¬ GlobalOpt.env = a := fun h => hae h.symm
      simp [hae, hea]

theorem mergeGlobal_some (c n : Global) :
    mergeGlobal (some c) (some n) = some (mergeGlobalWith mergedOptions c n) := rfl

theorem envOf_some (g : Global) : envOf (some g) = g.env := rfl

theorem optGet_mergeGlobal (x y : Option Global) (o : GlobalOpt) (hm : o ∈ mergedOptions)
    (ho : o ≠ .env) : optGet o (mergeGlobal x y) = (optGet o y).or (optGet o x) := by
  cases x with
  | none => exact (Option.or_none).symm
  | some c =>
    cases y with
    | none => rfl
    | some n => exact (get_mergeGlobalWith mergedOptions c n o ho).trans (if_pos hm)

-- `envOf` is rewritten, not unfolded by `exact`: comparing `envOf (some g)` with `g.env` the kernel would
-- evaluate `g`, here the whole merge block over `mergedOptions` (names compared as strings).
theorem envLookup_mergeGlobal (x y : Option Global) (k : String)
    (hm : GlobalOpt.env ∈ mergedOptions) :
    envLookup k (envOf (mergeGlobal x y)) = (envLookup k (envOf y)).or (envLookup k (envOf x)) := by
  cases x with
  | none => exact (Option.or_none).symm
  | some c =>
    cases y with
    | none => rfl
    | some n =>
      rw [mergeGlobal_some, envOf_some, envOf_some, envOf_some]
      exact (envLookup_mergeGlobalWith mergedOptions c n k).trans (if_pos hm)

/-! ## The loader `read_cnf`: depth-first order, what the result holds, the errors -/

/-- `cfg` is `base` followed by what the files `new` themselves contain, in that order: the six
section lists are appended, and every merged `[global]` option holds the value of the last file of
`new` that sets it (else `base`'s value). -/
structure Extends {π : Type} (files : Files π) (base cfg : Config) (new : List Path) : Prop where
  endpoints : cfg.endpoints = base.endpoints ++ new.flatMap (fun p => (ownOf files p).endpoints)
  rateLimits : cfg.rateLimits = base.rateLimits ++ new.flatMap (fun p => (ownOf files p).rateLimits)
  hooks : cfg.hooks = base.hooks ++ new.flatMap (fun p => (ownOf files p).hooks)
  groups : cfg.groups = base.groups ++ new.flatMap (fun p => (ownOf files p).groups)
  accounts : cfg.accounts = base.accounts ++ new.flatMap (fun p => (ownOf files p).accounts)
  certificates :
    cfg.certificates = base.certificates ++ new.flatMap (fun p => (ownOf files p).certificates)
  opt : ∀ o, o ∈ mergedOptions → o ≠ .env →
    optGet o cfg.global =
      (lastSome (new.map fun p => optGet o (ownOf files p).global)).or (optGet o base.global)
  env : GlobalOpt.env ∈ mergedOptions → ∀ k,
    envLookup k (envOf cfg.global) =
      (envLookup k (new.flatMap fun p => envOf (ownOf files p).global)).or
        (envLookup k (envOf base.global))

theorem Extends.refl {π : Type} (files : Files π) (cfg : Config) : Extends files cfg cfg [] := by
  constructor <;> simp [lastSome_nil, envLookup_nil]

theorem Extends.trans {π : Type} {files : Files π} {a b c : Config} {n₁ n₂ : List Path}
    (h₁ : Extends files a b n₁) (h₂ : Extends files b c n₂) : Extends files a c (n₁ ++ n₂) := by
  constructor
  · rw [h₂.endpoints, h₁.endpoints, List.flatMap_append, List.append_assoc]
  · rw [h₂.rateLimits, h₁.rateLimits, List.flatMap_append, List.append_assoc]
  · rw [h₂.hooks, h₁.hooks, List.flatMap_append, List.append_assoc]
  · rw [h₂.groups, h₁.groups, List.flatMap_append, List.append_assoc]
  · rw [h₂.accounts, h₁.accounts, List.flatMap_append, List.append_assoc]
  · rw [h₂.certificates, h₁.certificates, List.flatMap_append, List.append_assoc]
  · intro o hm ho
    rw [h₂.opt o hm ho, h₁.opt o hm ho, List.map_append, lastSome_append, Option.or_assoc]
  · intro hm k
    rw [h₂.env hm k, h₁.env hm k, List.flatMap_append, envLookup_append, Option.or_assoc]

/-- config.rs:757-786 appends exactly what `add` holds. -/
theorem Extends.merge {π : Type} {files : Files π} {cfg add : Config} {n : List Path}
    (h : Extends files Config.empty add n) : Extends files cfg (mergeCfg cfg add) n := by
  have e := h.endpoints; have r := h.rateLimits; have hk := h.hooks; have g := h.groups
  have a := h.accounts; have c := h.certificates
  simp only [Config.empty, List.nil_append] at e r hk g a c
  constructor
  · simp [mergeCfg, e]
  · simp [mergeCfg, r]
  · simp [mergeCfg, hk]
  · simp [mergeCfg, g]
  · simp [mergeCfg, a]
  · simp [mergeCfg, c]
  · intro o hm ho
    have := h.opt o hm ho
    simp only [Config.empty, optGet, Option.bind_none, Option.or_none] at this
    simp only [mergeCfg, optGet_mergeGlobal _ _ o hm ho]
    simp only [optGet, this]
  · intro hm k
    have := h.env hm k
    simp only [Config.empty, envOf, envLookup_nil, Option.or_none] at this
    simp only [mergeCfg, envLookup_mergeGlobal _ _ k hm]
    simp only [envOf, this]

theorem Extends.single {π : Type} (files : Files π) (p : Path) :
    Extends files Config.empty (ownOf files p) [p] := by
  constructor <;>
    simp [Config.empty, lastSome_singleton, optGet, envOf, envLookup_nil]

theorem _root_.AcmedVerif.Spec.C14.DfsList.nil_inv {π : Type} {files : Files π} {resolve : Path → π → List Path}
    {visited new : List Path} (h : DfsList files resolve [] visited new) : new = [] := by
  cases h; rfl

theorem _root_.AcmedVerif.Spec.C14.DfsList.cons_of_single {π : Type} {files : Files π} {resolve : Path → π → List Path}
    {p : Path} {ps visited n₁ n₂ : List Path}
    (h₁ : DfsList files resolve [p] visited n₁)
    (h₂ : DfsList files resolve ps (visited ++ n₁) n₂) :
    DfsList files resolve (p :: ps) visited (n₁ ++ n₂) := by
  cases h₁ with
  | skip hmem hrest =>
    have := hrest.nil_inv; subst this
    simp only [List.append_nil, List.nil_append] at h₂ ⊢
    exact .skip hmem h₂
  | visit hnot hfile hsub hrest =>
    have := hrest.nil_inv; subst this
    simp only [List.append_nil] at h₂ ⊢
    refine .visit hnot hfile hsub ?_
    simpa [List.append_assoc] using h₂

theorem _root_.AcmedVerif.Spec.C14.DfsList.nodup_fresh_exists {π : Type} {files : Files π} {resolve : Path → π → List Path}
    {todo visited new : List Path} (h : DfsList files resolve todo visited new) :
    new.Nodup ∧ (∀ p, p ∈ new → p ∉ visited) ∧ (∀ p, p ∈ new → (lookupFile files p).isSome = true) := by
  induction h with
  | nil => simp
  | skip _ _ ih => exact ih
  | @visit p ps visited n₁ n₂ fc hnot hfile _ _ ih₁ ih₂ =>
    obtain ⟨nd₁, dj₁, ex₁⟩ := ih₁
    obtain ⟨nd₂, dj₂, ex₂⟩ := ih₂
    refine ⟨?_, ?_, ?_⟩
    · rw [List.cons_append, List.nodup_cons, List.nodup_append]
      refine ⟨?_, nd₁, nd₂, ?_⟩
      · intro hm
        rcases List.mem_append.mp hm with hm | hm
        · exact dj₁ p hm (by simp)
        · exact dj₂ p hm (by simp)
      · intro a ha b hb hab
        subst hab
        exact dj₂ a hb (by simp [ha])
    · intro q hq
      rcases List.mem_cons.mp hq with hq | hq
      · subst hq; exact hnot
      · rcases List.mem_append.mp hq with hq | hq
        · intro hv; exact dj₁ q hq (by simp [hv])
        · intro hv; exact dj₂ q hq (by simp [hv])
    · intro q hq
      rcases List.mem_cons.mp hq with hq | hq
      · subst hq; simp [hfile]
      · rcases List.mem_append.mp hq with hq | hq
        · exact ex₁ q hq
        · exact ex₂ q hq

theorem _root_.AcmedVerif.Spec.C14.DfsList.closed {π : Type} {files : Files π} {resolve : Path → π → List Path}
    {todo visited new : List Path} (h : DfsList files resolve todo visited new) :
    (∀ p, p ∈ todo → p ∈ visited ++ new) ∧
    (∀ p, p ∈ new → ∀ fc, lookupFile files p = some fc →
      ∀ q, q ∈ includePaths resolve p fc → q ∈ visited ++ new) := by
  induction h with
  | nil => simp
  | skip hmem _ ih =>
    refine ⟨?_, ih.2⟩
    intro q hq
    rcases List.mem_cons.mp hq with hq | hq
    · subst hq; simp [hmem]
    · exact ih.1 q hq
  | @visit p ps visited n₁ n₂ fc hnot hfile _ _ ih₁ ih₂ =>
    have heq : visited ++ [p] ++ n₁ ++ n₂ = visited ++ (p :: n₁ ++ n₂) := by simp
    rw [← heq]
    refine ⟨?_, ?_⟩
    · intro q hq
      rcases List.mem_cons.mp hq with rfl | hq
      · simp
      · exact ih₂.1 q hq
    · intro q hq fc' hfc' r hr
      rcases List.mem_cons.mp hq with rfl | hq
      · rw [hfile] at hfc'; cases hfc'
        exact List.mem_append_left _ (ih₁.1 r hr)
      · rcases List.mem_append.mp hq with hq | hq
        · exact List.mem_append_left _ (ih₁.2 q hq fc' hfc' r hr)
        · exact ih₂.2 q hq fc' hfc' r hr

theorem _root_.AcmedVerif.Spec.C14.DfsList.unique {π : Type} {files : Files π} {resolve : Path → π → List Path}
    {todo visited new new' : List Path} (h : DfsList files resolve todo visited new)
    (h' : DfsList files resolve todo visited new') : new = new' := by
  induction h generalizing new' with
  | nil => exact h'.nil_inv.symm
  | skip hmem _ ih =>
    cases h' with
    | skip _ hr => exact ih hr
    | visit hnot _ _ _ => exact absurd hmem hnot
  | visit hnot hfile _ _ ih₁ ih₂ =>
    cases h' with
    | skip hmem _ => exact absurd hmem hnot
    | visit _ hfile' hs hr =>
      rw [hfile] at hfile'; cases hfile'
      have := ih₁ hs; subst this
      have := ih₂ hr; subst this
      rfl

theorem readCnf_eq {π : Type} (files : Files π) (resolve : Path → π → List Path)
    (fuel depth : Nat) (path : Path) (loaded : List Path) :
    readCnf files resolve fuel depth path loaded =
      match lookupFile files path with
      | none => .error (.fileNotFound path)
      | some fc =>
        if depth > maxIncludeDepth then .error (.includeTooDeep path)
        else if path ∈ loaded then .ok (Config.empty, loaded)
        else
          match fuel with
          | 0 => .error .outOfFuel
          | fuel + 1 =>
            includeLoop (readCnf files resolve fuel (depth + 1)) (includePaths resolve path fc)
              fc.toConfig (loaded ++ [path]) :=
  readCnf.eq_def files resolve fuel depth path loaded

/-- What one call of `read_cnf` returns when it succeeds, as a property of any procedure `rec`: the files it
added are a depth-first order from `p`, and the result is their own contents. -/
def RecSpec {π : Type} (files : Files π) (resolve : Path → π → List Path)
    (rec : Path → List Path → Except Err (Config × List Path)) : Prop :=
  ∀ p loaded cfg loaded', rec p loaded = .ok (cfg, loaded') →
    ∃ new, loaded' = loaded ++ new ∧ DfsList files resolve [p] loaded new ∧
      Extends files Config.empty cfg new

theorem includeLoop_spec {π : Type} {files : Files π} {resolve : Path → π → List Path}
    {rec : Path → List Path → Except Err (Config × List Path)} (hrec : RecSpec files resolve rec) :
    ∀ ps cfg loaded cfg' loaded', includeLoop rec ps cfg loaded = .ok (cfg', loaded') →
      ∃ new, loaded' = loaded ++ new ∧ DfsList files resolve ps loaded new ∧
        Extends files cfg cfg' new := by
  intro ps
  induction ps with
  | nil =>
    intro cfg loaded cfg' loaded' h
    simp only [includeLoop, Except.ok.injEq, Prod.mk.injEq] at h
    obtain ⟨rfl, rfl⟩ := h
    exact ⟨[], by simp, .nil _, Extends.refl _ _⟩
  | cons p ps ih =>
    intro cfg loaded cfg' loaded' h
    simp only [includeLoop] at h
    cases hr : rec p loaded with
    | error e => simp [hr] at h
    | ok res =>
      obtain ⟨add, l₁⟩ := res
      simp only [hr] at h
      obtain ⟨n₁, rfl, hd₁, he₁⟩ := hrec p loaded add l₁ hr
      obtain ⟨n₂, rfl, hd₂, he₂⟩ := ih _ _ _ _ h
      exact ⟨n₁ ++ n₂, by simp, hd₁.cons_of_single hd₂, he₁.merge.trans he₂⟩

theorem readCnf_spec {π : Type} (files : Files π) (resolve : Path → π → List Path) (fuel : Nat) :
    ∀ depth, RecSpec files resolve (readCnf files resolve fuel depth) := by
  -- strong induction, here and below, so that the case analysis is written once and `cases fuel` comes last
  induction fuel using Nat.strongRecOn with
  | _ fuel ih =>
    intro depth p loaded cfg loaded' h
    rw [readCnf_eq] at h
    cases hf : lookupFile files p with
    | none => rw [hf] at h; cases h
    | some fc =>
      simp only [hf] at h
      by_cases hd : depth > maxIncludeDepth
      · rw [if_pos hd] at h; cases h
      · rw [if_neg hd] at h
        by_cases hm : p ∈ loaded
        · rw [if_pos hm] at h; cases h
          exact ⟨[], (List.append_nil _).symm, .skip hm (.nil _), Extends.refl _ _⟩
        · rw [if_neg hm] at h
          cases fuel with
          | zero => cases h
          | succ f =>
            obtain ⟨n, rfl, hd', he⟩ := includeLoop_spec (ih f (Nat.lt_succ_self f) (depth + 1)) _ _ _ _ _ h
            refine ⟨p :: n, by rw [List.append_assoc]; rfl, ?_, ?_⟩
            · have := DfsList.visit (ps := []) hm hf hd' (.nil _)
              rwa [List.append_nil] at this
            · have h1 := Extends.single files p
              rw [show ownOf files p = fc.toConfig by simp only [ownOf, hf]] at h1
              exact h1.trans he

/-- The errors `read_cnf` can produce. -/
def LoadErr (e : Err) : Prop :=
  e = .outOfFuel ∨ (∃ q, e = .fileNotFound q) ∨ (∃ q, e = .includeTooDeep q)

theorem includeLoop_error_class {rec : Path → List Path → Except Err (Config × List Path)}
    (hrec : ∀ p l e, rec p l = .error e → LoadErr e) :
    ∀ ps cfg l e, includeLoop rec ps cfg l = .error e → LoadErr e := by
  intro ps
  induction ps with
  | nil => intro cfg l e h; simp [includeLoop] at h
  | cons q ps ih =>
    intro cfg l e h
    simp only [includeLoop] at h
    cases hq : rec q l with
    | error e' =>
      simp only [hq, Except.error.injEq] at h
      subst h; exact hrec q l _ hq
    | ok res =>
      simp only [hq] at h
      exact ih _ _ _ h

theorem readCnf_error_class {π : Type} (files : Files π) (resolve : Path → π → List Path) :
    ∀ fuel depth p l e, readCnf files resolve fuel depth p l = .error e → LoadErr e := by
  intro fuel
  induction fuel using Nat.strongRecOn with
  | _ fuel ih =>
    intro depth p l e he
    rw [readCnf_eq] at he
    cases hf : lookupFile files p with
    | none => rw [hf] at he; cases he; exact .inr (.inl ⟨p, rfl⟩)
    | some fc =>
      simp only [hf] at he
      by_cases hd : depth > maxIncludeDepth
      · rw [if_pos hd] at he; cases he; exact .inr (.inr ⟨p, rfl⟩)
      · rw [if_neg hd] at he
        by_cases hm : p ∈ l
        · rw [if_pos hm] at he; cases he
        · rw [if_neg hm] at he
          cases fuel with
          | zero => cases he; exact .inl rfl
          | succ f => exact includeLoop_error_class (ih f (Nat.lt_succ_self f) (depth + 1)) _ _ _ _ he

theorem loadTree_of_order {files : List (Nat × FileContent (List Nat))} {main : Nat} {cfg : Config}
    {order : List Nat} (h : loadTreeOrder files main = .ok (cfg, order)) : loadTree files main = .ok cfg := by
  unfold loadTreeOrder at h
  unfold loadTree fromFile
  rcases hr : readCnf files (fun _ ps => ps) (loadFuel files) 0 main [] with e | ⟨c, l⟩
  · rw [hr] at h; cases h
  · rw [hr] at h; cases h; rfl

/-! ## Fuel of the loader: `fuel + |loaded| ≥ |files| + 1` is invariant, so it never runs out; more changes nothing -/

theorem lookupFile_isSome_mem {π : Type} {files : Files π} {p : Path}
    (h : (lookupFile files p).isSome = true) : p ∈ files.map (·.1) := by
  unfold lookupFile at h
  rw [Option.isSome_map, List.find?_isSome] at h
  obtain ⟨x, hx, hp⟩ := h
  have : x.1 = p := by simpa using hp
  exact List.mem_map.mpr ⟨x, hx, this⟩

/-- The loaded set is made of distinct existing files and the fuel still covers the rest. -/
def LoadInv {π : Type} (files : Files π) (fuel : Nat) (loaded : List Path) : Prop :=
  loaded.Nodup ∧ (∀ p, p ∈ loaded → (lookupFile files p).isSome = true) ∧
    files.length + 1 ≤ fuel + loaded.length

theorem LoadInv.length_le {π : Type} {files : Files π} {fuel : Nat} {loaded : List Path}
    (h : LoadInv files fuel loaded) : loaded.length ≤ files.length := by
  have hsub : loaded ⊆ files.map (·.1) := fun p hp => lookupFile_isSome_mem (h.2.1 p hp)
  have := List.Nodup.length_le_of_subset h.1 hsub
  simpa using this

theorem LoadInv.extend {π : Type} {files : Files π} {resolve : Path → π → List Path} {fuel : Nat}
    {todo loaded new : List Path} (h : LoadInv files fuel loaded)
    (hd : DfsList files resolve todo loaded new) : LoadInv files fuel (loaded ++ new) := by
  obtain ⟨nd, dj, ex⟩ := hd.nodup_fresh_exists
  refine ⟨?_, ?_, ?_⟩
  · rw [List.nodup_append]
    refine ⟨h.1, nd, ?_⟩
    intro a ha b hb hab
    subst hab
    exact dj a hb ha
  · intro p hp
    rcases List.mem_append.mp hp with hp | hp
    · exact h.2.1 p hp
    · exact ex p hp
  · have := h.2.2
    simp only [List.length_append]
    omega

theorem includeLoop_fuel {π : Type} {files : Files π} {resolve : Path → π → List Path}
    {fuel : Nat} {rec : Path → List Path → Except Err (Config × List Path)}
    (hspec : RecSpec files resolve rec)
    (hrec : ∀ p loaded, LoadInv files fuel loaded → rec p loaded ≠ .error .outOfFuel) :
    ∀ ps cfg loaded, LoadInv files fuel loaded →
      includeLoop rec ps cfg loaded ≠ .error .outOfFuel := by
  intro ps
  induction ps with
  | nil => intro cfg loaded _; simp [includeLoop]
  | cons p ps ih =>
    intro cfg loaded hinv
    simp only [includeLoop]
    cases hr : rec p loaded with
    | error e =>
      have := hrec p loaded hinv
      rw [hr] at this
      simpa using this
    | ok res =>
      obtain ⟨add, l₁⟩ := res
      obtain ⟨n, rfl, hd, _⟩ := hspec p loaded add l₁ hr
      exact ih _ _ (hinv.extend hd)

theorem readCnf_fuel {π : Type} (files : Files π) (resolve : Path → π → List Path) :
    ∀ fuel depth path loaded, LoadInv files fuel loaded →
      readCnf files resolve fuel depth path loaded ≠ .error .outOfFuel := by
  intro fuel
  induction fuel with
  | zero =>
    intro depth path loaded hinv
    have := hinv.length_le
    have := hinv.2.2
    omega
  | succ fuel ih =>
    intro depth path loaded hinv
    rw [readCnf_eq]
    cases hf : lookupFile files path with
    | none => exact fun h => by cases h
    | some fc =>
      by_cases hd : depth > maxIncludeDepth
      · simp only [hd, if_true]; intro h; cases h
      · by_cases hm : path ∈ loaded
        · simp only [hd, hm, if_true, if_false]; intro h; cases h
        · simp only [hd, hm, if_false]
          have hinv' : LoadInv files fuel (loaded ++ [path]) := by
            refine ⟨List.nodup_append.mpr ⟨hinv.1, by simp, ?_⟩, ?_, ?_⟩
            · intro a ha b hb hab
              rw [List.mem_singleton.mp hb] at hab
              exact hm (hab ▸ ha)
            · intro p hp
              rcases List.mem_append.mp hp with hp | hp
              · exact hinv.2.1 p hp
              · rw [List.mem_singleton.mp hp, hf]; rfl
            · have := hinv.2.2
              rw [List.length_append, List.length_singleton]
              omega
          exact includeLoop_fuel (readCnf_spec files resolve fuel (depth + 1)) (ih (depth + 1)) _ _ _ hinv'

theorem LoadInv.init {π : Type} (files : Files π) : LoadInv files (loadFuel files) [] := by
  refine ⟨List.nodup_nil, by simp, ?_⟩
  simp [loadFuel]

theorem includeLoop_mono {rec rec' : Path → List Path → Except Err (Config × List Path)}
    (hrec : ∀ p loaded, rec p loaded ≠ .error .outOfFuel → rec' p loaded = rec p loaded) :
    ∀ ps cfg loaded, includeLoop rec ps cfg loaded ≠ .error .outOfFuel →
      includeLoop rec' ps cfg loaded = includeLoop rec ps cfg loaded := by
  intro ps
  induction ps with
  | nil => intro cfg loaded _; rfl
  | cons p ps ih =>
    intro cfg loaded h
    simp only [includeLoop] at h ⊢
    cases hr : rec p loaded with
    | error e =>
      have hne : rec p loaded ≠ .error .outOfFuel := by
        intro hc; rw [hr] at hc h; exact h (by simp_all)
      rw [hrec p loaded hne, hr]
    | ok res =>
      have hne : rec p loaded ≠ .error .outOfFuel := by rw [hr]; simp
      rw [hrec p loaded hne, hr]
      rw [hr] at h
      exact ih _ _ h

theorem readCnf_mono {π : Type} (files : Files π) (resolve : Path → π → List Path) :
    ∀ fuel depth path loaded, readCnf files resolve fuel depth path loaded ≠ .error .outOfFuel →
      readCnf files resolve (fuel + 1) depth path loaded = readCnf files resolve fuel depth path loaded := by
  intro fuel
  induction fuel using Nat.strongRecOn with
  | _ fuel ih =>
    intro depth path loaded h
    rw [readCnf_eq] at h
    rw [readCnf_eq files resolve (fuel + 1), readCnf_eq files resolve fuel]
    cases hf : lookupFile files path with
    | none => rfl
    | some fc =>
      by_cases hd : depth > maxIncludeDepth
      · simp only [hd, if_true]
      · by_cases hm : path ∈ loaded
        · simp only [hd, hm, if_true, if_false]
        · simp only [hf, hd, hm, if_false] at h ⊢
          cases fuel with
          | zero => exact absurd rfl h
          | succ f => exact includeLoop_mono (fun p l hne => ih f (Nat.lt_succ_self f) (depth + 1) p l hne) _ _ _ h

theorem readCnf_more_fuel {π : Type} (files : Files π) (resolve : Path → π → List Path)
    (fuel extra depth : Nat) (path : Path) (loaded : List Path)
    (h : readCnf files resolve fuel depth path loaded ≠ .error .outOfFuel) :
    readCnf files resolve (fuel + extra) depth path loaded = readCnf files resolve fuel depth path loaded := by
  induction extra with
  | zero => rfl
  | succ k ih =>
    rw [← Nat.add_assoc, readCnf_mono files resolve (fuel + k) depth path loaded (by rw [ih]; exact h), ih]

/-! ## Three-level getters -/

theorem certLevel_found (cfg : Config) (c : Certificate) (cv : Option Val)
    (epv : Endpoint → Option Val) (o : GlobalOpt) (ep : Endpoint)
    (hep : findEndpoint cfg c.endpoint = some ep) :
    certLevel cfg c cv epv o = .ok (mostSpecific [cv, epv ep, optGet o cfg.global]) := by
  cases cv <;> cases h₂ : epv ep <;> cases h₃ : optGet o cfg.global <;>
    simp [certLevel, endpointLevel, globalSetting, mostSpecific, Setting.ofOption, hep, h₂, h₃]

theorem certLevel_given (cfg : Config) (c : Certificate) (v : Val)
    (epv : Endpoint → Option Val) (o : GlobalOpt) :
    certLevel cfg c (some v) epv o = .ok (.given v) := rfl

theorem certLevel_unknown (cfg : Config) (c : Certificate)
    (epv : Endpoint → Option Val) (o : GlobalOpt) (hep : findEndpoint cfg c.endpoint = none) :
    certLevel cfg c none epv o = .error (.unknownEndpoint c.endpoint) := by
  simp [certLevel, hep]

theorem effectiveDirectory_eq (cfg : Config) (c : Certificate) :
    effectiveDirectory cfg c = mostSpecific [c.directory, optGet .certificates_directory cfg.global] := by
  cases h₁ : c.directory <;> cases h₃ : optGet .certificates_directory cfg.global <;>
    simp [effectiveDirectory, globalSetting, mostSpecific, Setting.ofOption, h₁, h₃]

/-! ## Hook expansion `get_hook_rec`: one call, the two loops, fuel -/

theorem expandHook_hook {cfg : Config} {name : String} {h : Hook} (hh : findHook cfg name = some h)
    (fuel : Nat) (parents : List String) (b : Nat) :
    expandHook cfg fuel parents (b + 1) name = .ok ([h], b) := by
  unfold expandHook
  rw [hh]

theorem expandHook_group {cfg : Config} {name : String} {g : Group} {parents : List String}
    (hh : findHook cfg name = none) (hg : findGroup cfg name = some g) (hm : name ∉ parents)
    (hd : parents.length < maxHookGroupDepth) (fuel b : Nat) :
    expandHook cfg (fuel + 1) parents (b + 1) name =
      groupLoop (expandHook cfg fuel (parents ++ [name])) g.hooks [] b := by
  unfold expandHook
  rw [hh, hg]
  exact (if_neg hm).trans (if_neg (Nat.not_le_of_lt hd))

theorem expandHook_no_fuel {cfg : Config} {name : String} {g : Group} {parents : List String}
    (hh : findHook cfg name = none) (hg : findGroup cfg name = some g) (hm : name ∉ parents)
    (hd : parents.length < maxHookGroupDepth) (b : Nat) :
    expandHook cfg 0 parents (b + 1) name = .error .outOfFuel := by
  unfold expandHook
  rw [hh, hg]
  exact (if_neg hm).trans (if_neg (Nat.not_le_of_lt hd))

/-- The cycle test comes after the budget test, hence `budget + 1`. -/
theorem expandHook_on_path {cfg : Config} {name : String} {g : Group} {parents : List String}
    (hh : findHook cfg name = none) (hg : findGroup cfg name = some g) (hm : name ∈ parents)
    (fuel budget : Nat) :
    expandHook cfg fuel parents (budget + 1) name = .error (.groupCycle name) := by
  unfold expandHook
  rw [hh, hg]
  exact if_pos hm

theorem expandHook_ok_inv {cfg : Config} {fuel : Nat} {parents : List String} {budget : Nat} {name : String}
    {r : List Hook} {b' : Nat} (h : expandHook cfg fuel parents budget name = .ok (r, b')) :
    ∃ b, budget = b + 1 ∧
      ((∃ hk, findHook cfg name = some hk ∧ r = [hk] ∧ b' = b) ∨
       (∃ g f, findHook cfg name = none ∧ findGroup cfg name = some g ∧ name ∉ parents ∧
          parents.length < maxHookGroupDepth ∧ fuel = f + 1 ∧
          groupLoop (expandHook cfg f (parents ++ [name])) g.hooks [] b = .ok (r, b'))) := by
  cases budget with
  | zero => unfold expandHook at h; cases h
  | succ b =>
    refine ⟨b, rfl, ?_⟩
    cases hh : findHook cfg name with
    | some hk => rw [expandHook_hook hh] at h; cases h; exact .inl ⟨hk, rfl, rfl, rfl⟩
    | none =>
      cases hg : findGroup cfg name with
      | none => unfold expandHook at h; simp only [hh, hg] at h; cases h
      | some g =>
        by_cases hm : name ∈ parents
        · rw [expandHook_on_path hh hg hm fuel b] at h; cases h
        · by_cases hd : parents.length ≥ maxHookGroupDepth
          · unfold expandHook at h; simp only [hh, hg, hm, hd, if_true, if_false] at h; cases h
          · have hd' := Nat.lt_of_not_le hd
            cases fuel with
            | zero => rw [expandHook_no_fuel hh hg hm hd'] at h; cases h
            | succ f =>
              rw [expandHook_group hh hg hm hd'] at h
              exact .inr ⟨g, f, rfl, rfl, hm, hd', rfl, h⟩

theorem expandHook_congr {cfg cfg' : Config} (hh : cfg'.hooks = cfg.hooks) (hg : cfg'.groups = cfg.groups) :
    ∀ fuel, expandHook cfg' fuel = expandHook cfg fuel := by
  intro fuel
  induction fuel with
  | zero =>
    funext parents budget name
    unfold expandHook
    simp only [findHook, findGroup, hh, hg]
  | succ fuel ih =>
    funext parents budget name
    unfold expandHook
    simp only [findHook, findGroup, hh, hg, ih]

theorem getHook_congr {cfg cfg' : Config} (hh : cfg'.hooks = cfg.hooks) (hg : cfg'.groups = cfg.groups)
    (name : String) : getHook cfg' name = getHook cfg name := by
  unfold getHook expandFuel
  rw [expandHook_congr hh hg, hg]

theorem getHook_ok {cfg : Config} {name : String} {r : List Hook} (h : getHook cfg name = .ok r) :
    ∃ b, expandHook cfg (expandFuel cfg) [] maxHookGroupMembers name = .ok (r, b) := by
  unfold getHook at h
  cases he : expandHook cfg (expandFuel cfg) [] maxHookGroupMembers name with
  | error e => simp [he] at h
  | ok res =>
    obtain ⟨hs, b⟩ := res
    simp only [he, Except.ok.injEq] at h
    subst h; exact ⟨b, rfl⟩

theorem getHook_error {cfg : Config} {name : String} {e : Err} (h : getHook cfg name = .error e) :
    expandHook cfg (expandFuel cfg) [] maxHookGroupMembers name = .error e := by
  unfold getHook at h
  cases he : expandHook cfg (expandFuel cfg) [] maxHookGroupMembers name with
  | error e' => simp only [he, Except.error.injEq] at h; rw [h]
  | ok res => obtain ⟨hs, b⟩ := res; simp [he] at h

theorem groupLoop_single (rec : Nat → String → Except Err (List Hook × Nat)) (n : String) (b : Nat) :
    groupLoop rec [n] [] b = rec b n := by
  rcases h : rec b n with e | ⟨hs, b'⟩ <;> simp only [groupLoop, h, List.nil_append]

theorem expandNames_single (rec : String → Except Err (List Hook)) (n : String) :
    expandNames rec [n] = rec n := by
  cases h : rec n <;> simp only [expandNames, h, List.append_nil]

theorem groupLoop_error {rec : Nat → String → Except Err (List Hook × Nat)} :
    ∀ (ns : List String) (acc : List Hook) (b : Nat) (e : Err),
      groupLoop rec ns acc b = .error e → ∃ n, n ∈ ns ∧ ∃ b₁, rec b₁ n = .error e := by
  intro ns
  induction ns with
  | nil => intro acc b e h; simp [groupLoop] at h
  | cons m ns ih =>
    intro acc b e h
    simp only [groupLoop] at h
    cases hm : rec b m with
    | error e' =>
      simp only [hm, Except.error.injEq] at h
      subst h; exact ⟨m, by simp, b, hm⟩
    | ok r =>
      obtain ⟨hs, b'⟩ := r
      simp only [hm] at h
      obtain ⟨n, hn, hne⟩ := ih _ _ _ h
      exact ⟨n, by simp [hn], hne⟩

theorem groupLoop_ne_outOfFuel {rec : Nat → String → Except Err (List Hook × Nat)}
    (hrec : ∀ b n, rec b n ≠ .error .outOfFuel) :
    ∀ ns acc b, groupLoop rec ns acc b ≠ .error .outOfFuel := by
  intro ns acc b h
  obtain ⟨n, _, b₁, hn⟩ := groupLoop_error ns acc b _ h
  exact hrec b₁ n hn

theorem expandNames_ok (rec : String → Except Err (List Hook)) :
    ∀ (ns : List String) (r : List Hook), expandNames rec ns = .ok r ↔
      ∃ rs : List (List Hook), ns.map rec = rs.map .ok ∧ r = rs.flatten := by
  intro ns
  induction ns with
  | nil =>
    intro r
    exact ⟨fun h => ⟨[], rfl, by cases h; rfl⟩, fun ⟨rs, h₁, h₂⟩ => by
      rw [h₂, List.map_eq_nil_iff.mp h₁.symm]; rfl⟩
  | cons n ns ih =>
    intro r
    simp only [expandNames, List.map_cons]
    constructor
    · intro h
      cases hn : rec n with
      | error e => rw [hn] at h; cases h
      | ok hs =>
        rw [hn] at h
        cases hr : expandNames rec ns with
        | error e => rw [hr] at h; cases h
        | ok rest =>
          rw [hr] at h; cases h
          obtain ⟨rs, h₁, h₂⟩ := (ih rest).mp hr
          exact ⟨hs :: rs, by rw [h₁]; rfl, by rw [h₂]; rfl⟩
    · rintro ⟨_ | ⟨a, rs⟩, h₁, h₂⟩
      · cases h₁
      · injection h₁ with hn h₁
        rw [hn, (ih rs.flatten).mpr ⟨rs, h₁, rfl⟩, h₂]
        rfl

theorem expandNames_ne_outOfFuel {rec : String → Except Err (List Hook)}
    (hrec : ∀ n, rec n ≠ .error .outOfFuel) :
    ∀ ns, expandNames rec ns ≠ .error .outOfFuel := by
  intro ns
  induction ns with
  | nil => simp [expandNames]
  | cons n ns ih =>
    simp only [expandNames]
    cases hn : rec n with
    | error e => have := hrec n; rw [hn] at this; simpa using this
    | ok hs =>
      cases hr : expandNames rec ns with
      | error e => rw [hr] at ih; simpa using ih
      | ok rest => simp

theorem expandNames_error {rec : String → Except Err (List Hook)} :
    ∀ (ns : List String) (e : Err), expandNames rec ns = .error e → ∃ n, n ∈ ns ∧ rec n = .error e := by
  intro ns
  induction ns with
  | nil => intro e h; simp [expandNames] at h
  | cons n ns ih =>
    intro e h
    simp only [expandNames] at h
    cases hn : rec n with
    | error e' =>
      simp only [hn, Except.error.injEq] at h
      subst h; exact ⟨n, by simp, hn⟩
    | ok hs =>
      simp only [hn] at h
      cases hr : expandNames rec ns with
      | error e' =>
        simp only [hr, Except.error.injEq] at h
        subst h
        obtain ⟨m, hm, hme⟩ := ih e' hr
        exact ⟨m, by simp [hm], hme⟩
      | ok rest => simp [hr] at h

theorem findGroup_some_mem {cfg : Config} {n : String} {g : Group}
    (h : findGroup cfg n = some g) : n ∈ cfg.groups.map (·.name) := by
  unfold findGroup at h
  have h₁ := List.mem_of_find?_eq_some h
  have h₂ := List.find?_some h
  have : g.name = n := by simpa using h₂
  exact List.mem_map.mpr ⟨g, h₁, this⟩

/-- `parents` is a repetition-free path of group names and the fuel covers the groups left. -/
def PathInv (cfg : Config) (fuel : Nat) (parents : List String) : Prop :=
  parents.Nodup ∧ (∀ p, p ∈ parents → p ∈ cfg.groups.map (·.name)) ∧
    cfg.groups.length + 1 ≤ fuel + parents.length

theorem PathInv.length_le {cfg : Config} {fuel : Nat} {parents : List String}
    (h : PathInv cfg fuel parents) : parents.length ≤ cfg.groups.length := by
  have := List.Nodup.length_le_of_subset h.1 (fun p hp => h.2.1 p hp)
  simpa using this

theorem expandHook_fuel (cfg : Config) :
    ∀ fuel parents budget name, PathInv cfg fuel parents →
      expandHook cfg fuel parents budget name ≠ .error .outOfFuel := by
  intro fuel
  induction fuel with
  | zero =>
    intro parents budget name hinv
    have := hinv.length_le
    have := hinv.2.2
    omega
  | succ fuel ih =>
    intro parents budget name hinv
    unfold expandHook
    cases budget with
    | zero => simp
    | succ budget =>
    cases hh : findHook cfg name with
    | some h => simp
    | none =>
      cases hg : findGroup cfg name with
      | none => simp
      | some g =>
        by_cases hm : name ∈ parents
        · simp [hm]
        · by_cases hd : parents.length ≥ maxHookGroupDepth
          · simp [hm, hd]
          · simp only [hm, hd, if_false]
            have hinv' : PathInv cfg fuel (parents ++ [name]) := by
              refine ⟨?_, ?_, ?_⟩
              · rw [List.nodup_append]
                refine ⟨hinv.1, by simp, ?_⟩
                intro a ha b hb hab
                simp only [List.mem_singleton] at hb
                subst hab; subst hb
                exact hm ha
              · intro p hp
                rcases List.mem_append.mp hp with hp | hp
                · exact hinv.2.1 p hp
                · simp only [List.mem_singleton] at hp
                  subst hp; exact findGroup_some_mem hg
              · have := hinv.2.2
                simp only [List.length_append, List.length_singleton]
                omega
            exact groupLoop_ne_outOfFuel (fun b n => ih _ b n hinv') _ _ _

theorem PathInv.init (cfg : Config) : PathInv cfg (expandFuel cfg) [] := by
  refine ⟨List.nodup_nil, by simp, ?_⟩
  simp [expandFuel]

/-! ## Hook expansion: soundness (denotation, visits), cycles, completeness -/

theorem _root_.AcmedVerif.Spec.C14.ExpandsList.nil_inv {cfg : Config} {r : List Hook} (h : ExpandsList cfg [] r) : r = [] := by
  cases h; rfl

theorem _root_.AcmedVerif.Spec.C14.ExpandsList.append {cfg : Config} {a b : List String} {r₁ r₂ : List Hook}
    (h₁ : ExpandsList cfg a r₁) (h₂ : ExpandsList cfg b r₂) : ExpandsList cfg (a ++ b) (r₁ ++ r₂) := by
  induction h₁ with
  | nil => simpa using h₂
  | hook hh _ ih => exact .hook hh ih
  | group hh hg hmem _ _ ih₂ =>
    have := ExpandsList.group hh hg hmem ih₂
    simpa [List.append_assoc] using this

theorem _root_.AcmedVerif.Spec.C14.ExpandsList.unique {cfg : Config} {ns : List String} {r r' : List Hook}
    (h : ExpandsList cfg ns r) (h' : ExpandsList cfg ns r') : r = r' := by
  induction h generalizing r' with
  | nil => exact h'.nil_inv.symm
  | hook hh _ ih =>
    cases h' with
    | hook hh' hr =>
      rw [hh] at hh'; cases hh'
      rw [ih hr]
    | group hh' _ _ _ => rw [hh] at hh'; cases hh'
  | group hh hg _ _ ih₁ ih₂ =>
    cases h' with
    | hook hh' _ => rw [hh] at hh'; cases hh'
    | group _ hg' hm hr =>
      rw [hg] at hg'; cases hg'
      rw [ih₁ hm, ih₂ hr]

theorem _root_.AcmedVerif.Spec.C14.ExpandsList.resolves {cfg : Config} {ns : List String} {r : List Hook}
    (h : ExpandsList cfg ns r) : ∀ n, n ∈ ns → Resolves cfg n := by
  induction h with
  | nil => intro n hn; simp at hn
  | hook hh _ ih =>
    intro m hm
    rcases List.mem_cons.mp hm with hm | hm
    · subst hm; exact .hook hh
    · exact ih m hm
  | group hh hg _ _ ih₁ ih₂ =>
    intro m hm
    rcases List.mem_cons.mp hm with hm | hm
    · subst hm; exact .group hh hg ih₁
    · exact ih₂ m hm

theorem _root_.AcmedVerif.Spec.C14.VisitsList.nil_inv {cfg : Config} {d k : Nat}
    (h : VisitsList cfg d [] k) : k = 0 := by
  cases h; rfl

theorem _root_.AcmedVerif.Spec.C14.VisitsList.cons_of_single {cfg : Config} {d : Nat} {n : String}
    {ns : List String} {k₁ k₂ : Nat} (h₁ : VisitsList cfg d [n] k₁) (h₂ : VisitsList cfg d ns k₂) :
    VisitsList cfg d (n :: ns) (k₁ + k₂) := by
  cases h₁ with
  | hook hh hrest =>
    have := hrest.nil_inv; subst this
    have h := VisitsList.hook hh h₂
    rwa [show k₂ + 1 = 0 + 1 + k₂ by omega] at h
  | group hh hg hd hmem hrest =>
    have := hrest.nil_inv; subst this
    have h := VisitsList.group hh hg hd hmem h₂
    rwa [show ∀ a, 1 + a + k₂ = 1 + a + 0 + k₂ by intro a; omega] at h

theorem _root_.AcmedVerif.Spec.C14.VisitsList.resolves {cfg : Config} {d : Nat} {ns : List String} {k : Nat}
    (h : VisitsList cfg d ns k) : ∀ n, n ∈ ns → Resolves cfg n := by
  induction h with
  | nil => intro n hn; simp at hn
  | hook hh _ ih =>
    intro m hm
    rcases List.mem_cons.mp hm with hm | hm
    · subst hm; exact .hook hh
    · exact ih m hm
  | group hh hg _ _ _ ih₁ ih₂ =>
    intro m hm
    rcases List.mem_cons.mp hm with hm | hm
    · subst hm; exact .group hh hg ih₁
    · exact ih₂ m hm

theorem _root_.AcmedVerif.Spec.C14.VisitsList.unique {cfg : Config} {d : Nat} {ns : List String} {k k' : Nat}
    (h : VisitsList cfg d ns k) (h' : VisitsList cfg d ns k') : k = k' := by
  induction h generalizing k' with
  | nil => exact h'.nil_inv.symm
  | hook hh _ ih =>
    cases h' with
    | hook _ hr => rw [ih hr]
    | group hh' _ _ _ _ => rw [hh] at hh'; cases hh'
  | group hh hg _ _ _ ih₁ ih₂ =>
    cases h' with
    | hook hh' _ => rw [hh] at hh'; cases hh'
    | group _ hg' _ hm hr =>
      rw [hg] at hg'; cases hg'
      rw [ih₁ hm, ih₂ hr]

theorem expandNames_denotes {cfg : Config} {rec : String → Except Err (List Hook)}
    (hrec : ∀ n r, rec n = .ok r → ExpandsList cfg [n] r) :
    ∀ ns r, expandNames rec ns = .ok r → ExpandsList cfg ns r := by
  intro ns
  induction ns with
  | nil =>
    intro r h
    simp only [expandNames, Except.ok.injEq] at h
    subst h; exact .nil
  | cons n ns ih =>
    intro r h
    simp only [expandNames] at h
    cases hn : rec n with
    | error e => simp [hn] at h
    | ok hs =>
      simp only [hn] at h
      cases hr : expandNames rec ns with
      | error e => simp [hr] at h
      | ok rest =>
        simp only [hr, Except.ok.injEq] at h
        subst h
        exact (hrec n hs hn).append (ih rest hr)

theorem groupLoop_ok_spec {cfg : Config} {d : Nat} {rec : Nat → String → Except Err (List Hook × Nat)}
    (hrec : ∀ b n hs b', rec b n = .ok (hs, b') →
      ExpandsList cfg [n] hs ∧ ∃ k, VisitsList cfg d [n] k ∧ b = b' + k ∧ hs.length ≤ k) :
    ∀ (ns : List String) (acc : List Hook) (b : Nat) (r : List Hook) (b' : Nat),
      groupLoop rec ns acc b = .ok (r, b') →
      ∃ r' k, r = acc ++ r' ∧ ExpandsList cfg ns r' ∧ VisitsList cfg d ns k ∧ b = b' + k ∧ r'.length ≤ k := by
  intro ns
  induction ns with
  | nil =>
    intro acc b r b' h
    simp only [groupLoop, Except.ok.injEq, Prod.mk.injEq] at h
    exact ⟨[], 0, by rw [← h.1, List.append_nil], .nil, .nil, h.2, Nat.le_refl _⟩
  | cons n ns ih =>
    intro acc b r b' h
    simp only [groupLoop] at h
    cases hn : rec b n with
    | error e => rw [hn] at h; cases h
    | ok res =>
      obtain ⟨hs, b₁⟩ := res
      simp only [hn] at h
      obtain ⟨hd₁, k₁, hv₁, hb₁, hl₁⟩ := hrec b n hs b₁ hn
      obtain ⟨r', k₂, hr, hd₂, hv₂, hb₂, hl₂⟩ := ih _ _ _ _ h
      exact ⟨hs ++ r', k₁ + k₂, by rw [hr, List.append_assoc], hd₁.append hd₂,
        hv₁.cons_of_single hv₂, by omega, by rw [List.length_append]; omega⟩

/-- Soundness of `get_hook_rec`: whatever it expands, met at nesting level `|parents|`, is the denotation of
the name, was visited member by member within the depth limit, cost the budget one per visit, and holds at
most one hook per visit (a group: one less). -/
theorem expandHook_ok_spec (cfg : Config) :
    ∀ fuel parents budget n r b', expandHook cfg fuel parents budget n = .ok (r, b') →
      ExpandsList cfg [n] r ∧ ∃ k, VisitsList cfg parents.length [n] k ∧ budget = b' + k ∧ r.length ≤ k ∧
        (findHook cfg n = none → r.length + 1 ≤ k) := by
  intro fuel
  induction fuel using Nat.strongRecOn with
  | _ fuel ih =>
    intro parents budget n r b' h
    obtain ⟨b, rfl, ⟨hk, hh, rfl, rfl⟩ | ⟨g, f, hh, hg, _, hd, rfl, hl⟩⟩ := expandHook_ok_inv h
    · exact ⟨.hook hh .nil, 1, .hook hh .nil, rfl, Nat.le_refl _, fun hn => by rw [hh] at hn; cases hn⟩
    · obtain ⟨r', k, hr, hden, hv, hb, hlen⟩ := groupLoop_ok_spec (d := parents.length + 1)
        (fun b₁ m hs b₂ hm => by
          obtain ⟨h1, k, h2, h3, h4, _⟩ := ih f (Nat.lt_succ_self f) (parents ++ [n]) b₁ m hs b₂ hm
          rw [List.length_append, List.length_singleton] at h2
          exact ⟨h1, k, h2, h3, h4⟩) g.hooks [] b r b' hl
      rw [List.nil_append] at hr
      subst hr
      have h2 := ExpandsList.group (ns := []) hh hg hden .nil
      rw [List.append_nil] at h2
      exact ⟨h2, 1 + k + 0, .group (ns := []) hh hg hd hv .nil, by omega, by omega, fun _ => by omega⟩

theorem expandHook_denotes (cfg : Config) (fuel : Nat) (parents : List String) (budget : Nat) (n : String)
    (r : List Hook) (b' : Nat) (h : expandHook cfg fuel parents budget n = .ok (r, b')) :
    ExpandsList cfg [n] r :=
  (expandHook_ok_spec cfg fuel parents budget n r b' h).1

theorem getHook_denotes {cfg : Config} {n : String} {r : List Hook} (h : getHook cfg n = .ok r) :
    ExpandsList cfg [n] r := by
  obtain ⟨b, hb⟩ := getHook_ok h
  exact expandHook_denotes cfg _ _ _ n r b hb

theorem getHooks_denotes {cfg : Config} {names : List String} {r : List Hook}
    (h : getHooks cfg names = .ok r) : ExpandsList cfg names r :=
  expandNames_denotes (fun _ _ hn => getHook_denotes hn) names r h

theorem _root_.AcmedVerif.Spec.C14.Reach.snoc {cfg : Config} {a b c : String} (h : Reach cfg a b) (hm : Member cfg b c) :
    Reach cfg a c := by
  induction h with
  | step h₁ => exact .trans h₁ (.step hm)
  | trans h₁ _ ih => exact .trans h₁ (ih hm)

theorem _root_.AcmedVerif.Spec.C14.Resolves.acyclic {cfg : Config} {n : String} (h : Resolves cfg n) :
    ∀ m, Reach cfg n m → m ≠ n := by
  induction h with
  | hook hh =>
    intro m hr
    cases hr with
    | step hm => rw [hm.1] at hh; cases hh
    | trans hm _ => rw [hm.1] at hh; cases hh
  | @group n g hh hg _ ih =>
    intro m hr hmn
    subst hmn
    -- first step of the cycle: `m → x` with `x` a member of `g`
    have first : ∃ x, x ∈ g.hooks ∧ (x = m ∨ Reach cfg x m) := by
      cases hr with
      | step hm =>
        obtain ⟨_, g', hg', hx⟩ := hm
        rw [hg] at hg'; cases hg'
        exact ⟨_, hx, .inl rfl⟩
      | trans hm hrest =>
        obtain ⟨_, g', hg', hx⟩ := hm
        rw [hg] at hg'; cases hg'
        exact ⟨_, hx, .inr hrest⟩
    obtain ⟨x, hx, hcase⟩ := first
    have hmx : Member cfg m x := ⟨hh, g, hg, hx⟩
    rcases hcase with rfl | hxm
    · exact ih x hx x (.step hmx) rfl
    · exact ih x hx x (hxm.snoc hmx) rfl

theorem _root_.AcmedVerif.Spec.C14.Resolves.member {cfg : Config} {a b : String} (h : Resolves cfg a)
    (hm : Member cfg a b) : Resolves cfg b := by
  obtain ⟨hh, g, hg, hb⟩ := hm
  cases h with
  | hook hh' => rw [hh] at hh'; cases hh'
  | group _ hg' hall => rw [hg] at hg'; cases hg'; exact hall b hb

theorem _root_.AcmedVerif.Spec.C14.Resolves.of_reach {cfg : Config} {a b : String} (hr : Reach cfg a b) :
    Resolves cfg a → Resolves cfg b := by
  induction hr with
  | step hm => exact fun h => h.member hm
  | trans hm _ ih => exact fun h => ih (h.member hm)

/-- What `get_hook_rec` expands resolves; with `Resolves.acyclic`: nothing on or leading to a membership
cycle ever expands. -/
theorem expandHook_ok_resolves {cfg : Config} {fuel : Nat} {parents : List String} {budget : Nat} {n : String}
    {res : List Hook × Nat} (h : expandHook cfg fuel parents budget n = .ok res) : Resolves cfg n :=
  (expandHook_ok_spec cfg fuel parents budget n res.1 res.2 h).1.resolves n (List.mem_singleton.mpr rfl)

/-- Completeness of the group loop and of `get_hook_rec` at once: names that are visited within the
budget, along a path that leads to them and is as long as their nesting level, expand — the budget
goes down by exactly the number of visits — or the fuel runs out. -/
theorem _root_.AcmedVerif.Spec.C14.VisitsList.loop {cfg : Config} {d : Nat} {ns : List String} {k : Nat}
    (h : VisitsList cfg d ns k) :
    ∀ fuel parents acc b, parents.length = d → (∀ p, p ∈ parents → ∀ n, n ∈ ns → Reach cfg p n) → k ≤ b →
      (∃ r, groupLoop (expandHook cfg fuel parents) ns acc b = .ok (r, b - k)) ∨
      groupLoop (expandHook cfg fuel parents) ns acc b = .error .outOfFuel := by
  induction h with
  | nil => intro fuel parents acc b _ _ _; exact .inl ⟨acc, rfl⟩
  | @hook d n ns hk k hh _ ih =>
    intro fuel parents acc b hlen hpath hb
    obtain ⟨b0, rfl⟩ := Nat.exists_eq_add_one_of_ne_zero (Nat.ne_of_gt (Nat.lt_of_lt_of_le (Nat.succ_pos k) hb))
    simp only [groupLoop, expandHook_hook hh, Nat.add_sub_add_right]
    exact ih fuel parents (acc ++ [hk]) b0 hlen (fun p hp m hm => hpath p hp m (List.mem_cons_of_mem _ hm))
      (Nat.le_of_succ_le_succ hb)
  | @group d n ns g k₁ k₂ hh hg hdepth hmem hrest ih₁ ih₂ =>
    intro fuel parents acc b hlen hpath hb
    obtain ⟨b0, rfl⟩ : ∃ b0, b = b0 + 1 := ⟨b - 1, by omega⟩
    have hres : Resolves cfg n := .group hh hg hmem.resolves
    have hnot : n ∉ parents := fun hp => hres.acyclic n (hpath n hp n List.mem_cons_self) rfl
    have hd : parents.length < maxHookGroupDepth := hlen ▸ hdepth
    cases fuel with
    | zero => exact .inr (by simp only [groupLoop, expandHook_no_fuel hh hg hnot hd])
    | succ fuel =>
      have hpath' : ∀ p, p ∈ parents ++ [n] → ∀ m, m ∈ g.hooks → Reach cfg p m := by
        intro p hp m hm
        have hnm : Member cfg n m := ⟨hh, g, hg, hm⟩
        rcases List.mem_append.mp hp with hp | hp
        · exact (hpath p hp n List.mem_cons_self).snoc hnm
        · rw [List.mem_singleton.mp hp]; exact .step hnm
      simp only [groupLoop, expandHook_group hh hg hnot hd]
      rcases ih₁ fuel (parents ++ [n]) [] b0 (by rw [List.length_append, hlen]; rfl) hpath' (by omega)
        with ⟨r₁, hr₁⟩ | he
      · rw [hr₁, show b0 + 1 - (1 + k₁ + k₂) = b0 - k₁ - k₂ by omega]
        exact ih₂ (fuel + 1) parents (acc ++ r₁) (b0 - k₁) hlen
          (fun p hp m hm => hpath p hp m (List.mem_cons_of_mem _ hm)) (by omega)
      · exact .inr (by rw [he])

theorem getHook_isOk {cfg : Config} {n : String} : (∃ r, getHook cfg n = .ok r) ↔ ResolvesWithin cfg n := by
  constructor
  · rintro ⟨r, h⟩
    obtain ⟨b, hb⟩ := getHook_ok h
    obtain ⟨_, k, hv, hk, _⟩ := expandHook_ok_spec cfg _ _ _ n r b hb
    exact ⟨k, hv, by omega⟩
  · rintro ⟨k, hv, hk⟩
    have := hv.loop (expandFuel cfg) [] [] maxHookGroupMembers rfl (fun _ hp => nomatch hp) hk
    rw [groupLoop_single] at this
    unfold getHook
    rcases this with ⟨r, hr⟩ | hf
    · rw [hr]; exact ⟨_, rfl⟩
    · exact absurd hf (expandHook_fuel cfg _ [] _ n (PathInv.init cfg))

theorem _root_.AcmedVerif.Spec.C14.ResolvesWithin.resolves {cfg : Config} {n : String}
    (h : ResolvesWithin cfg n) : Resolves cfg n :=
  let ⟨_, hv, _⟩ := h
  hv.resolves n (List.mem_singleton.mpr rfl)

/-! ## The start-up checks of `MainEventLoop::new` -/

theorem getHooks_isOk {cfg : Config} : ∀ names : List String,
    (∃ r, getHooks cfg names = .ok r) ↔ ∀ n, n ∈ names → ResolvesWithin cfg n
  | [] => ⟨fun _ _ hn => (nomatch hn), fun _ => ⟨[], rfl⟩⟩
  | n :: ns => by
    rw [List.forall_mem_cons, ← getHooks_isOk ns]
    unfold getHooks
    constructor
    · rintro ⟨r, h⟩
      simp only [expandNames] at h
      cases hn : getHook cfg n with
      | error e => rw [hn] at h; cases h
      | ok hs =>
        rw [hn] at h
        cases hr : expandNames (getHook cfg) ns with
        | error e => rw [hr] at h; cases h
        | ok rest => exact ⟨getHook_isOk.mp ⟨hs, hn⟩, rest, rfl⟩
    · rintro ⟨hw, rest, hr⟩
      obtain ⟨hs, hn⟩ := getHook_isOk.mpr hw
      exact ⟨hs ++ rest, by simp only [expandNames, hn, hr]⟩

theorem resolveRateLimits_isOk {cfg : Config} : ∀ ns : List String,
    (∃ r, resolveRateLimits cfg ns = .ok r) ↔ ∀ n, n ∈ ns → (findRateLimit cfg n).isSome = true
  | [] => ⟨fun _ _ hn => (nomatch hn), fun _ => ⟨[], rfl⟩⟩
  | a :: ns => by
    rw [List.forall_mem_cons, ← resolveRateLimits_isOk ns]
    simp only [resolveRateLimits]
    cases findRateLimit cfg a with
    | none => simp
    | some rl => cases resolveRateLimits cfg ns <;> simp

theorem buildAccounts_isOk {cfg : Config} : ∀ as : List Account,
    (∃ r, buildAccounts cfg as = .ok r) ↔ ∀ a, a ∈ as → ∀ h, h ∈ a.hooks → ResolvesWithin cfg h
  | [] => ⟨fun _ _ ha => (nomatch ha), fun _ => ⟨[], rfl⟩⟩
  | a :: as => by
    rw [List.forall_mem_cons, ← buildAccounts_isOk as, ← getHooks_isOk]
    simp only [buildAccounts]
    cases getHooks cfg a.hooks with
    | error e => simp
    | ok hs => cases buildAccounts cfg as <;> simp

/-- What one successfully built certificate guarantees and contains. -/
structure CertBuilt (cfg : Config) (c : Certificate) (bc : BuiltCert) : Prop where
  ep : ∃ ep, findEndpoint cfg c.endpoint = some ep ∧ bc.endpoint = ep.name ∧
    resolveRateLimits cfg ep.rateLimits = .ok bc.rateLimits
  hooks : ExpandsList cfg c.hooks bc.hooks
  crtId : bc.crtId = c.crtId
  account : bc.account = c.account
  renewDelay : effectiveRenewDelay cfg c = .ok bc.renewDelay
  randomEarlyRenew : effectiveRandomEarlyRenew cfg c = .ok bc.randomEarlyRenew
  fileNameFormat : effectiveFileNameFormat cfg c = .ok bc.fileNameFormat
  directory : bc.directory = effectiveDirectory cfg c
  env : bc.env = c.env

theorem buildCert_ok {cfg : Config} {c : Certificate} {bc : BuiltCert}
    (h : buildCert cfg c = .ok bc) : CertBuilt cfg c bc := by
  unfold buildCert at h
  cases hep : findEndpoint cfg c.endpoint with
  | none => simp [hep] at h
  | some ep =>
    simp only [hep] at h
    cases hrl : resolveRateLimits cfg ep.rateLimits with
    | error e => simp [hrl] at h
    | ok rls =>
      simp only [hrl] at h
      cases hh : getHooks cfg c.hooks with
      | error e => simp [hh] at h
      | ok hs =>
        simp only [hh] at h
        cases hf : effectiveFileNameFormat cfg c with
        | error e => simp [hf] at h
        | ok fmt =>
          simp only [hf] at h
          cases hr : effectiveRandomEarlyRenew cfg c with
          | error e => simp [hr] at h
          | ok rer =>
            simp only [hr] at h
            cases hd : effectiveRenewDelay cfg c with
            | error e => simp [hd] at h
            | ok rd =>
              simp only [hd, Except.ok.injEq] at h
              subst h
              exact ⟨⟨ep, hep, rfl, hrl⟩, getHooks_denotes hh, rfl, rfl, hd, hr, hf, rfl, rfl⟩

/-- One certificate is built exactly when its endpoint and that endpoint's rate limits exist and its hook
names resolve within the limits (the three getters cannot fail once the endpoint is found). -/
theorem buildCert_isOk {cfg : Config} {c : Certificate} :
    (∃ bc, buildCert cfg c = .ok bc) ↔
      (∃ ep, findEndpoint cfg c.endpoint = some ep ∧
        ∀ rl, rl ∈ ep.rateLimits → (findRateLimit cfg rl).isSome = true) ∧
      ∀ h, h ∈ c.hooks → ResolvesWithin cfg h := by
  rw [← getHooks_isOk]
  unfold buildCert
  cases hep : findEndpoint cfg c.endpoint with
  | none => simp
  | some ep =>
    simp only [Option.some.injEq, exists_eq_left', ← resolveRateLimits_isOk, effectiveFileNameFormat,
      effectiveRandomEarlyRenew, effectiveRenewDelay, certLevel_found cfg c _ _ _ ep hep]
    cases resolveRateLimits cfg ep.rateLimits with
    | error e => simp
    | ok rls => cases getHooks cfg c.hooks <;> simp

theorem buildCerts_isOk {cfg : Config} : ∀ (cs : List Certificate) (seen : List String),
    (∃ r, buildCerts cfg cs seen = .ok r) ↔
      (∀ c, c ∈ cs → (∃ bc, buildCert cfg c = .ok bc) ∧ ∃ a, a ∈ cfg.accounts ∧ a.name = c.account) ∧
      (cs.map (·.crtId)).Nodup ∧ ∀ c, c ∈ cs → c.crtId ∉ seen
  | [], _ => ⟨fun _ => ⟨fun _ hc => (nomatch hc), List.nodup_nil, fun _ hc => (nomatch hc)⟩, fun _ => ⟨[], rfl⟩⟩
  | c :: cs, seen => by
    have hacc : cfg.accounts.any (·.name == c.account) = true ↔ ∃ a, a ∈ cfg.accounts ∧ a.name = c.account := by
      simp [List.any_eq_true]
    simp only [List.forall_mem_cons, List.map_cons, List.nodup_cons, List.mem_map, buildCerts]
    cases buildCert cfg c with
    | error e => exact ⟨fun ⟨_, h⟩ => (nomatch h), fun ⟨⟨⟨⟨_, h⟩, _⟩, _⟩, _⟩ => (nomatch h)⟩
    | ok bc =>
      dsimp only
      by_cases hs : c.crtId ∈ seen
      · rw [if_pos hs]
        exact ⟨fun ⟨_, h⟩ => (nomatch h), fun h => absurd hs h.2.2.1⟩
      · rw [if_neg hs]
        by_cases ha : cfg.accounts.any (·.name == c.account) = true
        · rw [if_pos ha]
          have ih := buildCerts_isOk (cfg := cfg) cs (c.crtId :: seen)
          simp only [List.mem_cons, not_or] at ih
          constructor
          · rintro ⟨r, h⟩
            cases hr : buildCerts cfg cs (c.crtId :: seen) with
            | error e => rw [hr] at h; cases h
            | ok rest =>
              obtain ⟨h1, h2, h3⟩ := ih.mp ⟨rest, hr⟩
              exact ⟨⟨⟨⟨bc, rfl⟩, hacc.mp ha⟩, h1⟩, ⟨fun ⟨c', hc', hid⟩ => (h3 c' hc').1 hid, h2⟩, hs,
                fun c' hc' => (h3 c' hc').2⟩
          · rintro ⟨⟨_, h1⟩, ⟨hn, h2⟩, _, h3⟩
            obtain ⟨rest, hr⟩ := ih.mpr ⟨h1, h2, fun c' hc' => ⟨fun hid => hn ⟨c', hc', hid⟩, h3 c' hc'⟩⟩
            exact ⟨bc :: rest, by rw [hr]⟩
        · rw [if_neg ha]
          exact ⟨fun ⟨_, h⟩ => (nomatch h), fun h => absurd (hacc.mpr h.1.1.2) ha⟩

theorem build_ok {cfg : Config} {b : Built} (h : build cfg = .ok b) :
    buildAccounts cfg cfg.accounts = .ok b.accounts ∧
    buildCerts cfg cfg.certificates [] = .ok b.certificates := by
  unfold build at h
  cases ha : buildAccounts cfg cfg.accounts with
  | error e => simp [ha] at h
  | ok accs =>
    simp only [ha] at h
    cases hc : buildCerts cfg cfg.certificates [] with
    | error e => simp [hc] at h
    | ok certs =>
      simp only [hc, Except.ok.injEq] at h
      subst h; exact ⟨rfl, rfl⟩

/-! ## What the judge sees of a built configuration -/

theorem CertBuilt.obs {cfg : Config} {c : Certificate} {bc : BuiltCert} (d : Defaults)
    (h : CertBuilt cfg c bc) : CertObs.ofBuilt d bc = expectedCert d cfg c := by
  obtain ⟨ep, hep, _, _⟩ := h.ep
  have h₁ := h.renewDelay
  have h₂ := h.randomEarlyRenew
  have h₃ := h.fileNameFormat
  unfold effectiveRenewDelay at h₁
  unfold effectiveRandomEarlyRenew at h₂
  unfold effectiveFileNameFormat at h₃
  rw [certLevel_found cfg c _ _ _ ep hep] at h₁ h₂ h₃
  simp only [Except.ok.injEq] at h₁ h₂ h₃
  have hfind : cfg.endpoints.find? (·.name == c.endpoint) = some ep := hep
  simp only [CertObs.ofBuilt, expectedCert, hfind, Option.bind_some, h.crtId, ← h₁, ← h₂, ← h₃,
    h.directory, effectiveDirectory_eq]

theorem buildCerts_obs {cfg : Config} (d : Defaults) : ∀ (cs : List Certificate) (seen : List String)
    (r : List BuiltCert), buildCerts cfg cs seen = .ok r →
      r.map (CertObs.ofBuilt d) = cs.map (expectedCert d cfg)
  | [], _, r, h => by cases h; rfl
  | c :: cs, seen, r, h => by
    simp only [buildCerts] at h
    cases hb : buildCert cfg c with
    | error e => rw [hb] at h; cases h
    | ok bc =>
      rw [hb] at h
      dsimp only at h
      by_cases hs : c.crtId ∈ seen
      · rw [if_pos hs] at h; cases h
      · rw [if_neg hs] at h
        by_cases ha : cfg.accounts.any (·.name == c.account) = true
        · rw [if_pos ha] at h
          cases hr : buildCerts cfg cs (c.crtId :: seen) with
          | error e => rw [hr] at h; cases h
          | ok rest =>
            rw [hr] at h; cases h
            rw [List.map_cons, List.map_cons, (buildCert_ok hb).obs d, buildCerts_obs d cs _ rest hr]
        · rw [if_neg ha] at h; cases h

theorem expectedCert_filter_by_id (d : Defaults) (cfg : Config) :
    ∀ (cs : List Certificate), (cs.map (·.crtId)).Nodup → ∀ c, c ∈ cs →
      (cs.map (expectedCert d cfg)).filter (fun o => o.crtId == c.crtId) = [expectedCert d cfg c] := by
  intro cs
  induction cs with
  | nil => intro _ c hc; simp at hc
  | cons a cs ih =>
    intro hnd c hc
    rw [List.map_cons, List.nodup_cons] at hnd
    have hid : ∀ x : Certificate, (expectedCert d cfg x).crtId = x.crtId := fun _ => rfl
    rcases List.mem_cons.mp hc with hc | hc
    · subst hc
      have hnone : (cs.map (expectedCert d cfg)).filter (fun o => o.crtId == c.crtId) = [] := by
        rw [List.filter_eq_nil_iff]
        intro o ho
        obtain ⟨x, hx, rfl⟩ := List.mem_map.mp ho
        intro heq
        have : x.crtId = c.crtId := by simpa [hid] using heq
        exact hnd.1 (List.mem_map.mpr ⟨x, hx, this⟩)
      simp [hid, hnone]
    · have hne : ¬ a.crtId = c.crtId := by
        intro heq
        exact hnd.1 (List.mem_map.mpr ⟨c, hc, heq.symm⟩)
      simp [hid, hne, ih hnd.2 c hc]

theorem holdsSettings_expected (d : Defaults) (cfg : Config)
    (hnd : (cfg.certificates.map (·.crtId)).Nodup) :
    holdsSettings d cfg (cfg.certificates.map (expectedCert d cfg)) = true := by
  unfold holdsSettings
  simp only [List.length_map, beq_self_eq_true, Bool.true_and, List.all_eq_true]
  intro c hc
  rw [expectedCert_filter_by_id d cfg _ hnd c hc]
  simp

end AcmedVerif.Config
