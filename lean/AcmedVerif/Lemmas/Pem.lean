/-
Lemmas about `Model/Pem.lean`, on `List Char` (the `String` wrappers come last): the padded decoder;
one block (`readBlock_encode`, `readBlock_sound`); chains: for each splitter a chain lemma for any
tail with a fixed residue and a soundness theorem along the splitter's cases.
-/
import AcmedVerif.Model.Pem
import AcmedVerif.Lemmas.Base64

namespace AcmedVerif.Pem
open AcmedVerif.Base64

theorem stdVal_stdChar : ∀ n, n < 64 → stdVal (stdChar n) = some n := by decide +kernel
theorem stdVal_pad : stdVal '=' = none := rfl

theorem stdVal_some {c : Char} {v : Nat} (h : stdVal c = some v) : v < 64 ∧ stdChar v = c := by
  have := alphaVal_spec '+' '/' c
  rw [show alphaVal '+' '/' c = some v from h] at this
  rcases this with ⟨_, _, hs⟩ | ⟨rfl, rfl⟩ | ⟨rfl, rfl⟩
  · exact hs
  · decide
  · decide
/-! ## the strict padded decoder -/

theorem b64std_decode_encodeStd (bs : List UInt8) : b64std_decode (encodeStd bs) = some bs := by
  fun_induction encodeStd bs with
  | case1 => rfl
  | case2 a =>
    simp only [b64std_decode, stdVal_stdChar, sext0_lt, sext1_lt_last, stdVal_pad,
      Nat.mul_mod_left, and_self, if_true, Nat.mul_div_cancel, Nat.zero_lt_succ,
      Nat.div_add_mod', UInt8.ofNat_toNat]
  | case3 a b =>
    simp only [b64std_decode, stdVal_stdChar, sext0_lt, sext1_lt, sext2_lt_last, stdVal_pad,
      Nat.mul_mod_left, and_self, if_true, pack_div, pack_mod, byte_div16_lt, Nat.mul_div_cancel,
      Nat.zero_lt_succ, Nat.div_add_mod', UInt8.ofNat_toNat]
  | case4 a b c rest ih =>
    simp only [b64std_decode, stdVal_stdChar, sext0_lt, sext1_lt, sext2_lt, sext3_lt, ih,
      pack_div, pack_mod, byte_div16_lt, byte_div64_lt, Nat.div_add_mod', UInt8.ofNat_toNat]

theorem b64std_decode_canonical : ∀ (s : List Char) (bs : List UInt8),
    b64std_decode s = some bs → encodeStd bs = s
  | [], bs, h => by cases h; rfl
  | [_], _, h => by cases h
  | [_, _], _, h => by cases h
  | [_, _, _], _, h => by cases h
  | c0 :: c1 :: c2 :: c3 :: rest, bs, h => by
    rw [b64std_decode] at h
    split at h
    · next v0 v1 v2 v3 h0 h1 h2 h3 =>
      obtain ⟨l0, rfl⟩ := stdVal_some h0
      obtain ⟨l1, rfl⟩ := stdVal_some h1
      obtain ⟨l2, rfl⟩ := stdVal_some h2
      obtain ⟨l3, rfl⟩ := stdVal_some h3
      split at h
      · next tl hr =>
        cases h
        simp only [encodeStd, byte0_toNat, byte1_toNat, byte2_toNat, pack_div, pack_mod,
          sextet_div16_lt, sextet_div4_lt, l0, l1, l2, l3, Nat.div_add_mod', b64std_decode_canonical rest tl hr]
      · cases h
    · next v0 v1 v2 h0 h1 h2 _ =>
      obtain ⟨l0, rfl⟩ := stdVal_some h0
      obtain ⟨l1, rfl⟩ := stdVal_some h1
      obtain ⟨l2, rfl⟩ := stdVal_some h2
      split at h
      · next hc =>
        obtain ⟨rfl, rfl, hz⟩ := hc
        cases h
        simp only [encodeStd, byte0_toNat, byte1_toNat, pack_div, pack_mod, sextet_div16_lt,
          sextet_div4_lt, l0, l1, l2, Nat.div_add_mod', Nat.div_mul_cancel (Nat.dvd_of_mod_eq_zero hz)]
      · cases h
    · next v0 v1 h0 h1 _ _ =>
      obtain ⟨l0, rfl⟩ := stdVal_some h0
      obtain ⟨l1, rfl⟩ := stdVal_some h1
      split at h
      · next hc =>
        obtain ⟨rfl, rfl, rfl, hz⟩ := hc
        cases h
        simp only [encodeStd, byte0_toNat, pack_div, pack_mod, sextet_div16_lt, l0, l1,
          Nat.div_mul_cancel (Nat.dvd_of_mod_eq_zero hz)]
      · cases h
    · cases h

/-! ## lines -/

theorem unlines_nil : unlines [] = [] := rfl

theorem unlines_cons (l : List Char) (ls : List (List Char)) :
    unlines (l :: ls) = l ++ '\n' :: unlines ls := by
  simp only [unlines, List.flatMap_cons, List.append_assoc, List.cons_append, List.nil_append]

theorem unlines_append (a b : List (List Char)) : unlines (a ++ b) = unlines a ++ unlines b :=
  List.flatMap_append

theorem linesOf_line (l rest : List Char) (h : '\n' ∉ l) :
    linesOf (l ++ '\n' :: rest) = l :: linesOf rest := by
  induction l with
  | nil => simp [linesOf]
  | cons c cs ih =>
    have hc : c ≠ '\n' := fun e => h (e ▸ List.mem_cons_self)
    have := ih (fun m => h (List.mem_cons_of_mem _ m))
    simp only [List.cons_append, linesOf, if_neg hc, this]

theorem linesOf_unlines (ls : List (List Char)) (h : ∀ l ∈ ls, '\n' ∉ l) :
    linesOf (unlines ls) = ls := by
  induction ls with
  | nil => rfl
  | cons l ls ih =>
    rw [unlines_cons, linesOf_line _ _ (h l List.mem_cons_self),
      ih (fun x hx => h x (List.mem_cons_of_mem _ hx))]

theorem filter_nl_unlines (ls : List (List Char)) (h : ∀ l ∈ ls, '\n' ∉ l) :
    (unlines ls).filter (fun c => c != '\n') = ls.flatten := by
  induction ls with
  | nil => rfl
  | cons l ls ih =>
    have hl : l.filter (fun c => c != '\n') = l := List.filter_eq_self.mpr fun a ha =>
      bne_iff_ne.mpr fun e => h l List.mem_cons_self (e ▸ ha)
    rw [unlines_cons, List.filter_append, hl, List.filter_cons_of_neg (by simp),
      ih (fun x hx => h x (List.mem_cons_of_mem _ hx)), List.flatten_cons]

theorem mem_unlines {ls : List (List Char)} {c : Char} (h : c ∈ unlines ls) :
    c = '\n' ∨ ∃ l ∈ ls, c ∈ l := by
  obtain ⟨l, hl, hc⟩ := List.mem_flatMap.mp h
  rcases List.mem_append.mp hc with hc | hc
  · exact Or.inr ⟨l, hl, hc⟩
  · exact Or.inl (by simpa using hc)

theorem bodyLines_chars {der : List UInt8} {l : List Char} (hl : l ∈ bodyLines der) {c : Char}
    (hc : c ∈ l) : c ≠ '\n' ∧ c ≠ '-' :=
  b64char_facts (mem_encodeStd_cases ((wrap64_mem _ l hl).2 c hc))

theorem bodyLines_no_nl (der : List UInt8) : ∀ l ∈ bodyLines der, '\n' ∉ l :=
  fun _ hl hc => (bodyLines_chars hl hc).1 rfl

theorem unlines_bodyLines_no_dash (der : List UInt8) :
    ∀ c ∈ unlines (bodyLines der), (c != '-') = true := by
  intro c hc
  rcases mem_unlines hc with rfl | ⟨l, hl, hc⟩
  · decide
  · simpa using (bodyLines_chars hl hc).2

theorem filter_body (der : List UInt8) :
    (unlines (bodyLines der)).filter (fun c => c != '\n') = encodeStd der := by
  rw [filter_nl_unlines _ (bodyLines_no_nl der)]
  exact wrap64_flatten _

theorem span_stop {p : Char → Bool} {l : List Char} (c : Char) (r : List Char)
    (hl : ∀ x ∈ l, p x = true) (hc : p c = false) :
    (l ++ c :: r).takeWhile p = l ∧ (l ++ c :: r).dropWhile p = c :: r := by
  rw [List.takeWhile_append_of_pos hl, List.takeWhile_cons_of_neg (by simp [hc]), List.append_nil,
    List.dropWhile_append_of_pos hl, List.dropWhile_cons_of_neg (by simp [hc])]
  exact ⟨rfl, rfl⟩

theorem dropWhile_head {p : Char → Bool} {l : List Char} {c : Char} {r : List Char}
    (h : l.dropWhile p = c :: r) : p c = false := by
  have := List.head_dropWhile_not p (l := l) (by rw [h]; nofun)
  simpa only [h, List.head_cons] using this

/-! ## the marker lines

A literal is `String.ofList` of its characters: `String.toList_ofList` reads them off without having
the kernel decode UTF-8. -/

theorem beginPre_eq : beginPre = '-' :: "----BEGIN ".toList := by
  unfold beginPre; rw [String.toList_ofList, String.toList_ofList]
theorem endPre_eq : endPre = '-' :: "----END ".toList := by
  unfold endPre; rw [String.toList_ofList, String.toList_ofList]
theorem beginPre_length : beginPre.length = 11 := by
  unfold beginPre; rw [String.toList_ofList]; rfl
theorem dashes5_length : dashes5.length = 5 := by
  unfold dashes5; rw [String.toList_ofList]; rfl
theorem nl_not_mem_beginPre : '\n' ∉ beginPre := by
  unfold beginPre; rw [String.toList_ofList]; decide +kernel
theorem nl_not_mem_endPre : '\n' ∉ endPre := by
  unfold endPre; rw [String.toList_ofList]; decide +kernel
theorem nl_not_mem_dashes5 : '\n' ∉ dashes5 := by
  unfold dashes5; rw [String.toList_ofList]; decide +kernel

theorem nl_not_mem_label {label : List Char} (h : labelOkChars label = true) : '\n' ∉ label := by
  intro hm
  have := (List.all_eq_true.mp h) '\n' hm
  revert this; decide

theorem nl_not_mem_marker {pre label : List Char} (hp : '\n' ∉ pre)
    (h : labelOkChars label = true) : '\n' ∉ pre ++ (label ++ dashes5) := by
  simp only [List.mem_append, not_or]
  exact ⟨hp, nl_not_mem_label h, nl_not_mem_dashes5⟩

theorem nl_not_mem_beginLine {label : List Char} (h : labelOkChars label = true) :
    '\n' ∉ beginLine label := nl_not_mem_marker nl_not_mem_beginPre h

theorem nl_not_mem_endLine {label : List Char} (h : labelOkChars label = true) :
    '\n' ∉ endLine label := nl_not_mem_marker nl_not_mem_endPre h

theorem labelOfLine_beginLine (label : List Char) : labelOfLine (beginLine label) = label := by
  unfold labelOfLine beginLine
  rw [List.drop_left' beginPre_length]
  have : (beginPre ++ (label ++ dashes5)).length - 16 = label.length := by
    simp only [List.length_append, beginPre_length, dashes5_length]; omega
  rw [this, List.take_left' rfl]

theorem linesOf_encodeChars (label : List Char) (der : List UInt8) (hl : labelOkChars label = true) :
    linesOf (encodeChars label der) = beginLine label :: (bodyLines der ++ [endLine label]) := by
  apply linesOf_unlines
  intro l hm
  rcases List.mem_cons.mp hm with rfl | hm
  · exact nl_not_mem_beginLine hl
  · rcases List.mem_append.mp hm with hm | hm
    · exact bodyLines_no_nl der l hm
    · rw [List.mem_singleton.mp hm]; exact nl_not_mem_endLine hl

theorem encodeChars_eq (label : List Char) (der : List UInt8) :
    encodeChars label der
      = beginLine label ++ '\n' :: (unlines (bodyLines der) ++ (endLine label ++ ['\n'])) := by
  simp only [encodeChars, blockLines, unlines_cons, unlines_append, unlines_nil]

theorem encodeChars_cons (label : List Char) (der : List UInt8) :
    ∃ t, encodeChars label der = '-' :: t := by
  rw [encodeChars_eq, beginLine, beginPre_eq]
  exact ⟨_, rfl⟩

theorem encodeChars_length_pos (label : List Char) (der : List UInt8) :
    0 < (encodeChars label der).length := by
  obtain ⟨t, ht⟩ := encodeChars_cons label der
  rw [ht]; simp

/-! ## the strict reader -/

theorem stripPrefix_append (p s : List Char) : stripPrefix p (p ++ s) = some s := by
  induction p with
  | nil => rfl
  | cons c cs ih => simp only [List.cons_append, stripPrefix, if_true, ih]

theorem stripPrefix_some : ∀ {p s r : List Char}, stripPrefix p s = some r → s = p ++ r
  | [], s, r, h => by cases h; rfl
  | _ :: _, [], _, h => by cases h
  | p :: ps, c :: cs, r, h => by
    simp only [stripPrefix] at h
    split at h
    · next hpc => subst hpc; rw [stripPrefix_some h]; rfl
    · cases h

theorem readBody_encode (label : List Char) (der : List UInt8) (rest : List Char) :
    readBody label (unlines (bodyLines der) ++ (endLine label ++ ['\n'] ++ rest))
      = some (label, der, rest) := by
  obtain ⟨t, he⟩ : ∃ t, endLine label ++ ['\n'] ++ rest = '-' :: t :=
    ⟨_, by rw [endLine, endPre_eq]; rfl⟩
  obtain ⟨ht, hd⟩ := span_stop (p := fun c => c != '-') '-' t (unlines_bodyLines_no_dash der) rfl
  unfold readBody
  rw [he]
  simp only [ht, hd, filter_body, b64std_decode_encodeStd, if_true]
  rw [← he, stripPrefix_append]

theorem readBlock_encode (label : List Char) (der : List UInt8) (rest : List Char)
    (hl : labelOkChars label = true) :
    readBlock (encodeChars label der ++ rest) = some (label, der, rest) := by
  have hp : ∀ x ∈ beginLine label, (x != '\n') = true := fun x hx =>
    bne_iff_ne.mpr fun e => nl_not_mem_beginLine hl (e ▸ hx)
  obtain ⟨ht, hd⟩ := span_stop (p := fun c => c != '\n') '\n'
    (unlines (bodyLines der) ++ (endLine label ++ ['\n'] ++ rest)) hp rfl
  unfold readBlock
  rw [encodeChars_eq, List.append_assoc, List.cons_append, List.append_assoc]
  simp only [ht, hd, labelOfLine_beginLine, hl, and_self, if_true]
  exact readBody_encode label der rest

theorem readBody_sound {label r0 l : List Char} {der : List UInt8} {rest : List Char}
    (h : readBody label r0 = some (l, der, rest)) :
    l = label ∧ r0 = unlines (bodyLines der) ++ (endLine label ++ ['\n'] ++ rest) := by
  unfold readBody at h
  simp only at h
  split at h
  · next d hd =>
    split at h
    · next hb =>
      split at h
      · next r hr =>
        simp only [Option.some.injEq, Prod.mk.injEq] at h
        obtain ⟨rfl, rfl, rfl⟩ := h
        refine ⟨rfl, ?_⟩
        rw [← stripPrefix_some hr, ← hb]
        exact List.takeWhile_append_dropWhile.symm
      · cases h
    · cases h
  · cases h

theorem readBlock_sound {s l : List Char} {der : List UInt8} {rest : List Char}
    (h : readBlock s = some (l, der, rest)) :
    labelOkChars l = true ∧ s = encodeChars l der ++ rest := by
  unfold readBlock at h
  simp only at h
  split at h
  · cases h
  · next c r0 hd =>
    split at h
    · next hc =>
      obtain ⟨rfl, hr0⟩ := readBody_sound h
      have hs := (List.takeWhile_append_dropWhile (p := fun c => c != '\n') (l := s)).symm
      rw [hd, show c = '\n' by simpa using dropWhile_head hd, hr0] at hs
      refine ⟨hc.2, ?_⟩
      rw [encodeChars_eq, ← hc.1, List.append_assoc, List.cons_append, List.append_assoc]
      exact hs
    · cases h

theorem readBlock_shorter {s l : List Char} {der : List UInt8} {rest : List Char}
    (h : readBlock s = some (l, der, rest)) : rest.length < s.length := by
  have := encodeChars_length_pos l der
  rw [(readBlock_sound h).2, List.length_append]; omega

theorem readBlock_nil : readBlock [] = none := rfl

/-! ## chains, strict splitter -/

theorem chainChars_nil : chainChars [] = [] := rfl

theorem chainChars_cons (b : List Char × List UInt8) (bs : List (List Char × List UInt8)) :
    chainChars (b :: bs) = encodeChars b.1 b.2 ++ chainChars bs := by
  simp only [chainChars, List.flatMap_cons]

theorem splitAux_succ_some {s : List Char} (n : Nat) {l : List Char} {d : List UInt8}
    {rest : List Char} (hr : readBlock s = some (l, d, rest)) :
    splitAux (n + 1) s = ((l, d) :: (splitAux n rest).1, (splitAux n rest).2) := by
  cases s with
  | nil => cases hr
  | cons c cs => simp only [splitAux, hr]

/-- A tail at which every fuel stops with the same residue. -/
theorem splitAux_chain_general (tail : List Char) (r : Option (List Char))
    (hT : ∀ m, splitAux m tail = ([], r)) (blocks : List (List Char × List UInt8))
    (hb : ∀ b ∈ blocks, labelOkChars b.1 = true) (n : Nat)
    (hn : (chainChars blocks ++ tail).length ≤ n) :
    splitAux n (chainChars blocks ++ tail) = (blocks, r) := by
  induction blocks generalizing n with
  | nil => exact hT n
  | cons b bs ih =>
    have := encodeChars_length_pos b.1 b.2
    rw [chainChars_cons, List.append_assoc] at hn ⊢
    rw [List.length_append] at hn
    cases n with
    | zero => omega
    | succ n =>
      rw [splitAux_succ_some n (readBlock_encode b.1 b.2 _ (hb b List.mem_cons_self)),
        ih (fun x hx => hb x (List.mem_cons_of_mem _ hx)) n (by omega)]

theorem splitChars_chain (blocks : List (List Char × List UInt8))
    (hb : ∀ b ∈ blocks, labelOkChars b.1 = true) : splitChars (chainChars blocks) = (blocks, none) := by
  have := splitAux_chain_general [] none (fun m => by cases m <;> rfl) blocks hb _ (Nat.le_refl _)
  rwa [List.append_nil] at this

theorem splitChars_chain_tail (blocks : List (List Char × List UInt8))
    (hb : ∀ b ∈ blocks, labelOkChars b.1 = true) (tail : List Char) (hne : tail ≠ [])
    (hbad : readBlock tail = none) :
    splitChars (chainChars blocks ++ tail) = (blocks, some tail) := by
  refine splitAux_chain_general tail (some tail) (fun m => ?_) blocks hb _ (Nat.le_refl _)
  cases tail with
  | nil => exact absurd rfl hne
  | cons c cs => cases m <;> simp only [splitAux, hbad]

theorem splitAux_sound (n : Nat) (s : List Char) (hn : s.length ≤ n) :
    s = chainChars (splitAux n s).1 ++ (splitAux n s).2.getD [] ∧
      (∀ b ∈ (splitAux n s).1, labelOkChars b.1 = true) ∧
      (∀ t, (splitAux n s).2 = some t → t ≠ [] ∧ readBlock t = none) := by
  fun_induction splitAux n s with
  | case1 => exact ⟨rfl, nofun, nofun⟩
  | case2 c cs => simp at hn
  | case3 n c cs hr => exact ⟨rfl, nofun, fun t ht => by cases ht; exact ⟨nofun, hr⟩⟩
  | case4 n c cs l d rest hr bs r hsplit ih =>
    obtain ⟨hok, hs⟩ := readBlock_sound hr
    have hsh := readBlock_shorter hr
    rw [hsplit] at ih
    obtain ⟨h1, h2, h3⟩ := ih (by simp only [List.length_cons] at hn hsh; omega)
    exact ⟨by rw [chainChars_cons, List.append_assoc, ← h1]; exact hs,
      List.forall_mem_cons.2 ⟨hok, h2⟩, h3⟩

theorem splitAux_fuel (n : Nat) (s : List Char) (hn : s.length ≤ n) :
    splitAux n s = splitChars s := by
  obtain ⟨h1, h2, h3⟩ := splitAux_sound n s hn
  cases hr : (splitAux n s).2 with
  | none =>
    rw [hr, Option.getD_none, List.append_nil] at h1
    have := splitChars_chain _ h2
    rw [← h1] at this
    rw [this, ← hr]
  | some t =>
    obtain ⟨hne, hbad⟩ := h3 t hr
    rw [hr, Option.getD_some] at h1
    have := splitChars_chain_tail _ h2 t hne hbad
    rw [← h1] at this
    rw [this, ← hr]

theorem splitChars_none_iff (s : List Char) (bs : List (List Char × List UInt8)) :
    splitChars s = (bs, none) ↔ s = chainChars bs ∧ ∀ b ∈ bs, labelOkChars b.1 = true := by
  constructor
  · intro h
    obtain ⟨h1, h2, _⟩ := splitAux_sound _ s (Nat.le_refl _)
    rw [show splitAux s.length s = (bs, none) from h] at h1 h2
    exact ⟨h1.trans (List.append_nil _), h2⟩
  · rintro ⟨rfl, hb⟩
    exact splitChars_chain bs hb

theorem decodeChars_encode (label : List Char) (der : List UInt8)
    (hl : labelOkChars label = true) : decodeChars label (encodeChars label der) = some der := by
  have := readBlock_encode label der [] hl
  rw [List.append_nil] at this
  simp only [decodeChars, this, if_true]

theorem decodeChars_sound {label s : List Char} {der : List UInt8}
    (h : decodeChars label s = some der) : labelOkChars label = true ∧ s = encodeChars label der := by
  unfold decodeChars at h
  split at h
  · next l d hr =>
    split at h
    · next hl =>
      cases h; subst hl
      have := readBlock_sound hr
      rw [List.append_nil] at this
      exact this
    · cases h
  · cases h

/-! ## lax splitter -/

/-- Blocks each preceded by some text (blanks, in the theorems). -/
def laxChars (items : List (List Char × (List Char × List UInt8))) : List Char :=
  items.flatMap fun it => it.1 ++ encodeChars it.2.1 it.2.2

theorem laxChars_cons (it : List Char × (List Char × List UInt8))
    (items : List (List Char × (List Char × List UInt8))) :
    laxChars (it :: items) = it.1 ++ (encodeChars it.2.1 it.2.2 ++ laxChars items) := by
  simp only [laxChars, List.flatMap_cons, List.append_assoc]

theorem lax_stop {s d : List Char} (hd : s.dropWhile isBlank = d) :
    (∀ c ∈ s.takeWhile isBlank, isBlank c = true) ∧ s = s.takeWhile isBlank ++ d :=
  ⟨List.all_eq_true.mp List.all_takeWhile, hd ▸ List.takeWhile_append_dropWhile.symm⟩

theorem splitLaxAux_succ_some (n : Nat) {s t : List Char} (hd : s.dropWhile isBlank = t)
    {l : List Char} {d : List UInt8} {rest : List Char} (hr : readBlock t = some (l, d, rest)) :
    splitLaxAux (n + 1) s = ((l, d) :: (splitLaxAux n rest).1, (splitLaxAux n rest).2) := by
  cases t with
  | nil => cases hr
  | cons c cs => simp only [splitLaxAux, hd, hr]

theorem splitLaxAux_chain_general (tail : List Char) (r : Option (List Char))
    (hT : ∀ m, splitLaxAux m tail = ([], r))
    (items : List (List Char × (List Char × List UInt8)))
    (hb : ∀ it ∈ items, (∀ c ∈ it.1, isBlank c = true) ∧ labelOkChars it.2.1 = true) (n : Nat)
    (hn : (laxChars items ++ tail).length ≤ n) :
    splitLaxAux n (laxChars items ++ tail) = (items.map (fun it => it.2), r) := by
  induction items generalizing n with
  | nil => exact hT n
  | cons it items ih =>
    obtain ⟨hws, hl⟩ := hb it List.mem_cons_self
    obtain ⟨t, ht⟩ := encodeChars_cons it.2.1 it.2.2
    rw [laxChars_cons, List.append_assoc, List.append_assoc] at hn ⊢
    have hd := (span_stop '-' (t ++ (laxChars items ++ tail)) hws (by decide)).2
    rw [← List.cons_append, ← ht] at hd
    rw [List.length_append, List.length_append, ht] at hn
    cases n with
    | zero => simp at hn
    | succ n =>
      rw [splitLaxAux_succ_some n hd (readBlock_encode _ _ _ hl),
        ih (fun x hx => hb x (List.mem_cons_of_mem _ hx)) n
          (by simp only [List.length_cons] at hn; omega)]
      rfl

theorem splitLaxChars_chain (items : List (List Char × (List Char × List UInt8)))
    (wsEnd : List Char)
    (hb : ∀ it ∈ items, (∀ c ∈ it.1, isBlank c = true) ∧ labelOkChars it.2.1 = true)
    (he : ∀ c ∈ wsEnd, isBlank c = true) :
    splitLaxChars (laxChars items ++ wsEnd) = (items.map (fun it => it.2), none) := by
  refine splitLaxAux_chain_general wsEnd none (fun m => ?_) items hb _ (Nat.le_refl _)
  have := List.dropWhile_append_of_pos (l₂ := []) he
  rw [List.append_nil] at this
  cases m <;> simp only [splitLaxAux, this, List.dropWhile_nil]

/-- The text is a variable with its decomposition as hypothesis (as in `pem_lax_roundtrip`), so
that `rw` finds it in a goal about a concrete text. -/
theorem splitLaxChars_chain_tail (items : List (List Char × (List Char × List UInt8)))
    (tail : List Char)
    (hb : ∀ it ∈ items, (∀ c ∈ it.1, isBlank c = true) ∧ labelOkChars it.2.1 = true)
    (hne : tail ≠ []) (hfix : tail.dropWhile isBlank = tail) (hbad : readBlock tail = none)
    (s : List Char) (hs : s = laxChars items ++ tail) :
    splitLaxChars s = (items.map (fun it => it.2), some tail) := by
  subst hs
  refine splitLaxAux_chain_general tail (some tail) (fun m => ?_) items hb _ (Nat.le_refl _)
  cases tail with
  | nil => exact absurd rfl hne
  | cons c cs => cases m <;> simp only [splitLaxAux, hfix, hbad]

theorem splitLaxAux_sound (n : Nat) (s : List Char) (hn : s.length ≤ n) :
    ∃ items ws, items.map (fun it => it.2) = (splitLaxAux n s).1 ∧
      (∀ it ∈ items, (∀ c ∈ it.1, isBlank c = true) ∧ labelOkChars it.2.1 = true) ∧
      (∀ c ∈ ws, isBlank c = true) ∧ s = laxChars items ++ (ws ++ (splitLaxAux n s).2.getD []) ∧
      (∀ t, (splitLaxAux n s).2 = some t →
        t ≠ [] ∧ readBlock t = none ∧ t.dropWhile isBlank = t) := by
  fun_induction splitLaxAux n s with
  | case1 s hd => exact ⟨[], _, rfl, nofun, (lax_stop hd).1, (lax_stop hd).2, nofun⟩
  | case2 s c cs hd => rw [List.eq_nil_of_length_eq_zero (Nat.le_zero.mp hn)] at hd; cases hd
  | case3 n s hd => exact ⟨[], _, rfl, nofun, (lax_stop hd).1, (lax_stop hd).2, nofun⟩
  | case4 n s c cs hd hr =>
    refine ⟨[], _, rfl, nofun, (lax_stop hd).1, (lax_stop hd).2, fun t ht => ?_⟩
    cases ht
    exact ⟨nofun, hr, List.dropWhile_cons_of_neg (by simp [dropWhile_head hd])⟩
  | case5 n s c cs hd l d rest hr bs r hrec ih =>
    obtain ⟨hok, hrs⟩ := readBlock_sound hr
    have hsh := readBlock_shorter hr
    have hle := congrArg List.length (lax_stop hd).2
    rw [hrec] at ih
    obtain ⟨items, ws, h1, h2, h3, h4, h5⟩ := ih (by rw [List.length_append] at hle; omega)
    refine ⟨(s.takeWhile isBlank, (l, d)) :: items, ws, by rw [List.map_cons, h1],
      List.forall_mem_cons.2 ⟨⟨(lax_stop hd).1, hok⟩, h2⟩, h3, ?_, h5⟩
    rw [laxChars_cons, List.append_assoc, List.append_assoc, ← h4, ← hrs]
    exact (lax_stop hd).2

theorem laxChars_of_strict (bs : List (List Char × List UInt8)) :
    laxChars (bs.map fun b => (([] : List Char), b)) = chainChars bs := by
  induction bs with
  | nil => rfl
  | cons b bs ih => rw [List.map_cons, laxChars_cons, ih, chainChars_cons]; rfl

/-! ## `String` wrappers -/

/-- The blocks with their labels as character lists. -/
def toCharBlocks (blocks : List (String × List UInt8)) : List (List Char × List UInt8) :=
  blocks.map fun b => (b.1.toList, b.2)

theorem toStrBlocks_toCharBlocks (blocks : List (String × List UInt8)) :
    toStrBlocks (toCharBlocks blocks) = blocks := by
  induction blocks with
  | nil => rfl
  | cons b bs ih =>
    simp only [toStrBlocks, toCharBlocks, List.map_cons, String.ofList_toList] at ih ⊢
    rw [ih]

theorem toCharBlocks_toStrBlocks (bs : List (List Char × List UInt8)) :
    toCharBlocks (toStrBlocks bs) = bs := by
  induction bs with
  | nil => rfl
  | cons b bs ih =>
    simp only [toStrBlocks, toCharBlocks, List.map_cons, String.toList_ofList] at ih ⊢
    rw [ih]

theorem pemEncode_toList (label : String) (der : List UInt8) :
    (pemEncode label der).toList = encodeChars label.toList der := String.toList_ofList

theorem pemChain_nil : pemChain [] = "" := rfl

theorem pemChain_cons (b : String × List UInt8) (bs : List (String × List UInt8)) :
    pemChain (b :: bs) = pemEncode b.1 b.2 ++ pemChain bs := by
  simp only [pemChain, List.map_cons, String.join_cons]

theorem pemChain_toList (blocks : List (String × List UInt8)) :
    (pemChain blocks).toList = chainChars (toCharBlocks blocks) := by
  induction blocks with
  | nil => rfl
  | cons b bs ih =>
    rw [pemChain_cons, String.toList_append, pemEncode_toList, ih]
    simp only [toCharBlocks, List.map_cons, chainChars_cons]

theorem labelOk_toCharBlocks {blocks : List (String × List UInt8)}
    (h : ∀ b ∈ blocks, labelOk b.1 = true) : ∀ b ∈ toCharBlocks blocks, labelOkChars b.1 = true := by
  intro b hb
  obtain ⟨x, hx, rfl⟩ := List.mem_map.mp hb
  exact h x hx

theorem labelOk_toStrBlocks {bs : List (List Char × List UInt8)}
    (h : ∀ b ∈ bs, labelOkChars b.1 = true) : ∀ b ∈ toStrBlocks bs, labelOk b.1 = true := by
  intro b hb
  obtain ⟨x, hx, rfl⟩ := List.mem_map.mp hb
  simp only [labelOk, String.toList_ofList]
  exact h x hx

theorem pemChain_toStrBlocks_toList (bs : List (List Char × List UInt8)) :
    (pemChain (toStrBlocks bs)).toList = chainChars bs := by
  rw [pemChain_toList, toCharBlocks_toStrBlocks]

theorem getD_map_ofList_toList (rc : Option (List Char)) :
    ((rc.map String.ofList).getD "").toList = rc.getD [] := by
  cases rc with
  | none => rfl
  | some t => exact String.toList_ofList

theorem residue_toList {rc : Option (List Char)} {t : String}
    (h : rc.map String.ofList = some t) : rc = some t.toList := by
  cases rc with
  | none => cases h
  | some tc => cases h; rw [String.toList_ofList]

theorem pemSplit_eq (text : String) :
    pemSplit text = (toStrBlocks (splitChars text.toList).1,
      (splitChars text.toList).2.map String.ofList) := rfl

theorem pemSplitLax_eq (text : String) :
    pemSplitLax text = (toStrBlocks (splitLaxChars text.toList).1,
      (splitLaxChars text.toList).2.map String.ofList) := rfl

/-- "`t` starts with a well-formed block" in `String` terms is `readBlock ≠ none`. -/
theorem readBlock_none_iff (t : String) :
    readBlock t.toList = none ↔
      ∀ (label : String) (der : List UInt8) (rest : String), labelOk label = true →
        t ≠ pemEncode label der ++ rest := by
  constructor
  · intro h label der rest hl he
    rw [he, String.toList_append, pemEncode_toList, readBlock_encode _ _ _ hl] at h
    cases h
  · intro h
    cases hr : readBlock t.toList with
    | none => rfl
    | some v =>
      obtain ⟨l, d, rest⟩ := v
      obtain ⟨hok, hs⟩ := readBlock_sound hr
      refine absurd ?_ (h (String.ofList l) d (String.ofList rest)
        (by simp only [labelOk, String.toList_ofList]; exact hok))
      apply String.toList_inj.mp
      rw [String.toList_append, pemEncode_toList, String.toList_ofList, String.toList_ofList]
      exact hs

end AcmedVerif.Pem
