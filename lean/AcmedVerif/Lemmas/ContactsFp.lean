/-
Helper lemmas for `Props/C11Fp.lean`: the message of `Model/ContactsFp.lean` is a concatenation of
frames `be64 (length) ++ text`; `be64` is injective below 2^64; a frame followed by anything can be
read back unambiguously.
-/
import AcmedVerif.Model.ContactsFp

namespace AcmedVerif.ContactsFp

theorem be64_length (n : Nat) : (be64 n).length = 8 := rfl

theorem ofNat_eq_mod {a b : Nat} (h : UInt8.ofNat a = UInt8.ofNat b) : a % 2 ^ 8 = b % 2 ^ 8 := by
  have := congrArg UInt8.toNat h
  rwa [UInt8.toNat_ofNat', UInt8.toNat_ofNat'] at this

/-- One more byte: `n mod 2^(k+8)` is the byte `n / 2^k mod 256` on top of `n mod 2^k`. -/
theorem mod_pow_step {n m : Nat} (k : Nat) (hi : UInt8.ofNat (n / 2 ^ k) = UInt8.ofNat (m / 2 ^ k))
    (lo : n % 2 ^ k = m % 2 ^ k) : n % 2 ^ (k + 8) = m % 2 ^ (k + 8) := by
  rw [Nat.pow_add, Nat.mod_mul, Nat.mod_mul, ofNat_eq_mod hi, lo]

/-- The 8 bytes determine `n mod 2^64`: byte by byte from the least significant one. -/
theorem be64_inj_mod {n m : Nat} (h : be64 n = be64 m) : n % 2 ^ 64 = m % 2 ^ 64 := by
  simp only [be64, List.cons.injEq, and_true] at h
  obtain ⟨h7, h6, h5, h4, h3, h2, h1, h0⟩ := h
  exact mod_pow_step 56 h7 (mod_pow_step 48 h6 (mod_pow_step 40 h5 (mod_pow_step 32 h4
    (mod_pow_step 24 h3 (mod_pow_step 16 h2 (mod_pow_step 8 h1 (ofNat_eq_mod h0)))))))

/-- `(n as u64).to_be_bytes()` loses nothing below 2^64. -/
theorem be64_injective {n m : Nat} (hn : n < 2 ^ 64) (hm : m < 2 ^ 64) (h : be64 n = be64 m) : n = m := by
  have := be64_inj_mod h
  rwa [Nat.mod_eq_of_lt hn, Nat.mod_eq_of_lt hm] at this

theorem contactText_injective {a b : List UInt8} (h : contactText a = contactText b) : a = b :=
  List.append_cancel_left h

theorem contactText_length (v : List UInt8) : (contactText v).length = 7 + v.length := by
  simp [contactText, mailtoPrefix]
  omega

theorem foldl_step (acc : List UInt8) (cs : List (List UInt8)) :
    cs.foldl step acc = acc ++ (cs.map frame).flatten := by
  induction cs generalizing acc with
  | nil => simp
  | cons c cs ih => simp [List.foldl_cons, ih, step, List.append_assoc]

/-- The loop builds the concatenation of the frames. -/
theorem message_eq_frames (cs : List (List UInt8)) : message cs = (cs.map frame).flatten := by
  simp [message, foldl_step]

theorem message_nil : message [] = [] := rfl

theorem message_cons (c : List UInt8) (cs : List (List UInt8)) : message (c :: cs) = frame c ++ message cs := by
  simp [message_eq_frames]

theorem frame_ne_nil (v : List UInt8) : frame v ≠ [] := by
  simp [frame, be64]

/-- A frame followed by anything is read back unambiguously: the first 8 bytes give the length of the
text, the length gives the text, what is left is the rest. -/
theorem frame_append_inj {a b r s : List UInt8} (ha : (contactText a).length < 2 ^ 64)
    (hb : (contactText b).length < 2 ^ 64) (h : frame a ++ r = frame b ++ s) : a = b ∧ r = s := by
  simp only [frame, List.append_assoc] at h
  have ⟨hlen, hrest⟩ := List.append_inj h ((be64_length _).trans (be64_length _).symm)
  have ⟨ht, hr⟩ := List.append_inj hrest (be64_injective ha hb hlen)
  exact ⟨contactText_injective ht, hr⟩

theorem fits_cons {c : List UInt8} {cs : List (List UInt8)} (h : Fits (c :: cs)) :
    (contactText c).length < 2 ^ 64 ∧ Fits cs :=
  ⟨h c (by simp), fun v hv => h v (by simp [hv])⟩

theorem messageOld_cons (c : List UInt8) (cs : List (List UInt8)) :
    messageOld (c :: cs) = contactText c ++ messageOld cs := by
  simp [messageOld]

end AcmedVerif.ContactsFp
