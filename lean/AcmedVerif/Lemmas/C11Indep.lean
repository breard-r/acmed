/-
Lemmas for `Props/C11Indep.lean` about `Model/AccountMulti.lean`.

The programs of the model are built from six steps (`Prog`).  A law of `Props/C11Indep.lean` is
proved of the steps and carried to every program by one induction: `Prog.sat` for a law of one run
(`MSat`, as in `Lemmas/Flow.lean`), `Prog.ni` for two runs side by side (`NI2`).  What
`register_account` / `update_account_key` / `update_account_contacts` do to the account after a 2xx
answer is ONE assignment `modEndpoint e (G shared)` (`liftAcct_registered`, …).  The refinement to
`Flow.synchronize` goes exchange by exchange against the closed forms of `Lemmas/Flow.lean`.
-/
import AcmedVerif.Model.AccountMulti
import AcmedVerif.Lemmas.Flow

namespace AcmedVerif.AccountMulti
open AcmedVerif.Flow (KeyId ErrClass Step Variant ReqKind HookKind Auth)

theorem lookupEp_cons_self (e : EpName) (r : EpRec) (l : List (EpName × EpRec)) :
    lookupEp e ((e, r) :: l) = some r := by simp [lookupEp]

theorem lookupEp_cons_ne {n e : EpName} (h : n ≠ e) (r : EpRec) (l : List (EpName × EpRec)) :
    lookupEp e ((n, r) :: l) = lookupEp e l := by simp [lookupEp, h]

theorem modFirst_cons_self (e : EpName) (g : EpRec → EpRec) (r : EpRec)
    (l : List (EpName × EpRec)) : modFirst e g ((e, r) :: l) = (e, g r) :: l := by simp [modFirst]

theorem modFirst_cons_ne {n e : EpName} (h : n ≠ e) (g : EpRec → EpRec) (r : EpRec)
    (l : List (EpName × EpRec)) : modFirst e g ((n, r) :: l) = (n, r) :: modFirst e g l := by
  simp [modFirst, h]

theorem firstNamed_induction (e : EpName) {motive : List (EpName × EpRec) → Prop} (nil : motive [])
    (hit : ∀ r l, motive ((e, r) :: l))
    (miss : ∀ n r l, n ≠ e → motive l → motive ((n, r) :: l)) : ∀ l, motive l
  | [] => nil
  | (n, r) :: l =>
    if h : n = e then h ▸ hit r l else miss n r l h (firstNamed_induction e nil hit miss l)

theorem lookupEp_modFirst_same (e : EpName) (g : EpRec → EpRec) (l : List (EpName × EpRec)) :
    lookupEp e (modFirst e g l) = (lookupEp e l).map g := by
  induction l using firstNamed_induction e with
  | nil => rfl
  | hit r l => rw [modFirst_cons_self, lookupEp_cons_self, lookupEp_cons_self]; rfl
  | miss n r l h ih => rw [modFirst_cons_ne h, lookupEp_cons_ne h, lookupEp_cons_ne h, ih]

theorem lookupEp_modFirst_other {e e' : EpName} (h : e' ≠ e) (g : EpRec → EpRec)
    (l : List (EpName × EpRec)) : lookupEp e' (modFirst e g l) = lookupEp e' l := by
  induction l using firstNamed_induction e with
  | nil => rfl
  | hit r l => rw [modFirst_cons_self, lookupEp_cons_ne h.symm, lookupEp_cons_ne h.symm]
  | miss n r l hn ih =>
    rw [modFirst_cons_ne hn]
    by_cases hn' : n = e'
    · rw [hn', lookupEp_cons_self, lookupEp_cons_self]
    · rw [lookupEp_cons_ne hn', lookupEp_cons_ne hn', ih]

theorem lookupEp_modFirst_isSome (e' e : EpName) (g : EpRec → EpRec) (l : List (EpName × EpRec)) :
    (lookupEp e' (modFirst e g l)).isSome = (lookupEp e' l).isSome := by
  by_cases h : e' = e
  · rw [h, lookupEp_modFirst_same, Option.isSome_map]
  · rw [lookupEp_modFirst_other h]

theorem forall_lookup_modFirst {I : EpRec → Prop} {l : List (EpName × EpRec)} {e : EpName}
    {g : EpRec → EpRec} (h : ∀ e' r, lookupEp e' l = some r → I r) (hg : ∀ r, I r → I (g r)) :
    ∀ e' r, lookupEp e' (modFirst e g l) = some r → I r := by
  intro e' r' hr'
  by_cases he : e' = e
  · rw [he, lookupEp_modFirst_same] at hr'
    obtain ⟨r, hl, rfl⟩ := Option.map_eq_some_iff.mp hr'
    exact hg r (h e r hl)
  · rw [lookupEp_modFirst_other he] at hr'
    exact h e' r' hr'

theorem modFirst_modFirst (e : EpName) (g1 g2 : EpRec → EpRec) (l : List (EpName × EpRec)) :
    modFirst e g2 (modFirst e g1 l) = modFirst e (fun r => g2 (g1 r)) l := by
  induction l using firstNamed_induction e with
  | nil => rfl
  | hit r l => rw [modFirst_cons_self, modFirst_cons_self, modFirst_cons_self]
  | miss n r l h ih => rw [modFirst_cons_ne h, modFirst_cons_ne h, modFirst_cons_ne h, ih]

theorem modFirst_id (e : EpName) (l : List (EpName × EpRec)) : modFirst e (fun r => r) l = l := by
  induction l using firstNamed_induction e with
  | nil => rfl
  | hit r l => rw [modFirst_cons_self]
  | miss n r l h ih => rw [modFirst_cons_ne h, ih]

theorem modFirst_of_lookup_none (e : EpName) (g : EpRec → EpRec) (l : List (EpName × EpRec))
    (h : lookupEp e l = none) : modFirst e g l = l := by
  induction l using firstNamed_induction e with
  | nil => rfl
  | hit r l => rw [lookupEp_cons_self] at h; cases h
  | miss n r l hn ih => rw [modFirst_cons_ne hn, ih (by rwa [lookupEp_cons_ne hn] at h)]

theorem modFirst_names (e : EpName) (g : EpRec → EpRec) (l : List (EpName × EpRec)) :
    (modFirst e g l).map (·.1) = l.map (·.1) := by
  induction l using firstNamed_induction e with
  | nil => rfl
  | hit r l => rw [modFirst_cons_self]; rfl
  | miss n r l h ih => rw [modFirst_cons_ne h, List.map_cons, List.map_cons, ih]

theorem modFirst_length (e : EpName) (g : EpRec → EpRec) (l : List (EpName × EpRec)) :
    (modFirst e g l).length = l.length := by
  simpa using congrArg List.length (modFirst_names e g l)

theorem modFirst_mem_other {e : EpName} (g : EpRec → EpRec) {l : List (EpName × EpRec)}
    {n : EpName} {r : EpRec} (hn : n ≠ e) : (n, r) ∈ modFirst e g l ↔ (n, r) ∈ l := by
  induction l using firstNamed_induction e with
  | nil => rfl
  | hit r' l => rw [modFirst_cons_self]; simp [hn]
  | miss n' r' l h ih => rw [modFirst_cons_ne h, List.mem_cons, List.mem_cons, ih]

theorem lookupEp_mem {e : EpName} {l : List (EpName × EpRec)} {r : EpRec}
    (h : lookupEp e l = some r) : (e, r) ∈ l := by
  induction l using firstNamed_induction e with
  | nil => cases h
  | hit r' l => rw [lookupEp_cons_self] at h; cases h; exact List.mem_cons_self
  | miss n r' l hn ih => rw [lookupEp_cons_ne hn] at h; exact List.mem_cons_of_mem _ (ih h)

theorem lookupEp_append (e' e : EpName) (r : EpRec) (l : List (EpName × EpRec)) :
    lookupEp e' (l ++ [(e, r)]) = match lookupEp e' l with
      | some x => some x
      | none => if e == e' then some r else none := by
  induction l using firstNamed_induction e' with
  | nil => simp [lookupEp]
  | hit r' l => rw [List.cons_append, lookupEp_cons_self, lookupEp_cons_self]
  | miss n r' l h ih => rw [List.cons_append, lookupEp_cons_ne h, lookupEp_cons_ne h, ih]

/-- The record after a successful `register_account` (`acme_proto/account.rs:58-74`). -/
def regUpd (sh : Shared) (loc : Url) (orders : Option Url) (existing : Bool) (r : EpRec) : EpRec :=
  { r with accountUrl := loc, ordersUrl := orders.getD 0, keyHash := some sh.currentKey,
           contactsHash := some sh.contacts,
           eabHash := match sh.eab with
             | some b => some b
             | none => r.eabHash,
           ca := { key := sh.currentKey,
                   contacts := if existing then r.ca.contacts else some sh.contacts } }

/-- The record after a successful roll-over. -/
def keyUpd (sh : Shared) (r : EpRec) : EpRec :=
  { r with keyHash := some sh.currentKey, ca := { r.ca with key := sh.currentKey } }

/-- The record after a successful contact update. -/
def contactsUpd (sh : Shared) (r : EpRec) : EpRec :=
  { r with contactsHash := some sh.contacts, ca := { r.ca with contacts := some sh.contacts } }

def modEpM (e : EpName) (G : Shared → EpRec → EpRec) : MM Unit :=
  liftAcct fun a => a.modEndpoint e (G a.shared)

theorem liftAcct_registered (e : EpName) (loc : Url) (orders : Option Url) (ex : Bool) :
    liftAcct (fun a => a.registered e loc orders ex) = modEpM e fun sh => regUpd sh loc orders ex := by
  unfold modEpM; congr; funext a
  unfold Account.registered Account.setAccountUrl Account.setOrdersUrl Account.updateKeyHash
    Account.updateContactsHash Account.updateExternalAccountHash Account.ghostRegistered
    Account.modEndpoint Account.getEndpoint
  rcases hl : lookupEp e a.endpoints with _ | r
  · simp [lookupEp_modFirst_same, hl]
  · rcases hb : a.shared.eab with _ | b <;>
      simp only [lookupEp_modFirst_same, hl, hb, modFirst_modFirst, Option.map_some,
        Option.bind_eq_bind, Option.bind_some] <;>
      (congr 3; funext r'; simp [regUpd, hb])

theorem liftAcct_keyRolled (e : EpName) :
    liftAcct (fun a => a.keyRolled e) = modEpM e keyUpd := by
  unfold modEpM; congr; funext a
  unfold Account.keyRolled Account.updateKeyHash Account.ghostKeyChanged Account.modEndpoint
    Account.getEndpoint
  rcases hl : lookupEp e a.endpoints with _ | r
  · simp [lookupEp_modFirst_same, hl]
  · simp only [lookupEp_modFirst_same, hl, modFirst_modFirst, Option.map_some]
    congr 3

theorem liftAcct_contactsUpdated (e : EpName) :
    liftAcct (fun a => a.contactsUpdated e) = modEpM e contactsUpd := by
  unfold modEpM; congr; funext a
  unfold Account.contactsUpdated Account.updateContactsHash Account.ghostContactsUpdated
    Account.modEndpoint Account.getEndpoint
  rcases hl : lookupEp e a.endpoints with _ | r
  · simp [lookupEp_modFirst_same, hl]
  · simp only [lookupEp_modFirst_same, hl, modFirst_modFirst, Option.map_some]
    congr 3

theorem bind_run (m : MM α) (f : α → MM β) (s : MWorld) :
    (m >>= f) s = match m s with
      | (.val a, s1) => f a s1
      | (.fail st, s1) => (.fail st, s1)
      | (.unknownEndpoint, s1) => (.unknownEndpoint, s1)
      | (.stuck, s1) => (.stuck, s1) := rfl

theorem pure_run (a : α) (s : MWorld) : (pure a : MM α) s = (.val a, s) := rfl

@[simp] theorem MOut.tag_val (a : α) : (MOut.val a).tag = .ok := rfl
@[simp] theorem MOut.tag_fail (st : Step) : (MOut.fail st : MOut α).tag = .failed st := rfl
@[simp] theorem MOut.tag_unknown : (MOut.unknownEndpoint : MOut α).tag = .unknownEndpoint := rfl
@[simp] theorem MOut.tag_stuck : (MOut.stuck : MOut α).tag = .stuck := rfl

theorem bind_cases (m : MM α) (f : α → MM β) (s : MWorld) :
    (∃ a s1, m s = (.val a, s1) ∧ (m >>= f) s = f a s1) ∨
    ((m s).1.tag ≠ .ok ∧ ((m >>= f) s).1.tag = (m s).1.tag ∧ ((m >>= f) s).2 = (m s).2) := by
  rw [bind_run]
  rcases h : m s with ⟨o, s1⟩
  cases o with
  | val a => exact .inl ⟨a, s1, rfl, rfl⟩
  | fail st => exact .inr ⟨by simp, rfl, rfl⟩
  | unknownEndpoint => exact .inr ⟨by simp, rfl, rfl⟩
  | stuck => exact .inr ⟨by simp, rfl, rfl⟩

theorem bind_val_inv {m : MM α} {f : α → MM β} {s s' : MWorld} {b : β}
    (h : (m >>= f) s = (.val b, s')) : ∃ a s1, m s = (.val a, s1) ∧ f a s1 = (.val b, s') := by
  rcases bind_cases m f s with ⟨a, s1, h1, h2⟩ | ⟨h1, h2, _⟩
  · exact ⟨a, s1, h1, by rw [← h2, h]⟩
  · rw [h] at h2; simp at h2; exact absurd h2.symm h1

/-- A relation between the state before, the outcome and the state after that composes. -/
structure MLaw (R : MWorld → Tag → MWorld → Prop) : Prop where
  refl : ∀ t s, t ≠ .unknownEndpoint → R s t s
  trans : ∀ {s1 s2 s3 t}, R s1 .ok s2 → R s2 t s3 → R s1 t s3

structure MSat (R : MWorld → Tag → MWorld → Prop) (m : MM α) : Prop where
  run : ∀ s, R s (m s).1.tag (m s).2

theorem MSat.pure {R} (L : MLaw R) (a : α) : MSat R (pure a : MM α) :=
  ⟨fun s => L.refl _ s (by simp [pure_run])⟩

theorem MSat.failAt {R} (L : MLaw R) (st : Step) : MSat R (failAt st : MM α) :=
  ⟨fun s => L.refl _ s (by simp [AccountMulti.failAt])⟩

theorem MSat.getShared {R} (L : MLaw R) : MSat R getShared :=
  ⟨fun s => L.refl _ s (by simp [AccountMulti.getShared])⟩

theorem MSat.bind {R} (L : MLaw R) {m : MM α} {f : α → MM β} (hm : MSat R m)
    (hf : ∀ a, MSat R (f a)) : MSat R (m >>= f) := by
  constructor
  intro s
  have h1 := hm.run s
  rcases bind_cases m f s with ⟨a, s1, e1, e2⟩ | ⟨_, e2, e3⟩
  · rw [e2]; rw [e1] at h1; exact L.trans h1 ((hf a).run s1)
  · rw [e2, e3]; exact h1

theorem MSat.mono {R R' : MWorld → Tag → MWorld → Prop} {m : MM α}
    (h : ∀ s t s', R s t s' → R' s t s') (hm : MSat R m) : MSat R' m :=
  ⟨fun s => h _ _ _ (hm.run s)⟩

structure NI2 (Q : MWorld → MWorld → Prop) (m : MM α) : Prop where
  run : ∀ s1 s2, Q s1 s2 → (m s1).1 = (m s2).1 ∧ Q (m s1).2 (m s2).2

theorem NI2.pure {Q} (a : α) : NI2 Q (pure a : MM α) := ⟨fun _ _ h => ⟨rfl, h⟩⟩

theorem NI2.failAt {Q} (st : Step) : NI2 Q (failAt st : MM α) := ⟨fun _ _ h => ⟨rfl, h⟩⟩

theorem NI2.bind {Q} {m : MM α} {f : α → MM β} (hm : NI2 Q m) (hf : ∀ a, NI2 Q (f a)) :
    NI2 Q (m >>= f) := by
  constructor
  intro s1 s2 hq
  obtain ⟨ho, hq'⟩ := hm.run s1 s2 hq
  rw [bind_run, bind_run]
  rcases h1 : m s1 with ⟨o1, t1⟩
  rcases h2 : m s2 with ⟨o2, t2⟩
  rw [h1, h2] at ho hq'
  simp only at ho hq'
  subst ho
  cases o1 with
  | val a => exact (hf a).run t1 t2 hq'
  | fail st => exact ⟨rfl, hq'⟩
  | unknownEndpoint => exact ⟨rfl, hq'⟩
  | stuck => exact ⟨rfl, hq'⟩

def MWorld.afterReq (s : MWorld) (ev : MEv) (rest : List Ans) : MWorld :=
  { s with exs := rest, log := s.log ++ [ev] }

def MWorld.setEp (s : MWorld) (e : EpName) (g : EpRec → EpRec) : MWorld :=
  { s with acct := { s.acct with endpoints := modFirst e g s.acct.endpoints } }

theorem setEp_id (s : MWorld) (e : EpName) : s.setEp e (fun r => r) = s := by
  unfold MWorld.setEp
  rw [modFirst_id]

/-- `getEndpointM` sees the visible part of the record only. -/
theorem getEndpointM_run (e : EpName) (s : MWorld) :
    getEndpointM e s = match (s.acct.getEndpoint e).map EpRec.stored with
      | some r => (.val r, s)
      | none => (.unknownEndpoint, s) := by
  unfold getEndpointM
  cases s.acct.getEndpoint e <;> rfl

theorem getEndpointM_known {e : EpName} {s : MWorld} {r0 : EpRec}
    (hk : s.acct.getEndpoint e = some r0) : getEndpointM e s = (.val r0.stored, s) := by
  unfold getEndpointM; rw [hk]

/-- `modEpM` looks at the record of `e` only to see whether there is one. -/
theorem modEpM_run (e : EpName) (G : Shared → EpRec → EpRec) (s : MWorld) :
    modEpM e G s = if (s.acct.getEndpoint e).isSome then (.val (), s.setEp e (G s.acct.shared))
      else (.unknownEndpoint, s) := by
  unfold modEpM liftAcct Account.modEndpoint
  cases h : s.acct.getEndpoint e <;> simp only [h] <;> rfl

theorem modEpM_known {e : EpName} {s : MWorld} {r0 : EpRec} (hk : s.acct.getEndpoint e = some r0)
    (G : Shared → EpRec → EpRec) : modEpM e G s = (.val (), s.setEp e (G s.acct.shared)) := by
  rw [modEpM_run, hk]; rfl

/-- GHOST: the record after the CA processed a request whose answer was lost. -/
def lostUpd (k : ReqKind) (sh : Shared) (r : EpRec) : EpRec :=
  match k with
  | .keyChange => { r with ca := { r.ca with key := sh.currentKey } }
  | .accountUpdate => { r with ca := { r.ca with contacts := some sh.contacts } }
  | _ => r

/-- What `exchange` writes into the record of `ep`: the ghost effect of a lost answer, else
nothing. -/
def exchUpd (k : ReqKind) (a : Ans) (sh : Shared) : EpRec → EpRec :=
  match a with
  | .lost => lostUpd k sh
  | _ => fun r => r

theorem lostUpd_id {k : ReqKind} (h1 : k ≠ .keyChange) (h2 : k ≠ .accountUpdate) (sh : Shared) :
    lostUpd k sh = fun r => r := by
  funext r
  cases k <;> simp_all [lostUpd]

theorem exchUpd_ne_lost {k : ReqKind} {a : Ans} (h : a ≠ .lost) (sh : Shared) :
    exchUpd k a sh = fun r => r := by
  cases a <;> first | rfl | exact absurd rfl h

theorem exchUpd_stored (k : ReqKind) (a : Ans) (sh : Shared) (r : EpRec) :
    (exchUpd k a sh r).stored = r.stored := by
  cases a <;> first | rfl | cases k <;> rfl

theorem ghostLost_eq (a : Account) (ep : EpName) (k : ReqKind) :
    a.ghostLost ep k = { a with endpoints := modFirst ep (lostUpd k a.shared) a.endpoints } := by
  by_cases h1 : k = .keyChange
  · subst h1; rfl
  · by_cases h2 : k = .accountUpdate
    · subst h2; rfl
    · rw [lostUpd_id h1 h2, modFirst_id]
      cases k <;> first | rfl | exact absurd rfl h1 | exact absurd rfl h2

theorem exchange_nil {ep : EpName} {k : ReqKind} {tg : Target} {sg : KeyId} {kid : Url}
    {s : MWorld} (h : s.exs = []) : exchange ep k tg sg kid s = (.stuck, s) := by
  unfold exchange; rw [h]

theorem exchange_cons {ep : EpName} {k : ReqKind} {tg : Target} {sg : KeyId} {kid : Url}
    {s : MWorld} {a : Ans} {rest : List Ans} (h : s.exs = a :: rest) :
    exchange ep k tg sg kid s =
      (.val a, (s.afterReq (.req ep k tg sg kid a) rest).setEp ep (exchUpd k a s.acct.shared)) := by
  unfold exchange; rw [h]
  cases a with
  | lost => simp only [ghostLost_eq]; rfl
  | _ => simp only [MWorld.setEp, MWorld.afterReq, exchUpd, modFirst_id]

/-- (a) Through which `Endpoint` object and to which URL a request of the synchronisation of `e`
goes: through `e`; creation to `e`'s `newAccount` with the key as `jwk`; roll-over to `e`'s
`keyChange`; contact update, and the queries of the account made by the roll-over block, to the URL
used as `kid`. -/
def ReqOk (e : EpName) : MEv → Prop
  | .req ep k tg _ kid _ =>
    ep = e ∧ ((k = .newAccount ∧ tg = .dirNewAccount e ∧ kid = 0) ∨
              (k = .keyChange ∧ tg = .dirKeyChange e) ∨
              (k = .accountUpdate ∧ tg = .url kid) ∨
              (k = .accountProbe ∧ tg = .url kid))
  | _ => True

def NotKeyChange : MEv → Prop
  | .req _ k _ _ _ _ => k ≠ .keyChange
  | _ => True

/-- What `registerAccount`, `updateAccountContacts` and `checkNewKey` can say of their requests. -/
def ReqNK (e : EpName) (ev : MEv) : Prop := ReqOk e ev ∧ NotKeyChange ev

inductive IsUpd : (Shared → EpRec → EpRec) → Prop
  | reg (loc : Url) (o : Option Url) (ex : Bool) : IsUpd fun sh => regUpd sh loc o ex
  | key : IsUpd keyUpd
  | contacts : IsUpd contactsUpd

/-- `m` is built from the steps the synchronisation of `e` is made of: reading, an exchange through
`e` each of whose events satisfies `P`, a hook group, the save, one of the three writes to the record
of `e`. -/
inductive Prog (P : MEv → Prop) (e : EpName) : {α : Type} → MM α → Prop
  | pure {α : Type} (a : α) : Prog P e (pure a : MM α)
  | failAt {α : Type} (st : Step) : Prog P e (failAt st : MM α)
  | getShared : Prog P e getShared
  | getE : Prog P e (getEndpointM e)
  | exch (k : ReqKind) (tg : Target) (sg : KeyId) (kid : Url)
      (h : ∀ r, P (.req e k tg sg kid r)) : Prog P e (exchange e k tg sg kid)
  | hooks (ty : HookKind) : Prog P e (hookGroup ty)
  | write : Prog P e writeAccount
  | modEp {G : Shared → EpRec → EpRec} (h : IsUpd G) : Prog P e (modEpM e G)
  | bind {α β : Type} {m : MM α} {f : α → MM β} :
      Prog P e m → (∀ a, Prog P e (f a)) → Prog P e (m >>= f)

theorem Prog.mono {P P' : MEv → Prop} {e : EpName} {m : MM α} (h : ∀ ev, P ev → P' ev)
    (hm : Prog P e m) : Prog P' e m := by
  induction hm with
  | exch k tg sg kid hp => exact .exch k tg sg kid fun r => h _ (hp r)
  | bind _ _ ih1 ih2 => exact .bind ih1 ih2
  | pure a => exact .pure a
  | failAt st => exact .failAt st
  | getShared => exact .getShared
  | getE => exact .getE
  | hooks ty => exact .hooks ty
  | write => exact .write
  | modEp h => exact .modEp h

theorem Prog.ite {P : MEv → Prop} {e : EpName} {c : Prop} [Decidable c] {m1 m2 : MM α}
    (h1 : Prog P e m1) (h2 : Prog P e m2) : Prog P e (if c then m1 else m2) := by
  split <;> assumption

theorem Prog.saveAccount (P : MEv → Prop) (e : EpName) : Prog P e saveAccount :=
  .bind (.hooks _) fun _ =>
    .ite (.bind .write fun _ => .bind (.hooks _) fun _ => .ite (.pure _) (.failAt _)) (.failAt _)

theorem Prog.writeSave (P : MEv → Prop) {e : EpName} {f : Account → Option Account}
    {G : Shared → EpRec → EpRec} (hf : liftAcct f = modEpM e G) (hG : IsUpd G) :
    Prog P e (liftAcct f >>= fun _ => AccountMulti.saveAccount) :=
  hf ▸ .bind (.modEp hG) fun _ => .saveAccount P e

theorem Prog.registerAccount (e : EpName) : Prog (ReqNK e) e (registerAccount e) := by
  refine .bind .getShared fun sh => .bind (.exch _ _ _ _ fun _ =>
    ⟨⟨rfl, .inl ⟨rfl, rfl, rfl⟩⟩, by simp [NotKeyChange]⟩) fun r => ?_
  split
  · exact .writeSave _ (liftAcct_registered ..) (.reg ..)
  · exact .failAt _

theorem Prog.updateAccountContacts (e : EpName) :
    Prog (ReqNK e) e (updateAccountContacts e) := by
  have save := Prog.writeSave (ReqNK e) (liftAcct_contactsUpdated e) .contacts
  refine .bind .getShared fun sh => .bind .getE fun er => .bind (.exch _ _ _ _ fun _ =>
    ⟨⟨rfl, .inr (.inr (.inl ⟨rfl, rfl⟩))⟩, by simp [NotKeyChange]⟩) fun r => ?_
  split
  · exact save
  · exact save
  · exact .registerAccount e
  · exact .failAt _

theorem Prog.checkNewKey (e : EpName) (u : Url) : Prog (ReqNK e) e (checkNewKey e u) := by
  have save := Prog.writeSave (ReqNK e) (liftAcct_keyRolled e) .key
  refine .bind .getShared fun sh => .bind (.exch _ _ _ _ fun _ =>
    ⟨⟨rfl, .inr (.inr (.inr ⟨rfl, rfl⟩))⟩, by simp [NotKeyChange]⟩) fun r => ?_
  split
  · exact save
  · exact save
  · exact .failAt _

theorem Prog.reqOk {e : EpName} {m : MM α} (h : Prog (ReqNK e) e m) : Prog (ReqOk e) e m :=
  h.mono fun _ h => h.1

/-- The roll-over request, then programs that send no other. -/
theorem keyChangeStep_eq (ca : Bool) (e : EpName) (old : KeyId) (u : Url) :
    ∃ K : Ans → MM Unit,
      keyChangeStep ca e old u = exchange e .keyChange (.dirKeyChange e) old u >>= K ∧
      ∀ r, Prog (ReqNK e) e (K r) := by
  refine ⟨_, rfl, fun r => ?_⟩
  have save := Prog.writeSave (ReqNK e) (liftAcct_keyRolled e) .key
  split
  · exact save
  · exact save
  · exact .registerAccount e
  · exact .ite (.checkNewKey e u) (.failAt _)
  · exact .failAt _

theorem Prog.keyChangeStep (ca : Bool) (e : EpName) (old : KeyId) (u : Url) :
    Prog (ReqOk e) e (keyChangeStep ca e old u) := by
  obtain ⟨K, h, hK⟩ := keyChangeStep_eq ca e old u
  rw [h]
  exact .bind (.exch _ _ _ _ fun _ => ⟨rfl, .inr (.inl ⟨rfl, rfl⟩)⟩) fun r => (hK r).reqOk

theorem Prog.keyChangeChecked (e : EpName) (old : KeyId) (u : Url) :
    Prog (ReqOk e) e (keyChangeChecked e old u) := by
  refine .bind (.exch _ _ _ _ fun _ => ⟨rfl, .inr (.inr (.inr ⟨rfl, rfl⟩))⟩) fun r => ?_
  split
  · exact .keyChangeStep _ e old u
  · exact .keyChangeStep _ e old u
  · exact .keyChangeStep _ e old u
  · exact (Prog.checkNewKey e u).reqOk
  · exact .failAt _

theorem Prog.updateAccountKey (v : Variant) (e : EpName) :
    Prog (ReqOk e) e (updateAccountKey v e) := by
  refine .bind .getShared fun sh => .bind .getE fun er => ?_
  split
  · exact .failAt _
  · split
    · exact .keyChangeChecked e _ _
    · exact .keyChangeStep _ e _ _
    · exact .keyChangeStep _ e _ _

theorem Prog.synchronize (v : Variant) (e : EpName) : Prog (ReqOk e) e (synchronize v e) :=
  have reg := (Prog.registerAccount e).reqOk
  have con := (Prog.updateAccountContacts e).reqOk
  have key := Prog.updateAccountKey v e
  .bind .getShared fun _ => .bind .getE fun _ =>
    .ite (.ite (.bind reg fun _ => .ite con (.pure _))
      (.ite (.bind (.ite key (.pure _)) fun _ => .ite con (.pure _))
        (.bind (.ite con (.pure _)) fun _ => .ite key (.pure _))))
      reg

/-- What the steps must do for a law of one run (as `QPrims` for two runs). -/
structure MPrims (R : MWorld → Tag → MWorld → Prop) (P : MEv → Prop) (e : EpName) : Prop where
  law : MLaw R
  getE : MSat R (getEndpointM e)
  exch : ∀ k tg sg kid, (∀ r, P (.req e k tg sg kid r)) → MSat R (exchange e k tg sg kid)
  hooks : ∀ ty, MSat R (hookGroup ty)
  write : MSat R writeAccount
  modEp : ∀ G, IsUpd G → MSat R (modEpM e G)

/-- A law that the steps satisfy is satisfied by every program built from them. -/
theorem Prog.sat {R : MWorld → Tag → MWorld → Prop} {P : MEv → Prop} {e : EpName} {m : MM α}
    (hm : Prog P e m) (H : MPrims R P e) : MSat R m := by
  induction hm with
  | pure a => exact .pure H.law a
  | failAt st => exact .failAt H.law st
  | getShared => exact .getShared H.law
  | getE => exact H.getE
  | exch k tg sg kid h => exact H.exch k tg sg kid h
  | hooks ty => exact H.hooks ty
  | write => exact H.write
  | modEp h => exact H.modEp _ h
  | bind _ _ ih1 ih2 => exact .bind H.law ih1 ih2

/-- `G` does not look at the ghost: the visible part of its result depends on the visible part of
its argument only. -/
def Obliv (G : Shared → EpRec → EpRec) : Prop :=
  ∀ sh r r', r.stored = r'.stored → (G sh r).stored = (G sh r').stored

theorem stored_fields {r r' : EpRec} (h : r.stored = r'.stored) :
    r.creation = r'.creation ∧ r.accountUrl = r'.accountUrl ∧ r.ordersUrl = r'.ordersUrl ∧
    r.keyHash = r'.keyHash ∧ r.contactsHash = r'.contactsHash ∧ r.eabHash = r'.eabHash :=
  by
  unfold EpRec.stored at h
  injection h with a b c d e f
  exact ⟨a, b, c, d, e, f⟩

theorem IsUpd.obliv {G : Shared → EpRec → EpRec} (h : IsUpd G) : Obliv G := by
  intro sh r r' hr
  obtain ⟨h1, h2, h3, h4, h5, h6⟩ := stored_fields hr
  cases h with
  | reg loc o ex => simp [regUpd, EpRec.stored, h1, h6]
  | key => simp [keyUpd, EpRec.stored, h1, h2, h3, h5, h6]
  | contacts => simp [contactsUpd, EpRec.stored, h1, h2, h3, h4, h6]

/-- What a relation between two states must satisfy for `synchronize … e` to respect it. -/
structure QPrims (Q : MWorld → MWorld → Prop) (e : EpName) : Prop where
  shared : NI2 Q getShared
  getE : NI2 Q (getEndpointM e)
  exch : ∀ ep k tg sg kid, NI2 Q (exchange ep k tg sg kid)
  hooks : ∀ ty, NI2 Q (hookGroup ty)
  write : NI2 Q writeAccount
  modEp : ∀ G, Obliv G → NI2 Q (modEpM e G)

/-- Two runs from related states stay related, for every relation the steps respect. -/
theorem Prog.ni {Q : MWorld → MWorld → Prop} {P : MEv → Prop} {e : EpName} {m : MM α}
    (hm : Prog P e m) (H : QPrims Q e) : NI2 Q m := by
  induction hm with
  | pure a => exact .pure a
  | failAt st => exact .failAt st
  | getShared => exact H.shared
  | getE => exact H.getE
  | exch k tg sg kid _ => exact H.exch e k tg sg kid
  | hooks ty => exact H.hooks ty
  | write => exact H.write
  | modEp h => exact H.modEp _ h.obliv
  | bind _ _ ih1 ih2 => exact .bind ih1 ih2

section
variable {Q : MWorld → MWorld → Prop} {e : EpName} (H : QPrims Q e)
include H

theorem NI2.saveAccount : NI2 Q saveAccount :=
  (Prog.saveAccount (ReqOk e) e).ni H
theorem NI2.synchronize (v : Variant) : NI2 Q (synchronize v e) :=
  (Prog.synchronize v e).ni H
end

/-- `synchronize … e` may only: leave the shared fields alone, replace the FIRST entry named `e`
by a function of itself, and write to disk an account of that same form. -/
def FrameR (e : EpName) : MWorld → Tag → MWorld → Prop := fun s _ s' =>
  s'.acct.shared = s.acct.shared ∧
  (∃ g, s'.acct.endpoints = modFirst e g s.acct.endpoints) ∧
  (s'.disk = s.disk ∨ ∃ a g, s'.disk = some a ∧ a.shared = s.acct.shared ∧
    a.endpoints = modFirst e g s.acct.endpoints)

theorem FrameR.of_eq (e : EpName) {t : Tag} {s s' : MWorld} (h1 : s'.acct = s.acct)
    (h2 : s'.disk = s.disk) : FrameR e s t s' :=
  ⟨by rw [h1], ⟨fun r => r, by rw [h1, modFirst_id]⟩, .inl h2⟩

theorem FrameR.law (e : EpName) : MLaw (FrameR e) where
  refl := fun _ _ _ => FrameR.of_eq e rfl rfl
  trans := by
    rintro s1 s2 s3 t ⟨a1, ⟨g1, a2⟩, a3⟩ ⟨b1, ⟨g2, b2⟩, b3⟩
    refine ⟨b1.trans a1, ⟨fun r => g2 (g1 r), by rw [b2, a2, modFirst_modFirst]⟩, ?_⟩
    rcases b3 with b3 | ⟨a, g, h1, h2, h3⟩
    · rw [b3]; exact a3
    · exact .inr ⟨a, fun r => g (g1 r), h1, h2.trans a1, by rw [h3, a2, modFirst_modFirst]⟩

theorem FrameR.exchange (e : EpName) (k : ReqKind) (tg : Target) (sg : KeyId) (kid : Url) :
    MSat (FrameR e) (exchange e k tg sg kid) := by
  constructor; intro s
  rcases hx : s.exs with _ | ⟨r, rest⟩
  · rw [exchange_nil hx]; exact FrameR.of_eq e rfl rfl
  · rw [exchange_cons hx]; exact ⟨rfl, ⟨exchUpd k r s.acct.shared, rfl⟩, .inl rfl⟩

theorem FrameR.prims (P : MEv → Prop) (e : EpName) : MPrims (FrameR e) P e where
  law := FrameR.law e
  getE := ⟨fun s => by
    unfold getEndpointM
    cases s.acct.getEndpoint e <;> exact FrameR.of_eq e rfl rfl⟩
  exch := fun k tg sg kid _ => FrameR.exchange e k tg sg kid
  hooks := fun ty => ⟨fun s => by
    unfold hookGroup
    cases s.hks <;> exact FrameR.of_eq e rfl rfl⟩
  write := ⟨fun s => ⟨rfl, ⟨fun r => r, (modFirst_id e _).symm⟩,
    .inr ⟨s.acct, fun r => r, rfl, rfl, (modFirst_id e _).symm⟩⟩⟩
  modEp := fun G _ => ⟨fun s => by
    rw [modEpM_run]
    split
    · exact ⟨rfl, ⟨G s.acct.shared, rfl⟩, .inl rfl⟩
    · exact FrameR.of_eq e rfl rfl⟩

theorem FrameR.saveAccount (e : EpName) : MSat (FrameR e) saveAccount :=
  (Prog.saveAccount (ReqOk e) e).sat (FrameR.prims _ e)
theorem FrameR.synchronize (v : Variant) (e : EpName) : MSat (FrameR e) (synchronize v e) :=
  (Prog.synchronize v e).sat (FrameR.prims _ e)

def EvR (P : MEv → Prop) : MWorld → Tag → MWorld → Prop := fun s _ s' =>
  ∃ es, s'.log = s.log ++ es ∧ ∀ ev ∈ es, P ev

theorem EvR.of_log_eq (P : MEv → Prop) {t : Tag} {s s' : MWorld} (h : s'.log = s.log) :
    EvR P s t s' := ⟨[], by simp [h], by simp⟩

theorem EvR.one (P : MEv → Prop) {t : Tag} {s s' : MWorld} {ev : MEv} (h : s'.log = s.log ++ [ev])
    (hp : P ev) : EvR P s t s' := ⟨[ev], h, by simpa using hp⟩

theorem EvR.law (P : MEv → Prop) : MLaw (EvR P) where
  refl := fun _ _ _ => EvR.of_log_eq P rfl
  trans := by
    rintro s1 s2 s3 t ⟨a, ha, pa⟩ ⟨b, hb, pb⟩
    refine ⟨a ++ b, by rw [hb, ha, List.append_assoc], ?_⟩
    intro ev hev
    rcases List.mem_append.mp hev with h | h
    · exact pa ev h
    · exact pb ev h

theorem EvR.exchange (P : MEv → Prop) (ep : EpName) (k : ReqKind) (tg : Target) (sg : KeyId)
    (kid : Url) (h : ∀ r, P (.req ep k tg sg kid r)) : MSat (EvR P) (exchange ep k tg sg kid) := by
  constructor; intro s; unfold AccountMulti.exchange
  cases s.exs with
  | nil => exact EvR.of_log_eq P rfl
  | cons r rest => exact EvR.one P rfl (h r)

theorem EvR.prims (P : MEv → Prop) (e : EpName) (hh : ∀ ty b, P (.hooks ty b))
    (hs : P .saveAccount) : MPrims (EvR P) P e where
  law := EvR.law P
  getE := ⟨fun s => by
    unfold getEndpointM
    cases s.acct.getEndpoint e <;> exact EvR.of_log_eq P rfl⟩
  exch := EvR.exchange P e
  hooks := fun ty => ⟨fun s => by
    unfold hookGroup
    cases s.hks with
    | nil => exact EvR.of_log_eq P rfl
    | cons b rest => exact EvR.one P rfl (hh ty b)⟩
  write := ⟨fun _ => EvR.one P rfl hs⟩
  modEp := fun G _ => ⟨fun s => by
    rw [modEpM_run]
    split <;> exact EvR.of_log_eq P rfl⟩

theorem ReqOk.saveAccount (e : EpName) : MSat (EvR (ReqOk e)) saveAccount :=
  (Prog.saveAccount _ e).sat (EvR.prims _ e (fun _ _ => trivial) trivial)
theorem ReqOk.synchronize (v : Variant) (e : EpName) :
    MSat (EvR (ReqOk e)) (synchronize v e) :=
  (Prog.synchronize v e).sat (EvR.prims _ e (fun _ _ => trivial) trivial)

theorem Prog.notKeyChange {e : EpName} {m : MM α} (h : Prog (ReqNK e) e m) :
    MSat (EvR NotKeyChange) m :=
  (h.mono fun _ h => h.2).sat (EvR.prims _ e (fun _ _ => trivial) trivial)

theorem NotKeyChange.saveAccount : MSat (EvR NotKeyChange) saveAccount :=
  (Prog.saveAccount _ 0).notKeyChange

/-- For a record with an account URL: a key fingerprint is recorded, the CA holds exactly that
key, and the account still has it (as current key or among the past keys). -/
def Held (sh : Shared) (r : EpRec) : Prop :=
  r.accountUrl ≠ 0 → ∃ k, r.keyHash = some k ∧ r.ca.key = k ∧ (k = sh.currentKey ∨ k ∈ sh.pastKeys)

def HeldAll (a : Account) : Prop := ∀ e r, a.getEndpoint e = some r → Held a.shared r

/-- No answer of the script is "processed, answer lost". -/
def NoLost (l : List Ans) : Prop := Ans.lost ∉ l

/-- `HeldAll` is kept as long as no answer is lost after the CA processed the request (the only way
the CA's record can move without the client being told). -/
def HeldR : MWorld → Tag → MWorld → Prop := fun s _ s' =>
  NoLost s.exs → HeldAll s.acct → HeldAll s'.acct ∧ NoLost s'.exs

theorem HeldR.law : MLaw HeldR where
  refl := fun _ _ _ hn h => ⟨h, hn⟩
  trans := fun h1 h2 hn h => h2 (h1 hn h).2 (h1 hn h).1

theorem HeldR.of_eq {t : Tag} {s s' : MWorld} (h : s'.acct = s.acct) (hx : s'.exs = s.exs) :
    HeldR s t s' := by
  intro hn hh; rw [h, hx]; exact ⟨hh, hn⟩

/-- A registration and a roll-over record the current key, which the CA now holds; a contact
update touches neither. -/
theorem IsUpd.held {G : Shared → EpRec → EpRec} (h : IsUpd G) (sh : Shared) (r : EpRec)
    (hr : Held sh r) : Held sh (G sh r) := by
  cases h with
  | reg loc o ex => exact fun _ => ⟨sh.currentKey, rfl, rfl, .inl rfl⟩
  | key => exact fun _ => ⟨sh.currentKey, rfl, rfl, .inl rfl⟩
  | contacts => exact hr

theorem HeldR.exchange (ep : EpName) (k : ReqKind) (tg : Target) (sg : KeyId) (kid : Url) :
    MSat HeldR (exchange ep k tg sg kid) := by
  constructor; intro s
  rcases hx : s.exs with _ | ⟨r, rest⟩
  · rw [exchange_nil hx]; exact HeldR.of_eq rfl rfl
  · rw [exchange_cons hx]
    intro hn hh
    have hr : r ≠ .lost := fun h => hn (by rw [hx, h]; exact List.mem_cons_self)
    rw [exchUpd_ne_lost hr, setEp_id]
    exact ⟨hh, fun h => hn (by rw [hx]; exact List.mem_cons_of_mem _ h)⟩

theorem HeldR.prims (P : MEv → Prop) (e : EpName) : MPrims HeldR P e where
  law := HeldR.law
  getE := ⟨fun s => by
    unfold getEndpointM
    cases s.acct.getEndpoint e <;> exact HeldR.of_eq rfl rfl⟩
  exch := fun k tg sg kid _ => HeldR.exchange e k tg sg kid
  hooks := fun ty => ⟨fun s => by
    unfold hookGroup
    cases s.hks <;> exact HeldR.of_eq rfl rfl⟩
  write := ⟨fun _ => HeldR.of_eq rfl rfl⟩
  modEp := fun G hG => ⟨fun s => by
    rw [modEpM_run]
    split
    · exact fun hn hh => ⟨forall_lookup_modFirst hh (hG.held _), hn⟩
    · exact HeldR.of_eq rfl rfl⟩

-- `saveAccount` sends nothing and writes no record: any predicate on events, any endpoint name.
theorem HeldR.saveAccount : MSat HeldR saveAccount :=
  (Prog.saveAccount (ReqOk 0) 0).sat (HeldR.prims _ 0)
theorem HeldR.synchronize (v : Variant) (e : EpName) : MSat HeldR (synchronize v e) :=
  (Prog.synchronize v e).sat (HeldR.prims _ e)

/-- For a record with an account URL: a key fingerprint is recorded, the account still has that
key, and the CA holds that key — or the account's CURRENT key (a roll-over it processed whose answer
was lost: the client still records the superseded key). -/
def HeldP (sh : Shared) (r : EpRec) : Prop :=
  r.accountUrl ≠ 0 → ∃ k, r.keyHash = some k ∧ (r.ca.key = k ∨ r.ca.key = sh.currentKey) ∧
    (k = sh.currentKey ∨ k ∈ sh.pastKeys)

def HeldPAll (a : Account) : Prop := ∀ e r, a.getEndpoint e = some r → HeldP a.shared r

theorem HeldAll.toP {a : Account} (h : HeldAll a) : HeldPAll a := fun e r hr hu =>
  let ⟨k, h1, h2, h3⟩ := h e r hr hu
  ⟨k, h1, .inl h2, h3⟩

def HeldPR : MWorld → Tag → MWorld → Prop := fun s _ s' => HeldPAll s.acct → HeldPAll s'.acct

theorem HeldPR.law : MLaw HeldPR where
  refl := fun _ _ _ h => h
  trans := fun h1 h2 h => h2 (h1 h)

theorem HeldPR.of_eq {t : Tag} {s s' : MWorld} (h : s'.acct = s.acct) : HeldPR s t s' := by
  intro hh; rw [h]; exact hh

theorem IsUpd.heldP {G : Shared → EpRec → EpRec} (h : IsUpd G) (sh : Shared) (r : EpRec)
    (hr : HeldP sh r) : HeldP sh (G sh r) := by
  cases h with
  | reg loc o ex => exact fun _ => ⟨sh.currentKey, rfl, .inl rfl, .inl rfl⟩
  | key => exact fun _ => ⟨sh.currentKey, rfl, .inl rfl, .inl rfl⟩
  | contacts => exact hr

theorem HeldP.exchUpd (k : ReqKind) (a : Ans) (sh : Shared) (r : EpRec) (h : HeldP sh r) :
    HeldP sh (exchUpd k a sh r) := by
  cases a with
  | lost =>
    cases k with
    | keyChange => exact fun hu => let ⟨k', g1, _, g3⟩ := h hu; ⟨k', g1, .inr rfl, g3⟩
    | _ => exact h
  | _ => exact h

theorem HeldPR.exchange (ep : EpName) (k : ReqKind) (tg : Target) (sg : KeyId) (kid : Url) :
    MSat HeldPR (exchange ep k tg sg kid) := by
  constructor; intro s
  rcases hx : s.exs with _ | ⟨r, rest⟩
  · rw [exchange_nil hx]; exact HeldPR.of_eq rfl
  · rw [exchange_cons hx]; exact fun hh => forall_lookup_modFirst hh (HeldP.exchUpd k r _)

theorem HeldPR.prims (P : MEv → Prop) (e : EpName) : MPrims HeldPR P e where
  law := HeldPR.law
  getE := ⟨fun s => by
    unfold getEndpointM
    cases s.acct.getEndpoint e <;> exact HeldPR.of_eq rfl⟩
  exch := fun k tg sg kid _ => HeldPR.exchange e k tg sg kid
  hooks := fun ty => ⟨fun s => by
    unfold hookGroup
    cases s.hks <;> exact HeldPR.of_eq rfl⟩
  write := ⟨fun _ => HeldPR.of_eq rfl⟩
  modEp := fun G hG => ⟨fun s => by
    rw [modEpM_run]
    split
    · exact fun hh => forall_lookup_modFirst hh (hG.heldP _)
    · exact HeldPR.of_eq rfl⟩

theorem HeldPR.saveAccount : MSat HeldPR saveAccount :=
  (Prog.saveAccount (ReqOk 0) 0).sat (HeldPR.prims _ 0)
theorem HeldPR.synchronize (v : Variant) (e : EpName) : MSat HeldPR (synchronize v e) :=
  (Prog.synchronize v e).sat (HeldPR.prims _ e)

def Known (e : EpName) (a : Account) : Prop := (a.getEndpoint e).isSome = true

def KnownR (e : EpName) : MWorld → Tag → MWorld → Prop := fun s t s' =>
  Known e s.acct → t ≠ .unknownEndpoint ∧ Known e s'.acct

theorem KnownR.law (e : EpName) : MLaw (KnownR e) where
  refl := fun _ _ ht hk => ⟨ht, hk⟩
  trans := fun h1 h2 hk => h2 (h1 hk).2

theorem KnownR.exchange (e ep : EpName) (k : ReqKind) (tg : Target) (sg : KeyId) (kid : Url) :
    MSat (KnownR e) (exchange ep k tg sg kid) := by
  constructor; intro s hk
  rcases hx : s.exs with _ | ⟨r, rest⟩
  · rw [exchange_nil hx]; exact ⟨by simp, hk⟩
  · rw [exchange_cons hx]
    exact ⟨by simp, (lookupEp_modFirst_isSome e ep _ _).trans hk⟩

theorem KnownR.prims (P : MEv → Prop) (e : EpName) : MPrims (KnownR e) P e where
  law := KnownR.law e
  getE := ⟨fun s hk => by
    rw [getEndpointM_run]
    obtain ⟨r, hr⟩ := Option.isSome_iff_exists.mp hk
    rw [hr]
    exact ⟨by simp, hk⟩⟩
  exch := fun k tg sg kid _ => KnownR.exchange e e k tg sg kid
  hooks := fun ty => ⟨fun s hk => by
    unfold hookGroup
    cases s.hks <;> exact ⟨by simp, hk⟩⟩
  write := ⟨fun _ hk => ⟨by simp [writeAccount], hk⟩⟩
  modEp := fun G _ => ⟨fun s hk => by
    rw [modEpM_run, if_pos (show _ = true from hk)]
    exact ⟨by simp, (lookupEp_modFirst_isSome e e _ _).trans hk⟩⟩

theorem KnownR.saveAccount (e : EpName) : MSat (KnownR e) saveAccount :=
  (Prog.saveAccount (ReqOk e) e).sat (KnownR.prims _ e)
theorem KnownR.synchronize (v : Variant) (e : EpName) : MSat (KnownR e) (synchronize v e) :=
  (Prog.synchronize v e).sat (KnownR.prims _ e)

/-- The same scripts, log and shared fields, maps related by `E`, anything on disk. -/
def RelOn (E : List (EpName × EpRec) → List (EpName × EpRec) → Prop) (s1 s2 : MWorld) : Prop :=
  s1.exs = s2.exs ∧ s1.hks = s2.hks ∧ s1.log = s2.log ∧ s1.acct.shared = s2.acct.shared ∧
  E s1.acct.endpoints s2.acct.endpoints

/-- The steps respect `RelOn E` when `E` determines the visible part of the record of `e` and is
kept by a write, to any record, that does not look at the ghost. -/
theorem RelOn.prims {E : List (EpName × EpRec) → List (EpName × EpRec) → Prop} (e : EpName)
    (hget : ∀ l1 l2, E l1 l2 →
      (lookupEp e l1).map EpRec.stored = (lookupEp e l2).map EpRec.stored)
    (hmod : ∀ ep g l1 l2, (∀ r r', r.stored = r'.stored → (g r).stored = (g r').stored) →
      E l1 l2 → E (modFirst ep g l1) (modFirst ep g l2)) : QPrims (RelOn E) e where
  shared := ⟨fun _ _ h => ⟨congrArg MOut.val h.2.2.2.1, h⟩⟩
  getE := by
    refine ⟨fun s1 s2 h => ?_⟩
    rw [getEndpointM_run, getEndpointM_run, Account.getEndpoint, Account.getEndpoint,
      hget _ _ h.2.2.2.2]
    split <;> exact ⟨rfl, h⟩
  exch := by
    refine fun ep k tg sg kid => ⟨fun s1 s2 ⟨h1, h2, h3, h4, h5⟩ => ?_⟩
    rcases hx : s2.exs with _ | ⟨r, rest⟩
    · rw [exchange_nil (h1.trans hx), exchange_nil hx]
      exact ⟨rfl, h1, h2, h3, h4, h5⟩
    · rw [exchange_cons (h1.trans hx), exchange_cons hx]
      refine ⟨rfl, rfl, h2, congrArg (· ++ _) h3, h4, ?_⟩
      rw [h4]
      exact hmod ep _ _ _ (fun r1 r2 hr => by rw [exchUpd_stored, exchUpd_stored, hr]) h5
  hooks := by
    refine fun ty => ⟨fun s1 s2 ⟨h1, h2, h3, h4, h5⟩ => ?_⟩
    unfold hookGroup
    rw [h2]
    cases s2.hks with
    | nil => exact ⟨rfl, h1, h2, h3, h4, h5⟩
    | cons b rest => exact ⟨rfl, h1, rfl, congrArg (· ++ _) h3, h4, h5⟩
  write := ⟨fun _ _ ⟨h1, h2, h3, h4, h5⟩ => ⟨rfl, h1, h2, congrArg (· ++ _) h3, h4, h5⟩⟩
  modEp := by
    refine fun G hG => ⟨fun s1 s2 ⟨h1, h2, h3, h4, h5⟩ => ?_⟩
    have hsome : (s1.acct.getEndpoint e).isSome = (s2.acct.getEndpoint e).isSome := by
      simpa [Account.getEndpoint] using congrArg Option.isSome (hget _ _ h5)
    rw [modEpM_run, modEpM_run, hsome]
    split
    · refine ⟨rfl, h1, h2, h3, h4, ?_⟩
      rw [h4]
      exact hmod e _ _ _ (hG _) h5
    · exact ⟨rfl, h1, h2, h3, h4, h5⟩

/-- (c) Two states that differ only in the records of endpoints other than `e` (and in what is on
disk). -/
def RelE (e : EpName) : MWorld → MWorld → Prop :=
  RelOn fun l1 l2 => lookupEp e l1 = lookupEp e l2

theorem RelE.prims (e : EpName) : QPrims (RelE e) e :=
  RelOn.prims e (fun _ _ h => congrArg _ h) fun ep g l1 l2 _ h => by
    by_cases he : e = ep
    · subst he
      rw [lookupEp_modFirst_same, lookupEp_modFirst_same, h]
    · rw [lookupEp_modFirst_other he, lookupEp_modFirst_other he, h]

/-- An entry of the map as the code sees it: without the ghost. -/
def scrub (p : EpName × EpRec) : EpName × EpRec := (p.1, p.2.stored)

/-- Two states that differ only in the ghost (and in what is on disk). -/
def RelG (s1 s2 : MWorld) : Prop :=
  s1.exs = s2.exs ∧ s1.hks = s2.hks ∧ s1.log = s2.log ∧ s1.acct.shared = s2.acct.shared ∧
  s1.acct.endpoints.map scrub = s2.acct.endpoints.map scrub

theorem lookupEp_scrub (e : EpName) (l : List (EpName × EpRec)) :
    lookupEp e (l.map scrub) = (lookupEp e l).map EpRec.stored := by
  induction l using firstNamed_induction e with
  | nil => rfl
  | hit r l =>
    simp only [List.map_cons, scrub]
    rw [lookupEp_cons_self, lookupEp_cons_self]; rfl
  | miss n r l h ih =>
    simp only [List.map_cons, scrub]
    rw [lookupEp_cons_ne h, lookupEp_cons_ne h]; exact ih

theorem modFirst_scrub (e : EpName) (g : EpRec → EpRec)
    (hg : ∀ r r', r.stored = r'.stored → (g r).stored = (g r').stored)
    (l : List (EpName × EpRec)) :
    (modFirst e g l).map scrub = modFirst e (fun r => (g r).stored) (l.map scrub) := by
  induction l using firstNamed_induction e with
  | nil => rfl
  | hit r l =>
    simp only [modFirst_cons_self, List.map_cons, scrub]
    rw [hg r r.stored rfl]
  | miss n r l h ih =>
    simp only [modFirst_cons_ne h, List.map_cons, scrub]
    rw [ih]

theorem RelG.prims (e : EpName) : QPrims RelG e :=
  RelOn.prims (E := fun l1 l2 => l1.map scrub = l2.map scrub) e
    (fun l1 l2 h => by rw [← lookupEp_scrub, ← lookupEp_scrub, h])
    fun ep g l1 l2 hg h => by rw [modFirst_scrub ep g hg, modFirst_scrub ep g hg, h]

theorem afterReq_setEp_id {s : MWorld} {ev : MEv} {rest : List Ans} {e : EpName} {k : ReqKind}
    {a : Ans} (h : a ≠ .lost ∨ (k ≠ .keyChange ∧ k ≠ .accountUpdate)) :
    (s.afterReq ev rest).setEp e (exchUpd k a s.acct.shared) = s.afterReq ev rest := by
  have : exchUpd k a s.acct.shared = fun r => r := by
    rcases h with h | ⟨h1, h2⟩
    · exact exchUpd_ne_lost h _
    · cases a with
      | lost => exact lostUpd_id h1 h2 _
      | _ => rfl
  rw [this, setEp_id]

theorem writeSave_run {e : EpName} {f : Account → Option Account} {G : Shared → EpRec → EpRec}
    {s : MWorld} {r0 : EpRec} (hf : liftAcct f = modEpM e G) (hk : s.acct.getEndpoint e = some r0) :
    (liftAcct f >>= fun _ => saveAccount) s = saveAccount (s.setEp e (G s.acct.shared)) := by
  rw [hf, bind_run, modEpM_known hk]

theorem saveAccount_run (s : MWorld) : saveAccount s = match s.hks with
    | [] => (.stuck, s)
    | false :: rest =>
      (.fail .saveAccount, { s with hks := rest, log := s.log ++ [.hooks .filePre false] })
    | true :: rest =>
      match rest with
      | [] => (.stuck, { s with hks := [], log := s.log ++ [.hooks .filePre true] ++ [.saveAccount],
                                disk := some s.acct })
      | b :: rest' => (if b then .val () else .fail .saveAccount,
          { s with hks := rest', disk := some s.acct,
                   log := s.log ++ [.hooks .filePre true] ++ [.saveAccount] ++ [.hooks .filePost b] }) := by
  unfold saveAccount
  simp only [bind_run, hookGroup]
  rcases s.hks with _ | ⟨b, _ | ⟨b2, rest⟩⟩
  · rfl
  · cases b <;> rfl
  · cases b <;> cases b2 <;> rfl

theorem getPastKey_some {sh : Shared} {h : Option KeyId} {old : KeyId}
    (hp : sh.getPastKey h = some old) : h = some old ∧ old ∈ sh.pastKeys := by
  unfold Shared.getPastKey at hp
  rcases h with _ | k
  · cases hp
  · simp only at hp
    have h1 := List.find?_some hp
    have h2 := List.mem_of_find?_eq_some hp
    have : old = k := by simpa using h1
    exact ⟨by rw [this], h2⟩

theorem updateAccountKey_run (v : Variant) (e : EpName) (s : MWorld) (r0 : EpRec)
    (hk : s.acct.getEndpoint e = some r0) :
    updateAccountKey v e s = match s.acct.shared.getPastKey r0.keyHash with
      | none => (.fail .pastKey, s)
      | some old =>
        match v.rolloverCheck with
        | .first => keyChangeChecked e old r0.accountUrl s
        | .afterRefusal => keyChangeStep true e old r0.accountUrl s
        | .none => keyChangeStep false e old r0.accountUrl s := by
  unfold updateAccountKey
  simp only [bind_run, getShared, getEndpointM_known hk]
  have hst : r0.stored.keyHash = r0.keyHash := rfl
  have hsu : r0.stored.accountUrl = r0.accountUrl := rfl
  rw [hst, hsu]
  rcases s.acct.shared.getPastKey r0.keyHash with _ | old
  · rfl
  · cases v.rolloverCheck <;> rfl

theorem synchronize_run (v : Variant) (e : EpName) (s : MWorld) (r0 : EpRec)
    (hk : s.acct.getEndpoint e = some r0) :
    synchronize v e s =
      (if (r0.accountUrl != 0) = true then
        if bindingChanged s.acct.shared r0 = true then
          (registerAccount e >>= fun _ =>
            if (v.bindingThenContacts && ((r0.contactsHash != some s.acct.shared.contacts) &&
                !(r0.keyHash != some s.acct.shared.currentKey))) = true
            then updateAccountContacts e else pure ())
        else if v.keyFirst = true then
          ((if (r0.keyHash != some s.acct.shared.currentKey) = true then updateAccountKey v e
            else pure ()) >>= fun _ =>
           if (r0.contactsHash != some s.acct.shared.contacts) = true then updateAccountContacts e
           else pure ())
        else
          ((if (r0.contactsHash != some s.acct.shared.contacts) = true then updateAccountContacts e
            else pure ()) >>= fun _ =>
           if (r0.keyHash != some s.acct.shared.currentKey) = true then updateAccountKey v e
           else pure ())
      else registerAccount e) s := by
  unfold synchronize
  rw [bind_run]
  simp only [getShared]
  rw [bind_run, getEndpointM_known hk]
  rfl

theorem synchronize_unknown (v : Variant) (e : EpName) (s : MWorld)
    (h : s.acct.getEndpoint e = none) : synchronize v e s = (.unknownEndpoint, s) := by
  unfold synchronize
  rw [bind_run]
  simp only [getShared]
  rw [bind_run]
  unfold getEndpointM
  rw [h]

/-- `Flow.Acc.pastKeyKnown` is an input flag of `Model/Flow.lean` that no step refreshes; it is
compared only where it is read (before the first step). -/
def forgetPk (a : Flow.Acc) : Flow.Acc := { a with pastKeyKnown := false }

theorem forgetPk_fields {a b : Flow.Acc} (h : forgetPk a = forgetPk b) :
    a.hasUrl = b.hasUrl ∧ a.contactsInSync = b.contactsInSync ∧ a.bindingInSync = b.bindingInSync ∧
    a.curKey = b.curKey ∧ a.recKey = b.recKey ∧ a.caKey = b.caKey ∧
    a.caContactsOk = b.caContactsOk := by
  unfold forgetPk at h
  injection h with h1 h2 h3 _ h5 h6 h7 h8
  exact ⟨h1, h2, h3, h5, h6, h7, h8⟩

theorem forgetPk_ext {a b : Flow.Acc} (h1 : a.hasUrl = b.hasUrl)
    (h2 : a.contactsInSync = b.contactsInSync) (h3 : a.bindingInSync = b.bindingInSync)
    (h4 : a.curKey = b.curKey) (h5 : a.recKey = b.recKey) (h6 : a.caKey = b.caKey)
    (h7 : a.caContactsOk = b.caContactsOk) : forgetPk a = forgetPk b := by
  unfold forgetPk
  rw [h1, h2, h3, h4, h5, h6, h7]

/-- The state of `Model/Flow.lean` that corresponds to endpoint `e` of a state of this model. -/
structure SimR (e : EpName) (s : MWorld) (w : Flow.World) : Prop where
  ep : ∃ r, s.acct.getEndpoint e = some r ∧ forgetPk w.acc = forgetPk (viewAcc s.acct.shared r)
  exs : w.exs = s.exs.map Ans.abs
  hks : w.hks = s.hks
  trace : w.trace = s.log.map MEv.abs
  noEmpty : ∀ o ex, Ans.account ⟨some 0, o, ex⟩ ∉ s.exs

def SimOut (o : MOut Unit) (o' : Flow.Out Unit) : Prop :=
  o.tag.abs = o'.tag ∧ o.tag ≠ .unknownEndpoint

def SimStep (e : EpName) (p : MOut Unit × MWorld) (q : Flow.Out Unit × Flow.World) : Prop :=
  SimOut p.1 q.1 ∧ SimR e p.2 q.2

theorem SimR.fail {e : EpName} {s : MWorld} {w : Flow.World} (h : SimR e s w) (st : Step) :
    SimStep e (.fail st, s) (.fail st, w) := ⟨⟨rfl, by simp⟩, h⟩

theorem SimR.stuck {e : EpName} {s : MWorld} {w : Flow.World} (h : SimR e s w) :
    SimStep e (.stuck, s) (.stuck, w) := ⟨⟨rfl, by simp⟩, h⟩

theorem saveAccount_sim {e : EpName} {s : MWorld} {w : Flow.World} (h : SimR e s w) :
    SimStep e (saveAccount s) (Flow.saveAccount w) := by
  rw [saveAccount_run, Flow.saveAccount, Flow.writeFileHooks_run .saveAccount (Flow.emit .saveAccount)
    (fun w => { w with trace := w.trace ++ [.saveAccount] }) (fun _ => rfl) (fun _ => rfl), h.hks]
  obtain ⟨hr, hx, hh, ht, hn⟩ := h
  rcases s.hks with _ | ⟨b, _ | ⟨b2, rest⟩⟩
  · exact ⟨⟨rfl, by simp⟩, ⟨hr, hx, hh, ht, hn⟩⟩
  · cases b <;> exact ⟨⟨rfl, by simp⟩, ⟨hr, hx, rfl, by simp [ht, MEv.abs], hn⟩⟩
  · cases b <;> cases b2 <;> exact ⟨⟨rfl, by simp⟩, ⟨hr, hx, rfl, by simp [ht, MEv.abs], hn⟩⟩

theorem view_keyInSync (sh : Shared) (r : EpRec) :
    (viewAcc sh r).keyInSync = !(r.keyHash != some sh.currentKey) := by
  unfold Flow.Acc.keyInSync viewAcc
  rcases r.keyHash with _ | k
  · simp [bne]
  · simp [bne]

/-- The flags `Props.C11.sync_converges` ends with, read back on the record. -/
theorem view_inLine {a : Flow.Acc} {sh : Shared} {r : EpRec}
    (h : forgetPk a = forgetPk (viewAcc sh r)) (c1 : a.hasUrl = true)
    (c2 : a.contactsInSync = true) (c3 : a.keyInSync = true) (c4 : a.bindingInSync = true) :
    r.accountUrl ≠ 0 ∧ r.keyHash = some sh.currentKey ∧ r.contactsHash = some sh.contacts ∧
      bindingChanged sh r = false := by
  obtain ⟨f1, f2, f3, f4, f5, _, _⟩ := forgetPk_fields h
  have hk : (viewAcc sh r).keyInSync = true := by
    unfold Flow.Acc.keyInSync at c3 ⊢
    rw [← f5, ← f4]; exact c3
  rw [view_keyInSync] at hk
  rw [c1] at f1; rw [c2] at f2; rw [c4] at f3
  simp only [viewAcc] at f1 f2 f3
  exact ⟨by simpa using f1.symm, by simpa using hk, by simpa using f2.symm, by simpa using f3.symm⟩

theorem view_regUpd {a : Flow.Acc} {sh : Shared} {r0 : EpRec} (loc : Url) (o : Option Url)
    (ex : Bool) (h : forgetPk a = forgetPk (viewAcc sh r0)) (hl : loc ≠ 0) :
    forgetPk (Flow.regAcc ex a) = forgetPk (viewAcc sh (regUpd sh loc o ex r0)) := by
  obtain ⟨h1, h2, h3, h4, h5, h6, h7⟩ := forgetPk_fields h
  simp only [viewAcc] at h1 h2 h3 h4 h5 h6 h7
  unfold forgetPk Flow.regAcc viewAcc regUpd bindingChanged
  simp only [Flow.Acc.mk.injEq, h4, true_and]
  refine ⟨by simp [hl], by simp, ?_, ?_⟩
  · cases sh.eab <;> simp
  · cases ex <;> simp [h7]

theorem view_keyUpd {a : Flow.Acc} {sh : Shared} {r0 : EpRec}
    (h : forgetPk a = forgetPk (viewAcc sh r0)) :
    forgetPk (Flow.keyAcc a) = forgetPk (viewAcc sh (keyUpd sh r0)) :=
  have ⟨h1, h2, h3, h4, _, _, h7⟩ := forgetPk_fields h
  forgetPk_ext h1 h2 h3 h4 h4 h4 h7

theorem view_contactsUpd {a : Flow.Acc} {sh : Shared} {r0 : EpRec}
    (h : forgetPk a = forgetPk (viewAcc sh r0)) :
    forgetPk (Flow.contactsAcc a) = forgetPk (viewAcc sh (contactsUpd sh r0)) :=
  have ⟨h1, _, h3, h4, h5, h6, _⟩ := forgetPk_fields h
  forgetPk_ext h1 (by simp [viewAcc, contactsUpd, Flow.contactsAcc]) h3 h4 h5 h6 (by simp [viewAcc, contactsUpd, Flow.contactsAcc])

theorem view_keyLost {a : Flow.Acc} {sh : Shared} {r0 : EpRec}
    (h : forgetPk a = forgetPk (viewAcc sh r0)) :
    forgetPk (Flow.keyLostAcc a) = forgetPk (viewAcc sh (lostUpd .keyChange sh r0)) :=
  have ⟨h1, h2, h3, h4, h5, _, h7⟩ := forgetPk_fields h
  forgetPk_ext h1 h2 h3 h4 h5 h4 h7

theorem view_contactsLost {a : Flow.Acc} {sh : Shared} {r0 : EpRec}
    (h : forgetPk a = forgetPk (viewAcc sh r0)) :
    forgetPk (Flow.contactsLostAcc a) = forgetPk (viewAcc sh (lostUpd .accountUpdate sh r0)) :=
  have ⟨h1, h2, h3, h4, h5, h6, _⟩ := forgetPk_fields h
  forgetPk_ext h1 h2 h3 h4 h5 h6 (by simp [viewAcc, lostUpd, Flow.contactsLostAcc])

theorem getEndpoint_setEp {e : EpName} {s : MWorld} {r0 : EpRec}
    (hk : s.acct.getEndpoint e = some r0) (g : EpRec → EpRec) :
    (s.setEp e g).acct.getEndpoint e = some (g r0) := by
  unfold Account.getEndpoint at hk ⊢
  simp [MWorld.setEp, lookupEp_modFirst_same, hk]

/-- `sg'`: the signer as `Model/Flow.lean` names it (`w.acc.curKey`, `w.acc.recKey`). -/
theorem SimR.afterReq {e : EpName} {s : MWorld} {w : Flow.World} (h : SimR e s w)
    {a : Ans} {rest : List Ans} (hx : s.exs = a :: rest) (k : ReqKind) (hk : k ≠ .directory)
    (tg : Target) {sg sg' : KeyId} (hsg : sg' = sg) (kid : Url) :
    SimR e (s.afterReq (.req e k tg sg kid a) rest)
      (w.afterExch k sg' a.abs (rest.map Ans.abs)) := by
  obtain ⟨hr, _, hh, ht, hn⟩ := h
  subst hsg
  refine ⟨hr, rfl, hh, ?_, ?_⟩
  · simp only [Flow.World.afterExch, MWorld.afterReq, ht, List.map_append, List.map_cons,
      List.map_nil, MEv.abs]
    cases k <;> first | rfl | exact absurd rfl hk
  · intro o ex hm
    exact hn o ex (by rw [hx]; exact List.mem_cons_of_mem _ hm)

theorem SimR.setEp {e : EpName} {s : MWorld} {w : Flow.World} (h : SimR e s w) {r0 : EpRec}
    (hk : s.acct.getEndpoint e = some r0) (g : EpRec → EpRec) (f : Flow.Acc)
    (hv : forgetPk f = forgetPk (viewAcc s.acct.shared (g r0))) :
    SimR e (s.setEp e g) (w.withAcc f) := by
  obtain ⟨_, hx, hh, ht, hn⟩ := h
  exact ⟨⟨_, getEndpoint_setEp hk g, hv⟩, hx, hh, ht, hn⟩

/-- One exchange on both sides, then what follows it: `F` is the rest of the `Model/Flow.lean`
program in closed form (`Flow.register_run`, …). -/
theorem sim_exchange {e : EpName} {s : MWorld} {w : Flow.World} (h : SimR e s w)
    {K : Ans → MM Unit} {F : Flow.ExRes → List Flow.ExRes → Flow.Out Unit × Flow.World}
    (k : ReqKind) (hk : k ≠ .directory) (tg : Target) {sg sg' : KeyId} (hsg : sg' = sg) (kid : Url)
    (hK : ∀ a rest, s.exs = a :: rest →
      SimR e (s.afterReq (.req e k tg sg kid a) rest) (w.afterExch k sg' a.abs (rest.map Ans.abs)) →
      SimStep e (K a ((s.afterReq (.req e k tg sg kid a) rest).setEp e (exchUpd k a s.acct.shared)))
        (F a.abs (rest.map Ans.abs))) :
    SimStep e ((exchange e k tg sg kid >>= K) s)
      (match w.exs with
        | [] => (.stuck, w)
        | r :: rest => F r rest) := by
  rw [h.exs]
  rcases hx : s.exs with _ | ⟨a, rest⟩
  · rw [bind_run, exchange_nil hx]; exact h.stuck
  · rw [bind_run, exchange_cons hx]; exact hK a rest hx (h.afterReq hx k hk tg hsg kid)

theorem writeSave_sim {e : EpName} {s : MWorld} {w : Flow.World} (h : SimR e s w)
    {f : Account → Option Account} {G : Shared → EpRec → EpRec} (hf : liftAcct f = modEpM e G)
    {r0 : EpRec} (hk : s.acct.getEndpoint e = some r0) (fa : Flow.Acc)
    (hv : forgetPk fa = forgetPk (viewAcc s.acct.shared (G s.acct.shared r0))) :
    SimStep e ((liftAcct f >>= fun _ => saveAccount) s) (Flow.saveAccount (w.withAcc fa)) := by
  rw [writeSave_run hf hk]
  exact saveAccount_sim (h.setEp hk _ _ hv)

theorem registerAccount_sim {e : EpName} {s : MWorld} {w : Flow.World} (h : SimR e s w) :
    SimStep e (registerAccount e s) (Flow.register w) := by
  obtain ⟨r0, hk, hacc⟩ := h.ep
  unfold registerAccount
  rw [Flow.register_run, bind_run, getShared]
  refine sim_exchange h .newAccount (by simp) (.dirNewAccount e) (forgetPk_fields hacc).2.2.2.1 0
    fun a rest hx hs => ?_
  rw [afterReq_setEp_id (.inr ⟨by nofun, by nofun⟩)]
  rcases a with ⟨_ | loc, o, ex⟩ | _ | ty | _ | _
  · exact hs.fail _
  · have hl : loc ≠ 0 := by
      rintro rfl
      exact h.noEmpty o ex (by rw [hx]; exact List.mem_cons_self)
    exact writeSave_sim hs (liftAcct_registered ..) hk _ (view_regUpd loc o ex hacc hl)
  all_goals exact hs.fail _

theorem updateAccountContacts_sim {e : EpName} {s : MWorld} {w : Flow.World} (h : SimR e s w) :
    SimStep e (updateAccountContacts e s) (Flow.updateContacts w) := by
  obtain ⟨r0, hk, hacc⟩ := h.ep
  unfold updateAccountContacts
  rw [Flow.updateContacts_run, bind_run, getShared]
  simp only
  rw [bind_run, getEndpointM_known hk]
  refine sim_exchange h .accountUpdate (by simp) (.url r0.accountUrl)
    (forgetPk_fields hacc).2.2.2.1 r0.accountUrl fun a rest _ hs => ?_
  have save := writeSave_sim hs (liftAcct_contactsUpdated e) hk _ (view_contactsUpd hacc)
  rcases a with acc | _ | ty | _ | _
  · rw [afterReq_setEp_id (.inl (by nofun))]; exact save
  · rw [afterReq_setEp_id (.inl (by nofun))]; exact save
  · rw [afterReq_setEp_id (.inl (by nofun))]
    cases ty
    · exact registerAccount_sim hs
    · exact hs.fail _
    · exact hs.fail _
  · rw [afterReq_setEp_id (.inl (by nofun))]; exact hs.fail _
  · exact (hs.setEp hk _ _ (view_contactsLost hacc)).fail _

theorem checkNewKey_sim {e : EpName} {s : MWorld} {w : Flow.World} (h : SimR e s w) (u : Url) :
    SimStep e (checkNewKey e u s) (Flow.checkNewKey w) := by
  obtain ⟨r0, hk, hacc⟩ := h.ep
  unfold checkNewKey
  rw [Flow.checkNewKey_run, bind_run, getShared]
  refine sim_exchange h .accountProbe (by simp) (.url u) (forgetPk_fields hacc).2.2.2.1 u
    fun a rest _ hs => ?_
  rw [afterReq_setEp_id (.inr ⟨by nofun, by nofun⟩)]
  have save := writeSave_sim hs (liftAcct_keyRolled e) hk _ (view_keyUpd hacc)
  rcases a with acc | _ | ty | _ | _
  · exact save
  · exact save
  all_goals exact hs.fail _

theorem keyChangeStep_sim {e : EpName} {s : MWorld} {w : Flow.World} (h : SimR e s w)
    (ca : Bool) (old : KeyId) (u : Url) (hold : w.acc.recKey = old) :
    SimStep e (keyChangeStep ca e old u s) (Flow.keyChangeStep ca w) := by
  obtain ⟨r0, hk, hacc⟩ := h.ep
  rw [Flow.keyChangeStep_run]
  refine sim_exchange h .keyChange (by simp) (.dirKeyChange e) hold u fun a rest _ hs => ?_
  have save := writeSave_sim hs (liftAcct_keyRolled e) hk _ (view_keyUpd hacc)
  rcases a with acc | _ | ty | _ | _
  · rw [afterReq_setEp_id (.inl (by nofun))]; exact save
  · rw [afterReq_setEp_id (.inl (by nofun))]; exact save
  · rw [afterReq_setEp_id (.inl (by nofun))]
    cases ty
    · exact registerAccount_sim hs
    all_goals cases ca
    all_goals first | exact hs.fail _ | exact checkNewKey_sim hs u
  · rw [afterReq_setEp_id (.inl (by nofun))]; exact hs.fail _
  · exact (hs.setEp hk _ _ (view_keyLost hacc)).fail _

theorem keyChangeChecked_sim {e : EpName} {s : MWorld} {w : Flow.World} (h : SimR e s w)
    (old : KeyId) (u : Url) (hold : w.acc.recKey = old) :
    SimStep e (keyChangeChecked e old u s) (Flow.keyChangeChecked w) := by
  rw [Flow.keyChangeChecked_run]
  refine sim_exchange h .accountProbe (by simp) (.url u) hold u fun a rest _ hs => ?_
  rw [afterReq_setEp_id (.inr ⟨by nofun, by nofun⟩)]
  have step := keyChangeStep_sim hs false old u hold
  rcases a with acc | _ | ty | _ | _
  · exact step
  · exact step
  · cases ty
    · exact step
    · exact checkNewKey_sim hs u
    · exact hs.fail _
  · exact hs.fail _
  · exact hs.fail _

theorem updateAccountKey_sim (v : Variant) {e : EpName} {s : MWorld} {w : Flow.World}
    (h : SimR e s w)
    (hpk : ∀ r, s.acct.getEndpoint e = some r →
      w.acc.pastKeyKnown = (s.acct.shared.getPastKey r.keyHash).isSome) :
    SimStep e (updateAccountKey v e s) (Flow.updateKey v w) := by
  obtain ⟨r0, hk, hacc⟩ := h.ep
  rw [updateAccountKey_run v e s r0 hk, Flow.updateKey_run, hpk r0 hk]
  rcases hp : s.acct.shared.getPastKey r0.keyHash with _ | old
  · exact h.fail _
  · have hold : w.acc.recKey = old := by
      rw [(forgetPk_fields hacc).2.2.2.2.1]
      simp [viewAcc, (getPastKey_some hp).1]
    simp only [Option.isSome_some, if_true]
    cases v.rolloverCheck with
    | first => exact keyChangeChecked_sim h old r0.accountUrl hold
    | afterRefusal => exact keyChangeStep_sim h true old r0.accountUrl hold
    | none => exact keyChangeStep_sim h false old r0.accountUrl hold

theorem sim_bind {e : EpName} {m m' : MM Unit} {fm fm' : Flow.M Unit} {s : MWorld}
    {w : Flow.World} (h1 : SimStep e (m s) (fm w))
    (h2 : ∀ s1 w1, SimR e s1 w1 → SimStep e (m' s1) (fm' w1)) :
    SimStep e ((m >>= fun _ => m') s) ((fm >>= fun _ => fm') w) := by
  rw [bind_run, Flow.bind_run]
  rcases hm : m s with ⟨o, s1⟩
  rcases hf : fm w with ⟨o', w1⟩
  rw [hm, hf] at h1
  obtain ⟨⟨ht, hne⟩, hr⟩ := h1
  cases o <;> cases o' <;> simp [Tag.abs] at ht hne
  · exact h2 s1 w1 hr
  · subst ht; exact hr.fail _
  · exact hr.stuck

theorem sim_pure {e : EpName} {s : MWorld} {w : Flow.World} (h : SimR e s w) :
    SimStep e ((pure () : MM Unit) s) ((pure () : Flow.M Unit) w) :=
  ⟨⟨rfl, by simp [pure_run]⟩, h⟩

theorem synchronize_sim (v : Variant) (hv : v.keyFirst = true) {e : EpName} {s : MWorld}
    {w : Flow.World} (h : SimR e s w)
    (hpk : ∀ r, s.acct.getEndpoint e = some r →
      w.acc.pastKeyKnown = (s.acct.shared.getPastKey r.keyHash).isSome) :
    SimStep e (synchronize v e s) (Flow.synchronize v w) := by
  obtain ⟨r0, hk, hacc⟩ := h.ep
  obtain ⟨f1, f2, f3, f4, f5, f6, f7⟩ := forgetPk_fields hacc
  have hkis : w.acc.keyInSync = !(r0.keyHash != some s.acct.shared.currentKey) := by
    rw [← view_keyInSync]
    unfold Flow.Acc.keyInSync
    rw [f5, f4]
  have hu : w.acc.hasUrl = (r0.accountUrl != 0) := f1
  have hb : w.acc.bindingInSync = !bindingChanged s.acct.shared r0 := f3
  have hc : w.acc.contactsInSync = !(r0.contactsHash != some s.acct.shared.contacts) := by
    rw [f2]; simp [viewAcc, bne]
  rw [synchronize_run v e s r0 hk]
  by_cases c1 : (r0.accountUrl != 0) = true
  · rw [if_pos c1]
    rw [c1] at hu
    by_cases c2 : bindingChanged s.acct.shared r0 = true
    · rw [if_pos c2]
      rw [c2] at hb
      rw [Flow.sync_eq_binding v w hu (by simpa using hb), hc, hkis]
      apply sim_bind (registerAccount_sim h)
      intro s1 w1 h1
      simp only [Bool.not_not]
      split
      · exact updateAccountContacts_sim h1
      · exact sim_pure h1
    · rw [if_neg c2, if_pos hv]
      have c2' : bindingChanged s.acct.shared r0 = false := by simpa using c2
      rw [c2'] at hb
      rw [Flow.sync_eq_keyFirst v w hu (by simpa using hb) hv, hc, hkis]
      simp only [Bool.not_not]
      refine sim_bind ?_ ?_
      · split
        · exact updateAccountKey_sim v h hpk
        · exact sim_pure h
      · intro s1 w1 h1
        split
        · exact updateAccountContacts_sim h1
        · exact sim_pure h1
  · rw [if_neg c1]
    have c1' : (r0.accountUrl != 0) = false := by simpa using c1
    rw [c1'] at hu
    rw [Flow.sync_eq_noUrl v w hu]
    exact registerAccount_sim h

/-- The `Model/Flow.lean` world seen from endpoint `e` (record `r`); the fields the account
synchronisation does not use are fixed. -/
def viewWorld (s : MWorld) (r : EpRec) : Flow.World :=
  { exs := s.exs.map Ans.abs, hks := s.hks, scheds := [], files := ⟨none, none⟩, nextKey := 0,
    keyReadable := true, acc := viewAcc s.acct.shared r, trace := s.log.map MEv.abs }

theorem simR_view {e : EpName} {s : MWorld} {r : EpRec} (hk : s.acct.getEndpoint e = some r)
    (hn : ∀ o ex, Ans.account ⟨some 0, o, ex⟩ ∉ s.exs) : SimR e s (viewWorld s r) :=
  ⟨⟨r, hk, rfl⟩, rfl, rfl, rfl, hn⟩

theorem Held.mono {sh sh' : Shared} {r : EpRec} (h : Held sh r)
    (hk : ∀ k, (k = sh.currentKey ∨ k ∈ sh.pastKeys) → (k = sh'.currentKey ∨ k ∈ sh'.pastKeys)) :
    Held sh' r := by
  intro hu
  obtain ⟨k, h1, h2, h3⟩ := h hu
  exact ⟨k, h1, h2, hk k h3⟩

theorem HeldAll.updateKeys {a : Account} (h : HeldAll a) (c : Bool) (fresh : KeyId) :
    HeldAll (a.updateKeys c fresh) := by
  cases c
  · exact h
  · intro e r hr
    have hr' : a.getEndpoint e = some r := hr
    refine (h e r hr').mono ?_
    intro k hk
    right
    show k ∈ a.shared.pastKeys ++ [a.shared.currentKey]
    rcases hk with rfl | hk
    · simp
    · simp [hk]

theorem HeldAll.load {a : Account} (h : HeldAll a) (contacts : Nat) (c : Bool) (fresh : KeyId)
    (eab : Option Nat) : HeldAll (a.load contacts c fresh eab) := by
  intro e r hr
  have h1 := h.updateKeys c fresh
  have hr' : (a.updateKeys c fresh).getEndpoint e = some r := hr
  exact (h1 e r hr').mono fun k hk => hk

theorem HeldAll.addEndpointName {a : Account} (h : HeldAll a) (e : EpName) :
    HeldAll (a.addEndpointName e) := by
  unfold Account.addEndpointName
  rcases hl : a.getEndpoint e with _ | r0
  · intro e' r hr
    unfold Account.getEndpoint at hr
    simp only [lookupEp_append] at hr
    rcases hl' : lookupEp e' a.endpoints with _ | x
    · rw [hl'] at hr
      by_cases he : (e == e') = true
      · simp only [he, if_true, Option.some.injEq] at hr
        rw [← hr]
        intro hu
        exact absurd rfl hu
      · simp [he] at hr
    · rw [hl'] at hr
      simp only [Option.some.injEq] at hr
      rw [← hr]
      exact h e' x hl'
  · exact h

def Logs (S : List MEv → Prop) (m : MM α) : Prop :=
  ∀ s, ∃ es, (m s).2.log = s.log ++ es ∧ S es

theorem MSat.logs {P : MEv → Prop} {m : MM α} (h : MSat (EvR P) m) :
    Logs (fun es => ∀ ev ∈ es, P ev) m := h.run

theorem Logs.mono {S S' : List MEv → Prop} {m : MM α} (h : Logs S m)
    (hs : ∀ es, S es → S' es) : Logs S' m := fun s =>
  let ⟨es, he, h1⟩ := h s
  ⟨es, he, hs es h1⟩

theorem Logs.exchange_bind {S : List MEv → Prop} {K : Ans → MM α} (ep : EpName) (k : ReqKind)
    (tg : Target) (sg : KeyId) (kid : Url) (hK : ∀ a, Logs S (K a)) :
    Logs (fun es => es = [] ∨ ∃ a rest, es = .req ep k tg sg kid a :: rest ∧ S rest)
      (exchange ep k tg sg kid >>= K) := by
  intro s
  rw [bind_run]
  rcases hx : s.exs with _ | ⟨a, rest⟩
  · rw [exchange_nil hx]
    exact ⟨[], (List.append_nil _).symm, .inl rfl⟩
  · rw [exchange_cons hx]
    obtain ⟨es, he, hs⟩ := hK a
      ((s.afterReq (.req ep k tg sg kid a) rest).setEp ep (exchUpd k a s.acct.shared))
    exact ⟨_ :: es, he.trans (List.append_assoc _ _ _), .inr ⟨a, es, rfl, hs⟩⟩

theorem log_of_bind {m m' : MM Unit} {s : MWorld} {es1 : List MEv} {P : MEv → Prop}
    (h1 : (m s).2.log = s.log ++ es1) (h2 : MSat (EvR P) m') :
    ∃ es2, ((m >>= fun _ => m') s).2.log = s.log ++ (es1 ++ es2) ∧ ∀ ev ∈ es2, P ev := by
  rcases bind_cases m (fun _ => m') s with ⟨a, s1, e1, e2⟩ | ⟨_, _, e3⟩
  · obtain ⟨es2, hl, hp⟩ := h2.run s1
    rw [e1] at h1
    exact ⟨es2, by rw [e2, hl, h1, List.append_assoc], hp⟩
  · exact ⟨[], by rw [e3, h1]; simp, by simp⟩

/-- At most one roll-over request: none at all, or exactly one — through `e` to `e`'s `keyChange`
URL, signed by `old`, `kid` = `u` — preceded by nothing, or (since 1fb1c1a) by the query of the
account signed by that same key (through `e`, to `u`, which is also its `kid`), and followed by no
other. -/
def OneRoll (e : EpName) (old : KeyId) (u : Url) (es : List MEv) : Prop :=
  (∀ ev ∈ es, NotKeyChange ev) ∨ ∃ a pre rest,
    es = pre ++ .req e .keyChange (.dirKeyChange e) old u a :: rest ∧
    (pre = [] ∨ ∃ p, pre = [.req e .accountProbe (.url u) old u p]) ∧
    ∀ ev ∈ rest, NotKeyChange ev

theorem OneRoll.append {e : EpName} {old : KeyId} {u : Url} {es es2 : List MEv}
    (h : OneRoll e old u es) (h2 : ∀ ev ∈ es2, NotKeyChange ev) : OneRoll e old u (es ++ es2) := by
  rcases h with h | ⟨a, pre, rest, rfl, hp, hr⟩
  · exact .inl (List.forall_mem_append.mpr ⟨h, h2⟩)
  · exact .inr ⟨a, pre, rest ++ es2, by simp, hp, List.forall_mem_append.mpr ⟨hr, h2⟩⟩

def RollFirst (e : EpName) (old : KeyId) (u : Url) (es : List MEv) : Prop :=
  (∀ ev ∈ es, NotKeyChange ev) ∨ ∃ a rest,
    es = .req e .keyChange (.dirKeyChange e) old u a :: rest ∧ ∀ ev ∈ rest, NotKeyChange ev

theorem RollFirst.oneRoll {e : EpName} {old : KeyId} {u : Url} {es : List MEv}
    (h : RollFirst e old u es) : OneRoll e old u es :=
  h.imp id fun ⟨a, rest, he, hr⟩ => ⟨a, [], rest, he, .inl rfl, hr⟩

theorem keyChangeStep_shape (ca : Bool) (e : EpName) (old : KeyId) (u : Url) :
    Logs (RollFirst e old u) (keyChangeStep ca e old u) := by
  obtain ⟨K, h, hK⟩ := keyChangeStep_eq ca e old u
  rw [h]
  refine (Logs.exchange_bind _ _ _ _ _ fun a => (hK a).notKeyChange.logs).mono ?_
  rintro es (rfl | h)
  · exact .inl (by simp)
  · exact .inr h

/-- Since 1fb1c1a: the query of the account signed by `old`, then the roll-over request or the
check of the new key. -/
theorem keyChangeChecked_shape (e : EpName) (old : KeyId) (u : Url) :
    Logs (OneRoll e old u) (keyChangeChecked e old u) := by
  have step := keyChangeStep_shape false e old u
  have new : Logs (RollFirst e old u) (checkNewKey e u) :=
    (Prog.checkNewKey e u).notKeyChange.logs.mono fun _ => .inl
  have fail : Logs (RollFirst e old u) (failAt .keyChange : MM Unit) :=
    fun s => ⟨[], (List.append_nil _).symm, .inl (by simp)⟩
  refine (Logs.exchange_bind (S := RollFirst e old u) e .accountProbe (.url u) old u
    fun a => ?_).mono ?_
  · split <;> assumption
  · rintro es (rfl | ⟨p, rest, rfl, h | ⟨a, rest', rfl, h⟩⟩)
    · exact .inl (by simp)
    · exact .inl (List.forall_mem_cons.mpr ⟨by simp [NotKeyChange], h⟩)
    · exact .inr ⟨a, [_], rest', rfl, .inr ⟨p, rfl⟩, h⟩

theorem updateAccountKey_shape (v : Variant) (e : EpName) (s : MWorld) (r0 : EpRec)
    (hk : s.acct.getEndpoint e = some r0) :
    ∃ es, (updateAccountKey v e s).2.log = s.log ++ es ∧
      ((∀ ev ∈ es, NotKeyChange ev) ∨ ∃ old, r0.keyHash = some old ∧
        old ∈ s.acct.shared.pastKeys ∧ OneRoll e old r0.accountUrl es) := by
  rw [updateAccountKey_run v e s r0 hk]
  rcases hp : s.acct.shared.getPastKey r0.keyHash with _ | old
  · exact ⟨[], (List.append_nil _).symm, .inl (by simp)⟩
  · obtain ⟨hh, hm⟩ := getPastKey_some hp
    have fin : ∀ {m : MM Unit}, Logs (OneRoll e old r0.accountUrl) m →
        ∃ es, (m s).2.log = s.log ++ es ∧ ((∀ ev ∈ es, NotKeyChange ev) ∨ ∃ old,
          r0.keyHash = some old ∧ old ∈ s.acct.shared.pastKeys ∧ OneRoll e old r0.accountUrl es) :=
      fun h => let ⟨es, he, h⟩ := h s; ⟨es, he, .inr ⟨old, hh, hm, h⟩⟩
    cases v.rolloverCheck with
    | first => exact fin (keyChangeChecked_shape e old _)
    | afterRefusal => exact fin ((keyChangeStep_shape true e old _).mono fun _ => RollFirst.oneRoll)
    | none => exact fin ((keyChangeStep_shape false e old _).mono fun _ => RollFirst.oneRoll)

theorem synchronize_shape (v : Variant) (hv : v.keyFirst = true) (e : EpName) (s : MWorld)
    (r0 : EpRec) (hk : s.acct.getEndpoint e = some r0) :
    ∃ es, (synchronize v e s).2.log = s.log ++ es ∧
      ((∀ ev ∈ es, NotKeyChange ev) ∨ ∃ old, r0.keyHash = some old ∧
        old ∈ s.acct.shared.pastKeys ∧ old ≠ s.acct.shared.currentKey ∧ r0.accountUrl ≠ 0 ∧
        OneRoll e old r0.accountUrl es) := by
  have reg := (Prog.registerAccount e).notKeyChange
  have con : ∀ c : Bool, MSat (EvR NotKeyChange)
      (if c = true then updateAccountContacts e else pure ()) := fun c => by
    split
    · exact (Prog.updateAccountContacts e).notKeyChange
    · exact .pure (EvR.law _) _
  rw [synchronize_run v e s r0 hk]
  by_cases c1 : (r0.accountUrl != 0) = true
  · rw [if_pos c1]
    by_cases c2 : bindingChanged s.acct.shared r0 = true
    · rw [if_pos c2]
      obtain ⟨es, he, hp⟩ := (MSat.bind (EvR.law _) reg fun _ => con _).run s
      exact ⟨es, he, .inl hp⟩
    · rw [if_neg c2, if_pos hv]
      by_cases c3 : (r0.keyHash != some s.acct.shared.currentKey) = true
      · rw [if_pos c3]
        obtain ⟨es1, h1, hs1⟩ := updateAccountKey_shape v e s r0 hk
        obtain ⟨es2, h2, hp2⟩ := log_of_bind h1 (con _)
        refine ⟨es1 ++ es2, h2, ?_⟩
        rcases hs1 with hs1 | ⟨old, g1, g2, g3⟩
        · exact .inl (List.forall_mem_append.mpr ⟨hs1, hp2⟩)
        · refine .inr ⟨old, g1, g2, ?_, by simpa using c1, g3.append hp2⟩
          rintro rfl
          simp [g1] at c3
      · rw [if_neg c3]
        obtain ⟨es, he, hp⟩ :=
          (MSat.bind (EvR.law _) (.pure (EvR.law _) ()) fun _ => con _).run s
        exact ⟨es, he, .inl hp⟩
  · rw [if_neg c1]
    obtain ⟨es, he, hp⟩ := reg.run s
    exact ⟨es, he, .inl hp⟩

/-- What can happen to an account between two synchronisations of an endpoint: a (re)start with
any configuration edit (`Account::load`), a new endpoint name, the synchronisation of any endpoint
with any answers and hook exits (the in-memory account carries on whatever the outcome). -/
inductive Op
  | load (contacts : Nat) (keyChanged : Bool) (fresh : KeyId) (eab : Option Nat)
  | addEndpoint (e : EpName)
  | sync (v : Variant) (e : EpName) (exs : List Ans) (hks : List Bool)

def Op.run : Op → Account → Account
  | .load c k f b, a => a.load c k f b
  | .addEndpoint e, a => a.addEndpointName e
  | .sync v e exs hks, a => (synchronize v e ⟨a, exs, hks, [], none⟩).2.acct

def runOps : List Op → Account → Account
  | [], a => a
  | op :: rest, a => runOps rest (op.run a)

def Op.noLost : Op → Prop
  | .sync _ _ exs _ => NoLost exs
  | _ => True

theorem HeldAll.runOps {a : Account} (h : HeldAll a) (ops : List Op)
    (hn : ∀ op ∈ ops, op.noLost) : HeldAll (runOps ops a) := by
  induction ops generalizing a with
  | nil => exact h
  | cons op rest ih =>
    apply ih _ (fun o ho => hn o (List.mem_cons_of_mem _ ho))
    have h0 := hn op List.mem_cons_self
    cases op with
    | load c k f b => exact h.load c k f b
    | addEndpoint e => exact h.addEndpointName e
    | sync v e exs hks => exact ((HeldR.synchronize v e).run ⟨a, exs, hks, [], none⟩ h0 h).1

def heldB (sh : Shared) (r : EpRec) : Bool :=
  r.accountUrl == 0 ||
    match r.keyHash with
    | some k => r.ca.key == k && (k == sh.currentKey || sh.pastKeys.contains k)
    | none => false

theorem heldB_sound {sh : Shared} {r : EpRec} (h : heldB sh r = true) : Held sh r := by
  intro hu
  unfold heldB at h
  rcases hk : r.keyHash with _ | k
  · rw [hk] at h; simp [hu] at h
  · rw [hk] at h
    simp only [Bool.or_eq_true, beq_iff_eq, Bool.and_eq_true, List.contains_eq_mem,
      decide_eq_true_eq] at h
    rcases h with h | ⟨h1, h2⟩
    · exact absurd h hu
    · exact ⟨k, rfl, h1, h2⟩

def heldAllB (a : Account) : Bool := a.endpoints.all fun p => heldB a.shared p.2

theorem heldAllB_sound {a : Account} (h : heldAllB a = true) : HeldAll a := by
  intro e r hr
  unfold heldAllB at h
  rw [List.all_eq_true] at h
  exact heldB_sound (h (e, r) (lookupEp_mem hr))

end AcmedVerif.AccountMulti
