/-
The readers of `Model/AcmeObj.lean` succeed exactly on the values `Spec/C08Obj.lean` calls well-formed.

Every struct reader has the same two branches, and so has every proof: an object is scanned (`scanFields`
succeeds exactly on `membersOk`: `isOk_scanThen`) and the struct is built from the members kept (`isOk_req`,
`isOk_opt`); an array is checked position by position (`seqCheck` succeeds exactly on `elementsOk`:
`isOk_seqThen`) and the struct is built from its elements.
-/
import AcmedVerif.Model.AcmeObj
import AcmedVerif.Spec.C08Obj

namespace AcmedVerif.AcmeObj
open AcmedVerif.Spec.C08Obj

@[simp] theorem isOk_ok (a : α) : isOk (Except.ok a : R α) = true := rfl

@[simp] theorem isOk_error (e : ParseErr) : isOk (Except.error e : R α) = false := rfl

@[simp] theorem isOk_unit (r : R α) : isOk (unit r) = isOk r := by
  cases r <;> rfl

@[simp] theorem isOk_mapR (f : α → β) (r : R α) : isOk (mapR f r) = isOk r := by
  cases r <;> rfl

@[simp] theorem isOk_rOpt (p : J → R α) (j : J) : isOk (rOpt p j) = orNull (fun x => isOk (p x)) j := by
  rw [orNull]
  cases j <;> simp [rOpt, J.isNull] <;> split <;> simp_all

@[simp] theorem isOk_rString (j : J) : isOk (rString j) = isStr j := by
  cases j <;> simp [rString, isStr]
  split <;> simp_all

@[simp] theorem isOk_rBool (j : J) : isOk (rBool j) = isBool j := by
  cases j <;> simp [rBool, isBool]

@[simp] theorem isOk_rUsize (j : J) : isOk (rUsize j) = isUsize j := by
  cases j <;> simp [rUsize, isUsize]
  split <;> simp_all

@[simp] theorem isOk_rList (p : J → R α) (j : J) : isOk (rList p j) = isList (fun x => isOk (p x)) j := by
  cases j <;> simp [rList, isList]
  rename_i xs
  induction xs with
  | nil => rfl
  | cons x xs ih =>
    simp only [rList.go, List.all_cons, ← ih]
    cases p x <;> simp
    cases rList.go p xs <;> simp

theorem indexOf_isSome (names : List String) (s : String) :
    (indexOf? names s).isSome = names.contains s := by
  induction names with
  | nil => simp [indexOf?]
  | cons n ns ih =>
    simp only [indexOf?, List.contains_cons]
    by_cases h : n = s
    · simp [h]
    · have : (s == n) = false := by simp; exact fun e => h e.symm
      simp [h, this, ih]

theorem isOk_variantOf (names : List String) (raw : List Char) :
    isOk (variantOf names raw) = decodesTo raw names := by
  unfold variantOf decodesTo
  cases decodeStr raw with
  | none => rfl
  | some cs =>
    simp only [← indexOf_isSome]
    cases indexOf? names (String.ofList cs) <;> rfl

theorem isOk_rEnum (c : Bool) (names : List String) (j : J) :
    isOk (rEnum c names j) = isWord c names j := by
  match j with
  | .null | .bool _ | .num _ | .arr _ | .obj [] => cases c <;> simp [rEnum, isWord]
  | .str raw => simp [rEnum, isWord, isOk_variantOf]
  | .obj [(k, v)] =>
    simp only [rEnum, isWord]
    rw [← isOk_variantOf]
    cases variantOf names k with
    | error e => rfl
    | ok i => by_cases h : (v.isNull || (c && v.isEmptyObj)) = true <;> simp [h]
  | .obj ((k, v) :: kv2 :: rest) =>
    cases c
    · simp only [rEnum, isWord, Bool.false_eq_true, if_false]
      cases variantOf names k with
      | error e => rfl
      | ok i => by_cases h : v.isNull = true <;> simp [h]
    · simp [rEnum, isWord]

theorem occurrences_cons (n : String) (kv : List Char × J) (ms : List (List Char × J)) :
    occurrences n (kv :: ms) = (if keyOf kv == some n then 1 else 0) + occurrences n ms := by
  unfold occurrences
  simp only [List.filter_cons]
  split <;> simp <;> omega

theorem all_congr_mem {l : List α} {p q : α → Bool} (h : ∀ a ∈ l, p a = q a) : l.all p = l.all q := by
  induction l with
  | nil => rfl
  | cons a l ih => simp only [List.all_cons, h a (by simp), ih fun b hb => h b (by simp [hb])]

/-- The scan succeeds iff every member is `memberOk` and no known name occurs twice, a name of `seen`
counting as an occurrence before `ms`. -/

theorem isOk_scanFields (known : List String) (check : String → J → R Unit) (seen : List String)
    (ms : List (List Char × J)) :
    isOk (scanFields known check seen ms) =
      (ms.all (memberOk known fun k v => isOk (check k v)) &&
        known.all fun n => decide (occurrences n ms + (if seen.contains n then 1 else 0) ≤ 1)) := by
  induction ms generalizing seen with
  | nil =>
    simp only [scanFields, occurrences, List.filter_nil, List.length_nil, List.all_nil, isOk_ok, Bool.true_and]
    exact (List.all_eq_true.2 fun n _ => by split <;> simp).symm
  | cons kv ms ih =>
    obtain ⟨k, v⟩ := kv
    have hkey : keyOf (k, v) = (decodeStr k).map String.ofList := rfl
    cases hk : decodeStr k with
    | none => simp [scanFields, memberOk, hkey, hk]
    | some kc =>
      simp only [hk, Option.map_some] at hkey
      simp only [scanFields, hk, List.all_cons, memberOk, occurrences_cons, hkey]
      clear hk hkey
      generalize String.ofList kc = key
      by_cases hkn : known.contains key = true
      · simp only [hkn, if_true, Bool.not_true, Bool.false_or]
        by_cases hs : seen.contains key = true
        · -- a duplicate: `key` itself is counted twice
          rw [if_pos hs, isOk_error, Bool.and_assoc]
          refine (Bool.and_eq_false_imp.2 fun _ => Bool.and_eq_false_imp.2 fun _ => ?_).symm
          exact List.all_eq_false.2 ⟨key, List.contains_iff_mem.1 hkn, by simp [List.contains_iff_mem.1 hs]⟩
        · rw [if_neg hs]
          cases check key v with
          | error e => rfl
          | ok u =>
            refine Eq.trans (b := isOk (scanFields known check (key :: seen) ms)) ?_ ?_
            · cases scanFields known check (key :: seen) ms <;> rfl
            · rw [ih, isOk_ok, Bool.true_and]
              congr 1
              -- `key` moves from the members to `seen`: one occurrence either way
              refine all_congr_mem fun n _ => ?_
              by_cases e : key = n
              · subst e
                simp only [List.contains_cons, beq_self_eq_true, Bool.true_or, if_true, Bool.eq_false_iff.2 hs,
                  Bool.false_eq_true, if_false]
                rw [Nat.add_zero, Nat.add_comm 1]
              · have e' : ¬ n = key := fun h => e h.symm
                simp [e, e']
      · rw [if_neg hkn, ih, Bool.eq_false_iff.2 hkn, Bool.not_false, Bool.true_or, Bool.true_and]
        congr 1
        -- an unknown key is no occurrence of a known name
        refine all_congr_mem fun n hn => ?_
        have e : ¬ key = n := fun e => hkn (e ▸ List.contains_iff_mem.2 hn)
        simp [e]

theorem memberOk_all_keys (known : List String) (ok : String → J → Bool) (ms : List (List Char × J)) :
    ms.all (memberOk known ok) = true → keysDecodable ms = true := by
  unfold keysDecodable
  simp only [List.all_eq_true]
  intro h kv hkv
  have := h kv hkv
  unfold memberOk at this
  cases hk : keyOf kv <;> simp_all

theorem isOk_scanFields_nil (known : List String) (check : String → J → R Unit) (ok : String → J → Bool)
    (h : ∀ k v, isOk (check k v) = ok k v) (ms : List (List Char × J)) :
    isOk (scanFields known check [] ms) = membersOk known ok ms := by
  rw [isOk_scanFields, show (fun k v => isOk (check k v)) = ok from funext fun k => funext (h k)]
  unfold membersOk
  cases hall : ms.all (memberOk known ok) with
  | false => simp
  | true => simp [memberOk_all_keys known ok ms hall]

theorem present_cons (name : String) (kv : List Char × J) (ms : List (List Char × J)) :
    present name (kv :: ms) = (keyOf kv == some name || present name ms) := by
  simp [present]

theorem scanFields_lookup (known : List String) (check : String → J → R Unit) (seen : List String)
    (ms : List (List Char × J)) (fs : List (String × J))
    (h : scanFields known check seen ms = .ok fs) :
    (∀ name v, fs.lookup name = some v → isOk (check name v) = true) ∧
    (∀ name, known.contains name = true → (fs.lookup name).isSome = present name ms) := by
  induction ms generalizing seen fs with
  | nil => cases h; exact ⟨nofun, fun _ _ => rfl⟩
  | cons kv ms ih =>
    obtain ⟨k, v⟩ := kv
    have hkey : keyOf (k, v) = (decodeStr k).map String.ofList := rfl
    rw [scanFields] at h
    cases hk : decodeStr k with
    | none => rw [hk] at h; cases h
    | some kc =>
      simp only [hk, Option.map_some] at h hkey
      generalize String.ofList kc = key at h hkey
      simp only [present_cons, hkey]
      by_cases hkn : known.contains key = true
      · rw [if_pos hkn] at h
        by_cases hs : seen.contains key = true
        · rw [if_pos hs] at h; cases h
        · rw [if_neg hs] at h
          cases hc : check key v with
          | error e => rw [hc] at h; cases h
          | ok u =>
            cases hr : scanFields known check (key :: seen) ms with
            | error e => rw [hc, hr] at h; cases h
            | ok fs' =>
              rw [hc, hr] at h; cases h
              obtain ⟨i1, i2⟩ := ih _ _ hr
              refine ⟨fun name w hl => ?_, fun name hn => ?_⟩
              · by_cases e : name = key
                · subst e
                  simp at hl
                  subst hl
                  rw [hc]; rfl
                · rw [List.lookup_cons, beq_false_of_ne e] at hl
                  exact i1 name w hl
              · by_cases e : name = key
                · subst e; simp
                · rw [List.lookup_cons, beq_false_of_ne e, show (some key == some name) = false by simpa using Ne.symm e,
                    i2 name hn]
                  rfl
      · rw [if_neg hkn] at h
        obtain ⟨i1, i2⟩ := ih _ _ h
        refine ⟨i1, fun name hn => ?_⟩
        have e : ¬ key = name := fun e => hkn (e ▸ hn)
        simp [e, i2 name hn]

theorem isOk_req {known : List String} {check : String → J → R Unit} {ms : List (List Char × J)}
    {fs : List (String × J)} (hs : scanFields known check [] ms = .ok fs) (name : String) (p : J → R α)
    (hn : known.contains name = true) (hp : ∀ v, isOk (check name v) = isOk (p v)) :
    isOk (req fs name p) = present name ms := by
  obtain ⟨h1, h2⟩ := scanFields_lookup _ _ _ _ _ hs
  rw [← h2 name hn, req]
  cases hl : fs.lookup name with
  | none => rfl
  | some v => exact (hp v).symm.trans (h1 name v hl)  -- the scan ran the same reader on `v`

theorem isOk_opt {known : List String} {check : String → J → R Unit} {ms : List (List Char × J)}
    {fs : List (String × J)} (hs : scanFields known check [] ms = .ok fs) (name : String) (p : J → R α)
    (hp : ∀ v, isOk (check name v) = isOk (rOpt p v)) :
    isOk (opt fs name p) = true := by
  rw [opt]
  cases hl : fs.lookup name with
  | none => rfl
  | some v => exact (hp v).symm.trans ((scanFields_lookup _ _ _ _ _ hs).1 name v hl)

theorem isOk_scanThen {known : List String} {check : String → J → R Unit} {ok : String → J → Bool}
    (hc : ∀ k v, isOk (check k v) = ok k v) (ms : List (List Char × J)) (k : List (String × J) → R β)
    (b : Bool) (hk : ∀ fs, scanFields known check [] ms = .ok fs → isOk (k fs) = b) :
    isOk (match scanFields known check [] ms with | .error e => .error e | .ok fs => k fs) =
      (membersOk known ok ms && b) := by
  rw [← isOk_scanFields_nil known check ok hc]
  cases hs : scanFields known check [] ms with
  | error e => rfl
  | ok fs => exact hk fs hs

theorem scanFields_unknown_member (known : List String) (check : String → J → R Unit) (seen : List String)
    (ms1 ms2 : List (List Char × J)) (k kc : List Char) (v : J)
    (hk : decodeStr k = some kc) (hu : known.contains (String.ofList kc) = false) :
    scanFields known check seen (ms1 ++ (k, v) :: ms2) = scanFields known check seen (ms1 ++ ms2) := by
  induction ms1 generalizing seen with
  | nil =>
    have hu' : ¬ String.ofList kc ∈ known := by simpa using hu
    simp [scanFields, hk, hu']
  | cons kv ms1 ih =>
    obtain ⟨k', v'⟩ := kv
    simp only [List.cons_append, scanFields]
    cases decodeStr k' with
    | none => rfl
    | some kc' =>
      simp only
      split
      · split
        · rfl
        · cases check (String.ofList kc') v' with
          | error e => rfl
          | ok u => simp only; rw [ih]
      · exact ih seen

theorem isOk_seqCheck (c : Bool) (ps : List (J → R Unit)) (qs : List (J → Bool))
    (h : ∀ x, ps.map (fun p => isOk (p x)) = qs.map (· x)) (xs : List J) :
    isOk (seqCheck c ps xs) = elementsOk qs xs := by
  induction ps generalizing qs xs with
  | nil =>
    cases qs with
    | nil => cases xs <;> rfl
    | cons q qs => simp at h
  | cons p ps ih =>
    cases qs with
    | nil => simp at h
    | cons q qs =>
      simp only [List.map_cons, List.cons.injEq] at h
      cases xs with
      | nil => rfl
      | cons x xs =>
        simp only [seqCheck, elementsOk, ← (h x).1, ← ih qs (fun x => (h x).2) xs]
        cases p x <;> rfl

theorem elementsOk_length (ps : List (J → Bool)) (xs : List J) (h : elementsOk ps xs = true) :
    xs.length = ps.length := by
  induction ps generalizing xs with
  | nil => cases xs <;> simp_all [elementsOk]
  | cons p ps ih =>
    cases xs with
    | nil => simp [elementsOk] at h
    | cons x xs =>
      simp only [elementsOk, Bool.and_eq_true] at h
      simp [ih xs h.2]

theorem isOk_seqThen (c : Bool) {ps : List (J → R Unit)} {qs : List (J → Bool)}
    (h : ∀ x, ps.map (fun p => isOk (p x)) = qs.map (· x)) (xs : List J) (k : R β)
    (hk : elementsOk (ps.map fun p x => isOk (p x)) xs = true → isOk k = true) :
    isOk (match seqCheck c ps xs with | .error e => .error e | .ok () => k) = elementsOk qs xs := by
  rw [← isOk_seqCheck c ps qs h xs]
  rw [← isOk_seqCheck c ps _ (fun x => by rw [List.map_map]; rfl) xs] at hk
  cases hs : seqCheck c ps xs with
  | error e => rfl
  | ok u => exact hk (by rw [hs]; rfl)

/- Each `…Build` is a chain of matches that stops at the first error: it is ok iff all its arguments are. -/
theorem isOk_problemBuild (t : R (Option String)) (s : R (Option Nat)) (d : R (Option String)) :
    isOk (problemBuild t s d) = (isOk t && isOk s && isOk d) := by
  unfold problemBuild
  repeat' split
  all_goals simp_all

theorem isOk_problemCheck (k : String) (v : J) : isOk (problemCheck k v) = problemMemberOk k v := by
  simp [problemCheck, problemMemberOk, apply_ite isOk]

theorem isOk_problemMap (ms : List (List Char × J)) :
    isOk (problemMap ms) = membersOk problemFields problemMemberOk ms := by
  refine (isOk_scanThen isOk_problemCheck ms _ true fun fs hs => ?_).trans (Bool.and_true _)
  simp [isOk_problemBuild, isOk_opt hs, problemCheck]

theorem isOk_problemSeq (c : Bool) (xs : List J) :
    isOk (problemSeq c xs) = elementsOk [orNull isStr, orNull isUsize, orNull isStr] xs := by
  refine isOk_seqThen c (fun x => by simp) xs _ fun h => ?_
  match xs, elementsOk_length _ _ h with
  | [a, b, d], _ =>
    simpa only [List.map, elementsOk, isOk_unit, isOk_problemBuild, Bool.and_true, Bool.and_assoc] using h

@[simp] theorem isOk_rProblem (j : J) : isOk (rProblem j) = validProblem j := by
  match j with
  | .obj ms => exact isOk_problemMap ms
  | .arr xs => exact isOk_problemSeq false xs
  | .null | .bool _ | .num _ | .str _ => rfl

@[simp] theorem isOk_rProblemC (j : J) : isOk (rProblemC j) = validProblemC j := by
  match j with
  | .obj ms => exact isOk_problemMap ms
  | .arr xs => exact isOk_problemSeq true xs
  | .null | .bool _ | .num _ | .str _ => rfl

@[simp] theorem isOk_rIdType (j : J) : isOk (rIdType j) = isWord false idTypeNames j := by
  rw [rIdType, isOk_mapR, isOk_rEnum]

@[simp] theorem isOk_rOrderStatus (j : J) : isOk (rOrderStatus j) = isWord false orderStatusNames j := by
  rw [rOrderStatus, isOk_mapR, isOk_rEnum]

@[simp] theorem isOk_rAuthzStatus (j : J) : isOk (rAuthzStatus j) = isWord false authzStatusNames j := by
  rw [rAuthzStatus, isOk_mapR, isOk_rEnum]

@[simp] theorem isOk_rChalStatus (j : J) : isOk (rChalStatus j) = isWord true chalStatusNames j := by
  rw [rChalStatus, isOk_mapR, isOk_rEnum]

theorem isOk_identifierBuild (t : R IdType) (v : R String) :
    isOk (identifierBuild t v) = (isOk t && isOk v) := by
  unfold identifierBuild
  repeat' split
  all_goals simp_all

theorem isOk_identifierCheck (k : String) (v : J) :
    isOk (identifierCheck k v) = identifierMemberOk k v := by
  simp [identifierCheck, identifierMemberOk, apply_ite isOk]

@[simp] theorem isOk_rIdentifier (j : J) : isOk (rIdentifier j) = validIdentifier j := by
  match j with
  | .null | .bool _ | .num _ | .str _ => rfl
  | .obj ms =>
    refine (isOk_scanThen isOk_identifierCheck ms _ _ fun fs hs => ?_).trans (Bool.and_assoc ..).symm
    simp [isOk_identifierBuild, isOk_req hs, identifierCheck, identifierFields]
  | .arr xs =>
    refine isOk_seqThen false (fun x => by simp) xs _ fun h => ?_
    match xs, elementsOk_length _ _ h with
    | [a, b], _ =>
      simpa only [List.map, elementsOk, isOk_unit, isOk_identifierBuild, Bool.and_true, Bool.and_assoc] using h

theorem isOk_orderBuild (st : R OrderStatus) (ex : R (Option String)) (ids : R (List Identifier))
    (nb na : R (Option String)) (er : R (Option Problem)) (au : R (List String)) (fi : R String)
    (ce : R (Option String)) :
    isOk (orderBuild st ex ids nb na er au fi ce) =
      (isOk st && isOk ex && isOk ids && isOk nb && isOk na && isOk er && isOk au && isOk fi && isOk ce) := by
  unfold orderBuild
  repeat' split
  all_goals simp_all

theorem isOk_orderCheck (k : String) (v : J) : isOk (orderCheck k v) = orderMemberOk k v := by
  simp [orderCheck, orderMemberOk, apply_ite isOk]

@[simp] theorem isOk_rOrder (j : J) : isOk (rOrder j) = validOrder j := by
  match j with
  | .null | .bool _ | .num _ | .str _ => rfl
  | .obj ms =>
    refine isOk_scanThen isOk_orderCheck ms _ _ fun fs hs => ?_
    simp [isOk_orderBuild, isOk_req hs, isOk_opt hs, orderCheck, orderFields, orderRequired, Bool.and_assoc]
  | .arr xs =>
    refine isOk_seqThen false (fun x => by simp) xs _ fun h => ?_
    match xs, elementsOk_length _ _ h with
    | [a, b, c, d, e, f, g, h', i], _ =>
      simpa only [List.map, elementsOk, isOk_unit, isOk_orderBuild, Bool.and_true, Bool.and_assoc] using h

theorem isOk_metaBuild (t w : R (Option String)) (c : R (Option (List String))) (x : R (Option Bool)) :
    isOk (metaBuild t w c x) = (isOk t && isOk w && isOk c && isOk x) := by
  unfold metaBuild
  repeat' split
  all_goals simp_all

theorem isOk_metaCheck (k : String) (v : J) : isOk (metaCheck k v) = metaMemberOk k v := by
  simp [metaCheck, metaMemberOk, apply_ite isOk]

@[simp] theorem isOk_rMeta (j : J) : isOk (rMeta j) = validMeta j := by
  match j with
  | .null | .bool _ | .num _ | .str _ => rfl
  | .obj ms =>
    refine (isOk_scanThen isOk_metaCheck ms _ true fun fs hs => ?_).trans (Bool.and_true _)
    simp [isOk_metaBuild, isOk_opt hs, metaCheck]
  | .arr xs =>
    refine isOk_seqThen false (fun x => by simp) xs _ fun h => ?_
    match xs, elementsOk_length _ _ h with
    | [a, b, c, d], _ =>
      simpa only [List.map, elementsOk, isOk_unit, isOk_metaBuild, Bool.and_true, Bool.and_assoc] using h

theorem isOk_directoryBuild (m : R (Option DirectoryMeta)) (nn na no : R String) (nz : R (Option String))
    (rc kc : R String) :
    isOk (directoryBuild m nn na no nz rc kc) =
      (isOk m && isOk nn && isOk na && isOk no && isOk nz && isOk rc && isOk kc) := by
  unfold directoryBuild
  repeat' split
  all_goals simp_all

theorem isOk_directoryCheck (k : String) (v : J) : isOk (directoryCheck k v) = directoryMemberOk k v := by
  simp [directoryCheck, directoryMemberOk, apply_ite isOk]

@[simp] theorem isOk_rDirectory (j : J) : isOk (rDirectory j) = validDirectory j := by
  match j with
  | .null | .bool _ | .num _ | .str _ => rfl
  | .obj ms =>
    refine isOk_scanThen isOk_directoryCheck ms _ _ fun fs hs => ?_
    simp [isOk_directoryBuild, isOk_req hs, isOk_opt hs, directoryCheck, directoryFields, directoryRequired,
      Bool.and_assoc]
  | .arr xs =>
    refine isOk_seqThen false (fun x => by simp) xs _ fun h => ?_
    match xs, elementsOk_length _ _ h with
    | [a, b, c, d, e, f, g], _ =>
      simpa only [List.map, elementsOk, isOk_unit, isOk_directoryBuild, Bool.and_true, Bool.and_assoc] using h

@[simp] theorem isOk_rValue (rem : Nat) (j : J) : isOk (rValue rem j) = strictOk rem j := by
  unfold rValue strictOk
  cases strictErr rem j <;> rfl

theorem isOk_accountBuild (s : R String) (c : R (Option (List String))) (t : R (Option Bool))
    (x : R (Option J)) (o : R (Option String)) :
    isOk (accountBuild s c t x o) = (isOk s && isOk c && isOk t && isOk x && isOk o) := by
  unfold accountBuild
  repeat' split
  all_goals simp_all

theorem isOk_accountCheck (rem : Nat) (k : String) (v : J) :
    isOk (accountCheck rem k v) = accountMemberOk rem k v := by
  simp [accountCheck, accountMemberOk, apply_ite isOk]

@[simp] theorem isOk_rAccount (rem : Nat) (j : J) : isOk (rAccount rem j) = validAccount rem j := by
  match j with
  | .null | .bool _ | .num _ | .str _ => rfl
  | .obj ms =>
    refine isOk_scanThen (isOk_accountCheck rem) ms _ _ fun fs hs => ?_
    simp [isOk_accountBuild, isOk_req hs, isOk_opt hs, accountCheck, accountFields]
  | .arr xs =>
    refine isOk_seqThen false (fun x => by simp) xs _ fun h => ?_
    match xs, elementsOk_length _ _ h with
    | [a, b, c, d, e], _ =>
      simpa only [List.map, elementsOk, isOk_unit, isOk_accountBuild, Bool.and_true, Bool.and_assoc] using h

theorem isOk_tokenBuild (u : R String) (s : R (Option ChalStatus)) (va : R (Option String))
    (er : R (Option Problem)) (t : R String) :
    isOk (tokenBuild u s va er t) = (isOk u && isOk s && isOk va && isOk er && isOk t) := by
  unfold tokenBuild
  repeat' split
  all_goals simp_all

theorem isOk_tokenCheck (k : String) (v : J) : isOk (tokenCheck k v) = tokenMemberOk k v := by
  simp [tokenCheck, tokenMemberOk, apply_ite isOk]

theorem isOk_rTokenMap (ms : List (List Char × J)) :
    isOk (rTokenMap ms) =
      (membersOk tokenFields tokenMemberOk ms && present "url" ms && present "token" ms) := by
  refine (isOk_scanThen isOk_tokenCheck ms _ _ fun fs hs => ?_).trans (Bool.and_assoc ..).symm
  simp [isOk_tokenBuild, isOk_req hs, isOk_opt hs, tokenCheck, tokenFields]

theorem isOk_rTokenSeq (xs : List J) :
    isOk (rTokenSeq xs) =
      elementsOk [isStr, orNull (isWord true chalStatusNames), orNull isStr, orNull validProblemC, isStr] xs := by
  refine isOk_seqThen true (fun x => by simp) xs _ fun h => ?_
  match xs, elementsOk_length _ _ h with
  | [a, b, c, d, e], _ =>
    simpa only [List.map, elementsOk, isOk_unit, isOk_tokenBuild, Bool.and_true, Bool.and_assoc] using h

theorem tagOfName_isSome (s : String) :
    (tagOfName s).isSome = ["http-01", "dns-01", "tls-alpn-01"].contains s := by
  unfold tagOfName
  by_cases h1 : s = "http-01"
  · simp [h1]
  · by_cases h2 : s = "dns-01"
    · simp [h2]
    · by_cases h3 : s = "tls-alpn-01"
      · simp [h3]
      · simp [h1, h2, h3]

theorem isOk_rTag (v : J) : isOk (rTag v) = isStr v := by
  cases v <;> simp [rTag, isStr]
  split <;> simp_all

theorem rTag_str_none (raw : List Char) (h : decodeStr raw = none) :
    rTag (.str raw) = .error .badString := by
  simp [rTag, h]

theorem rTag_str_some (raw cs : List Char) (h : decodeStr raw = some cs) :
    rTag (.str raw) = .ok (tagOfName (String.ofList cs)) := by
  simp [rTag, h]

theorem isTokenType_some (raw cs : List Char) (h : decodeStr raw = some cs) :
    isTokenType raw = (tagOfName (String.ofList cs)).isSome := by
  simp [isTokenType, decodesTo, h, tagOfName_isSome]

theorem isOk_challengeOfTag (v : J) (token : R TokenChallenge) (unknownOk : Bool) :
    isOk (challengeOfTag v token unknownOk) =
      match v with
      | .str raw => (decodeStr raw).isSome && (if isTokenType raw then isOk token else unknownOk)
      | _ => false := by
  unfold challengeOfTag
  cases v with
  | str raw =>
    simp only
    cases hd : decodeStr raw with
    | none => simp [rTag_str_none raw hd]
    | some cs =>
      rw [rTag_str_some raw cs hd, isTokenType_some raw cs hd]
      cases tagOfName (String.ofList cs) with
      | none => cases unknownOk <;> simp
      | some mk => simp
  | _ => simp [rTag]

theorem isTypeKey_eq (kv : List Char × J) : isTypeKey kv = (keyOf kv == some "type") := rfl

theorem bufferCheck_isNone (r : Nat) (seen : Bool) (ms : List (List Char × J)) :
    (bufferCheck r seen ms).isNone =
      (keysDecodable ms && (ms.all fun kv => if isTypeKey kv then isStr kv.2 else strictOk r kv.2) &&
        decide (occurrences "type" ms + (if seen then 1 else 0) ≤ 1)) := by
  induction ms generalizing seen with
  | nil => cases seen <;> rfl
  | cons kv ms ih =>
    obtain ⟨k, v⟩ := kv
    have ho : occurrences "type" ((k, v) :: ms) = (if isTypeKey (k, v) then 1 else 0) + occurrences "type" ms := by
      rw [isTypeKey_eq, occurrences_cons]
    simp only [bufferCheck, keysDecodable, List.all_cons, ho]
    cases hk : decodeStr k with
    | none => simp [keyOf, hk]
    | some kc =>
      simp only [show (keyOf (k, v)).isSome = true by simp [keyOf, hk], Bool.true_and]
      by_cases ht : isTypeKey (k, v) = true
      · simp only [ht, if_true]
        cases seen with
        | true => simp
        | false =>
          rw [← isOk_rTag]
          cases rTag v with
          | error e => simp
          | ok t => simp [ih true, keysDecodable, Nat.add_comm]
      · simp only [ht, if_false, Nat.zero_add, Bool.false_eq_true]
        cases hs : strictErr r v with
        | some e => simp [strictOk, hs]
        | none => simp [ih seen, keysDecodable, strictOk, hs]

theorem find_typeKey_none (ms : List (List Char × J)) (h : ms.find? isTypeKey = none) :
    occurrences "type" ms = 0 := by
  rw [occurrences, List.length_eq_zero_iff, List.filter_eq_nil_iff]
  exact fun kv hkv => List.find?_eq_none.1 h kv hkv

theorem find_typeKey_some (ms : List (List Char × J)) (kv : List Char × J)
    (h : ms.find? isTypeKey = some kv) :
    kv ∈ ms ∧ isTypeKey kv = true ∧ 1 ≤ occurrences "type" ms :=
  have hm := List.mem_of_find?_eq_some h
  have ht := List.find?_some h
  ⟨hm, ht, List.length_pos_of_mem (List.mem_filter.2 ⟨hm, ht⟩)⟩

theorem firstStrictErr_isNone (r : Nat) (l : List J) :
    (firstStrictErr r l).isNone = l.all (strictOk r) := by
  induction l with
  | nil => rfl
  | cons x l ih =>
    simp only [firstStrictErr, List.all_cons, strictOk]
    cases strictErr r x with
    | some e => simp
    | none => simpa [strictOk] using ih

@[simp] theorem isOk_rChallenge (rem : Nat) (j : J) : isOk (rChallenge rem j) = validChallenge rem j := by
  match j with
  | .null | .bool _ | .num _ | .str _ => simp [rChallenge, validChallenge]
  | .obj ms =>
    simp only [rChallenge, validChallenge]
    by_cases hrem : rem ≤ 1
    · simp [hrem, show ¬ 2 ≤ rem by omega]
    · simp only [hrem, if_false, show 2 ≤ rem by omega, decide_true, Bool.true_and]
      have hb := bufferCheck_isNone (rem - 1) false ms
      simp only [Bool.false_eq_true, if_false, Nat.add_zero] at hb
      cases hf : ms.find? isTypeKey with
      | none =>
        rw [find_typeKey_none ms hf]
        cases bufferCheck (rem - 1) false ms <;> simp
      | some kv =>
        obtain ⟨k, v⟩ := kv
        obtain ⟨hm, ht, h1⟩ := find_typeKey_some ms (k, v) hf
        -- with a tag present, "exactly one" is "at most one", which is what the buffering checks
        rw [decide_eq_decide.2 (show occurrences "type" ms = 1 ↔ occurrences "type" ms ≤ 1 by omega),
          Bool.and_right_comm (keysDecodable ms), ← hb]
        cases hc : bufferCheck (rem - 1) false ms with
        | some e => rfl
        | none =>
          simp only [hc, Option.isNone_none, Bool.true_eq, Bool.and_eq_true, List.all_eq_true] at hb
          have hv := hb.1.2 (k, v) hm
          simp only [ht, if_true] at hv
          cases v with
          | str raw =>
            simp only [isStr] at hv
            simp only [isOk_challengeOfTag, isOk_rTokenMap, hv, Option.isNone_none, Bool.true_and]
            cases isTokenType raw <;> simp
          | _ => simp [isStr] at hv
  | .arr xs =>
    match xs with
    | [] => by_cases hrem : rem ≤ 1 <;> simp [rChallenge, validChallenge, hrem]
    | t :: rest =>
      simp only [rChallenge]
      by_cases hrem : rem ≤ 1
      · have : ¬ (2 ≤ rem) := by omega
        cases t <;> simp [validChallenge, hrem, this]
      · have h2 : 2 ≤ rem := by omega
        simp only [hrem, if_false]
        cases t with
        | str raw =>
          simp only [validChallenge, h2, decide_true, Bool.true_and]
          cases hd : decodeStr raw with
          | none => simp [rTag_str_none raw hd]
          | some cs =>
            rw [rTag_str_some raw cs hd]
            simp only [Option.isSome_some, Bool.true_and]
            rw [← firstStrictErr_isNone]
            cases hf : firstStrictErr (rem - 1) rest with
            | some e => simp
            | none =>
              simp only [Option.isNone_none, Bool.true_and, isOk_challengeOfTag, hd, Option.isSome_some,
                isOk_rTokenSeq]
        | _ => simp [rTag, validChallenge]

theorem isOk_authzBuild (i : R Identifier) (s : R AuthzStatus) (ex : R (Option String))
    (ch : R (List Challenge)) (w : R (Option Bool)) :
    isOk (authzBuild i s ex ch w) = (isOk i && isOk s && isOk ex && isOk ch && isOk w) := by
  unfold authzBuild
  repeat' split
  all_goals simp_all

theorem isOk_authzCheck (rem : Nat) (k : String) (v : J) :
    isOk (authzCheck rem k v) = authzMemberOk rem k v := by
  simp [authzCheck, authzMemberOk, apply_ite isOk]

@[simp] theorem isOk_rAuthorization (rem : Nat) (j : J) :
    isOk (rAuthorization rem j) = validAuthorization rem j := by
  match j with
  | .null | .bool _ | .num _ | .str _ => rfl
  | .obj ms =>
    refine isOk_scanThen (isOk_authzCheck rem) ms _ _ fun fs hs => ?_
    simp [isOk_authzBuild, isOk_req hs, isOk_opt hs, authzCheck, authzFields, authzRequired, Bool.and_assoc]
  | .arr xs =>
    refine isOk_seqThen false (fun x => by simp) xs _ fun h => ?_
    match xs, elementsOk_length _ _ h with
    | [a, b, c, d, e], _ =>
      simpa only [List.map, elementsOk, isOk_unit, isOk_authzBuild, Bool.and_true, Bool.and_assoc] using h

theorem isOk_fromText (p : J → R α) (s : String) :
    isOk (fromText p s) = match lex s with
      | some j => isOk (p j)
      | none => false := by
  unfold fromText fromChars lex
  cases lexChars s.toList <;> rfl

theorem bodyParses_eq_validBody (aw : Awaited) (body : String) : bodyParses aw body = validBody aw body := by
  cases aw with
  | raw => rfl
  | _ =>
    simp only [bodyParses, validBody, parseDirectory, parseAccountResponse, parseOrder, parseAuthorization,
      isOk_fromText]
    cases lex body with
    | none => rfl
    | some j => simp

end AcmedVerif.AcmeObj
