/-
Register-once counters of `Model/Locks.lean` (`Reg`): the invariant `BoundFrom d0`, `d0` = what the start
state is allowed (1 if it needs a registration, else 0); `Props/C12.register_once` is the weakening `d0 ≤ 1`.
-/
import AcmedVerif.Model.Locks

namespace AcmedVerif.Locks.Reg

/-- 1 when a `sync` would send newAccount. -/
def due (s : St) : Nat := b2n (!s.registered || s.stale)

theorem due_le_one (s : St) : due s ≤ 1 := by
  unfold due b2n; split <;> omega

/-- Successes + the registration still due + the re-registrations still pending never exceed the start
allowance + the causes seen so far. -/
def BoundFrom (d0 : Nat) (s : St) : Prop :=
  s.newAccountOk + due s + s.pending.length ≤ d0 + s.dne + s.changes

/-- Every event that adds a success either uses up the due registration or a pending one, or comes with
its cause (`dne`); every event that makes a registration due or pending comes with its cause. -/
theorem boundFrom_step {d0 : Nat} {s s' : St} {e : Ev} (hb : BoundFrom d0 s) (h : step s e = some s') :
    BoundFrom d0 s' := by
  obtain ⟨r, st, pend, n, d, c⟩ := s
  have hd := due_le_one ⟨r, st, pend, n, d, c⟩
  have h0 : b2n (!true || false) = 0 := rfl
  cases e with
  | bindingChange =>
    cases h
    have := due_le_one ⟨r, true, pend, n, d, c + 1⟩
    simp only [BoundFrom, due] at hb this ⊢; omega
  | sync ok =>
    simp only [step] at h
    split at h
    · next hdue =>
      have h1 : b2n true = 1 := rfl
      cases ok <;> cases h <;> simp only [BoundFrom, due, h0, hdue, h1] at hb ⊢ <;> omega
    · cases h; exact hb
  | updateDne ok => cases ok <;> cases h <;> simp only [BoundFrom, due, h0] at hb hd ⊢ <;> omega
  | orderDne t => cases h; simp only [BoundFrom, due, List.length_cons] at hb ⊢; omega
  | reRegister t ok =>
    simp only [step] at h
    split at h
    · next hp =>
      have hmem : t ∈ pend := by simpa using hp
      have hlen := List.length_erase_of_mem hmem
      have hpos := List.length_pos_of_mem hmem
      cases ok <;> cases h <;> simp only [BoundFrom, due, h0] at hb hd ⊢ <;> omega
    · cases h

theorem boundFrom_run {d0 : Nat} : ∀ (es : List Ev) {s s' : St},
    BoundFrom d0 s → run s es = some s' → BoundFrom d0 s'
  | [], _, _, hb, h => by cases h; exact hb
  | e :: es, s, _, hb, h => by
    simp only [run] at h
    split at h
    · next s1 h1 => exact boundFrom_run es (boundFrom_step hb h1) h
    · cases h

theorem boundFrom_start (registered stale : Bool) :
    BoundFrom (due (start registered stale)) (start registered stale) := by
  simp [BoundFrom, start]

end AcmedVerif.Locks.Reg
