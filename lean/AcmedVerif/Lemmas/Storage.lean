/-
Lemmas about `Model/Fs.lean` and `Model/Storage.lean` (C02, C13, C10.4): `writeFile_passed` says what one
`write_file` does as an equation; the content, mode and owner theorems are read off it.
-/
import AcmedVerif.Model.Storage
import AcmedVerif.Spec.C02
import AcmedVerif.Spec.C13

namespace AcmedVerif.Fs

theorem get_set_same (fs : Fs) (p : Path) (f : File) : get (set fs p f) p = some f := by
  induction fs with
  | nil => simp [set, get]
  | cons e rest ih => by_cases h : e.1 = p <;> simp [set, get, h, ih]

theorem get_set_other (fs : Fs) (p q : Path) (f : File) (h : p ≠ q) :
    get (set fs p f) q = get fs q := by
  induction fs with
  | nil => simp [set, get, h]
  | cons e rest ih =>
    by_cases hp : e.1 = p
    · simp [set, get, hp, h]
    · simp [set, get, hp, ih]

theorem set_set (fs : Fs) (p : Path) (f g : File) : set (set fs p f) p g = set fs p g := by
  induction fs with
  | nil => simp [set]
  | cons e rest ih => by_cases hq : e.1 = p <;> simp [set, hq, ih]

theorem set_get_self {fs : Fs} {p : Path} {f : File} (h : get fs p = some f) : set fs p f = fs := by
  induction fs with
  | nil => cases h
  | cons e rest ih =>
    obtain ⟨q, g⟩ := e
    by_cases hq : q = p
    · simp only [get, hq, if_true, Option.some.injEq] at h; simp [set, hq, h]
    · simp only [get, hq, if_false] at h; simp [set, hq, ih h]

theorem clearBits_and_self (m a : Nat) : clearBits m a &&& a = 0 := by
  unfold clearBits
  rw [Nat.and_xor_distrib_right, Nat.and_assoc, Nat.and_self, Nat.xor_self]

theorem clearBits_and_disjoint (m a b : Nat) (h : a &&& b = 0) : clearBits m a &&& b = m &&& b := by
  unfold clearBits
  rw [Nat.and_xor_distrib_right, Nat.and_assoc, h, Nat.and_zero, Nat.xor_zero]

theorem clearBits_of_not_set (m a : Nat) (h : m &&& a = 0) : clearBits m a = m := by
  unfold clearBits
  rw [h, Nat.xor_zero]

theorem clearBits_idem (m a : Nat) : clearBits (clearBits m a) a = clearBits m a :=
  clearBits_of_not_set _ _ (clearBits_and_self m a)

theorem hasBit_clearBits_disjoint (m a b : Nat) (h : a &&& b = 0) :
    hasBit (clearBits m a) b = hasBit m b := by
  unfold hasBit
  rw [clearBits_and_disjoint m a b h]

theorem hasBit_clearBits_self (m a : Nat) : hasBit (clearBits m a) a = false := by
  unfold hasBit
  rw [clearBits_and_self]
  rfl

theorem and_and_eq_zero (m x c : Nat) (h : m &&& c = 0) : (m &&& x) &&& c = 0 := by
  rw [Nat.and_assoc, Nat.and_comm x c, ← Nat.and_assoc, h, Nat.zero_and]

theorem killChown_and (proc : Proc) (f : File) (c : Nat)
    (hu : S_ISUID &&& c = 0) (hg : S_ISGID &&& c = 0) : killChown proc f &&& c = f.mode &&& c := by
  unfold killChown
  simp only
  split
  · rw [clearBits_and_disjoint _ _ _ hg, clearBits_and_disjoint _ _ _ hu]
  · rw [clearBits_and_disjoint _ _ _ hu]

theorem killChown_plain (proc : Proc) (f : File) (h : f.mode &&& 0o6000 = 0) :
    killChown proc f = f.mode := by
  have sub : ∀ a, a &&& 0o6000 = a → f.mode &&& a = 0 := fun a ha => by
    rw [← ha, ← Nat.and_assoc]; exact and_and_eq_zero _ _ _ h
  unfold killChown
  simp only
  rw [clearBits_of_not_set _ _ (sub S_ISUID (by decide))]
  split
  · exact clearBits_of_not_set _ _ (sub S_ISGID (by decide))
  · rfl

/- Each system call is `set fs p` of a function of the file found; a sequence of them is one `set`. -/

/-- The file at `p` after `openCreate`, as a function of what was there. -/
def openedF (trunc : Trunc) (proc : Proc) (mode : Nat) : Option File → File
  | none => { content := [], mode := maskMode mode proc.umask, uid := proc.uid, gid := proc.gid }
  | some f =>
    match trunc with
    | .yes => { f with content := [], mode := killWrite proc f }
    | .no => f

def writtenF (proc : Proc) (data : List UInt8) (f : File) : File :=
  if data.isEmpty then f
  else { f with content := overwrite f.content data, mode := killWrite proc f }

def chownedF (proc : Proc) (uid gid : Option Nat) (f : File) : File :=
  { f with mode := killChown proc f, uid := applyId uid f.uid, gid := applyId gid f.gid }

theorem openCreate_eq (proc : Proc) (fs : Fs) (p : Path) (mode : Nat) (trunc : Trunc) :
    openCreate proc fs p mode trunc = set fs p (openedF trunc proc mode (get fs p)) := by
  unfold openCreate
  cases h : get fs p with
  | none => rfl
  | some f => cases trunc <;> simp [openedF, set_get_self h]

theorem writeAt0_eq (proc : Proc) {fs : Fs} {p : Path} {f : File} (h : get fs p = some f)
    (data : List UInt8) : writeAt0 proc fs p data = set fs p (writtenF proc data f) := by
  unfold writeAt0 writtenF
  simp only [h]
  split
  · exact (set_get_self h).symm
  · rfl

theorem chown_eq (proc : Proc) {fs : Fs} {p : Path} {f : File} (h : get fs p = some f)
    (uid gid : Option Nat) : chown proc fs p uid gid = set fs p (chownedF proc uid gid f) := by
  unfold chown; rw [h]; rfl

theorem get_openCreate_same (proc : Proc) (fs : Fs) (p : Path) (mode : Nat) (trunc : Trunc) :
    get (openCreate proc fs p mode trunc) p = some (openedF trunc proc mode (get fs p)) := by
  rw [openCreate_eq, get_set_same]

theorem get_writeAt0_same (proc : Proc) (fs : Fs) (p : Path) (data : List UInt8) :
    get (writeAt0 proc fs p data) p = (get fs p).map (writtenF proc data) := by
  cases h : get fs p with
  | none => simp [writeAt0, h]
  | some f => rw [writeAt0_eq proc h, get_set_same]; rfl

theorem overwrite_nil (data : List UInt8) : overwrite [] data = data := by
  simp [overwrite]

theorem overwrite_of_le (old data : List UInt8) (h : old.length ≤ data.length) :
    overwrite old data = data := by
  simp [overwrite, List.drop_eq_nil_of_le h]

end AcmedVerif.Fs

namespace AcmedVerif.Storage
open AcmedVerif.Fs

theorem killChown_eq_strip (proc : Proc) (f : File) :
    killChown proc f = Spec.C13.stripSpecial (proc.fsetid || proc.gid == f.gid) f.mode := rfl

variable {trunc : Trunc} {env : Env} {proc : Proc} {s : Settings} {fs : Fs} {t : FileType} {p : Path}
  {data : List UInt8} {old : Option File} {ids : Option (Option Nat × Option Nat)}

/-- What `set_owner` decides before it touches the file system (`none`: account file, no `chown`). -/
def ownerIds (env : Env) (s : Settings) (t : FileType) :
    Except WriteError (Option (Option Nat × Option Nat)) :=
  match ownerCfg s t with
  | none => .ok none
  | some (u, g) =>
    match resolve env.lookupUser u with
    | none => .error .parseUid
    | some uid =>
      match resolve env.lookupGroup g with
      | none => .error .parseGid
      | some gid => if env.chownOk then .ok (some (uid, gid)) else .error .chown

def ownAs (proc : Proc) : Option (Option Nat × Option Nat) → File → File
  | none, f => f
  | some (u, g), f => chownedF proc u g f

def chownEvents : Option (Option Nat × Option Nat) → List Event
  | none => []
  | some (u, g) => [.chowned u g]

theorem setOwner_eq (proc : Proc) (fs : Fs) (p : Path) :
    setOwner env proc s fs t p =
      match ownerIds env s t with
      | .error e => .error e
      | .ok none => .ok (fs, [])
      | .ok (some (uid, gid)) => .ok (chown proc fs p uid gid, [.chowned uid gid]) := by
  unfold setOwner ownerIds
  cases ownerCfg s t with
  | none => rfl
  | some ug =>
    obtain ⟨u, g⟩ := ug
    dsimp only
    cases resolve env.lookupUser u with
    | none => rfl
    | some uid =>
      cases resolve env.lookupGroup g with
      | none => rfl
      | some gid => cases env.chownOk <;> rfl

/-- What `set_owner` does to the file at `p`: `none` = it returns an error (nothing changed). -/
def ownedF (env : Env) (proc : Proc) (s : Settings) (t : FileType) (f : File) : Option File :=
  match ownerCfg s t with
  | none => some f
  | some (u, g) =>
    match resolve env.lookupUser u, resolve env.lookupGroup g with
    | some uid, some gid => if env.chownOk then some (chownedF proc uid gid f) else none
    | _, _ => none

theorem ownerIds_account : ownerIds env s .account = .ok none := rfl

theorem ownerIds_eq_ok :
    ownerIds env s t = .ok ids ↔
      match ownerCfg s t with
      | none => ids = none
      | some (u, g) => ∃ wu wg, resolve env.lookupUser u = some wu ∧
          resolve env.lookupGroup g = some wg ∧ env.chownOk = true ∧ ids = some (wu, wg) := by
  unfold ownerIds
  cases ownerCfg s t with
  | none => simp [eq_comm]
  | some ug =>
    dsimp only
    cases resolve env.lookupUser ug.1 <;> cases resolve env.lookupGroup ug.2 <;>
      cases env.chownOk <;> simp [eq_comm]

theorem ownerIds_of_resolved {wu wg : Option Nat}
    (hown : ∀ u g, ownerCfg s t = some (u, g) →
      resolve env.lookupUser u = some wu ∧ resolve env.lookupGroup g = some wg ∧
      env.chownOk = true) :
    ownerIds env s t = .ok ((ownerCfg s t).map fun _ => (wu, wg)) := by
  rw [ownerIds_eq_ok]
  cases hc : ownerCfg s t with
  | none => rfl
  | some ug => exact ⟨wu, wg, (hown _ _ hc).1, (hown _ _ hc).2.1, (hown _ _ hc).2.2, rfl⟩

/-- The file at `p` after the `open` and the `write_all`, before `set_owner`. -/
def preFile (trunc : Trunc) (proc : Proc) (s : Settings) (old : Option File)
    (t : FileType) (data : List UInt8) : File :=
  writtenF proc data (openedF trunc proc (modeFor s t) old)

/-- The file at `p` after a `writeFile` that got past its pre hooks. -/
def finalFile (trunc : Trunc) (env : Env) (proc : Proc) (s : Settings) (old : Option File)
    (t : FileType) (data : List UInt8) : File :=
  match ownerIds env s t with
  | .error _ => preFile trunc proc s old t data
  | .ok ids => ownAs proc ids (preFile trunc proc s old t data)

theorem open_write_eq (fs : Fs) (p : Path) :
    writeAt0 proc (openCreate proc fs p (modeFor s t) trunc) p data =
      set fs p (preFile trunc proc s (get fs p) t data) := by
  rw [openCreate_eq, writeAt0_eq proc (get_set_same _ _ _), set_set]; rfl

theorem writeFile_pre_failed (h : env.hookOk (preHook (get fs p).isNone) = false) :
    writeFile trunc env proc s fs t p data =
      { fs := fs, result := .err .preHook, events := [.hook (preHook (get fs p).isNone)] } := by
  simp [writeFile, h]

theorem writeFile_passed (h : env.hookOk (preHook (get fs p).isNone) = true) :
    writeFile trunc env proc s fs t p data =
      { fs := set fs p (finalFile trunc env proc s (get fs p) t data)
        result := match ownerIds env s t with
          | .error e => .err e
          | .ok _ => if env.hookOk (postHook (get fs p).isNone) then .ok else .err .postHook
        events := .hook (preHook (get fs p).isNone) :: .opened :: .written ::
          match ownerIds env s t with
          | .error _ => []
          | .ok ids => chownEvents ids ++ [.hook (postHook (get fs p).isNone)] } := by
  unfold writeFile
  simp only [h, Bool.not_true, Bool.false_eq_true, if_false]
  rw [open_write_eq, setOwner_eq, finalFile]
  cases ownerIds env s t with
  | error e => rfl
  | ok ids =>
    cases ids with
    | none => cases env.hookOk (postHook (get fs p).isNone) <;> rfl
    | some ug =>
      simp only [chown_eq proc (get_set_same _ _ _), set_set]
      cases env.hookOk (postHook (get fs p).isNone) <;> rfl

theorem get_writeFile_same (h : env.hookOk (preHook (get fs p).isNone) = true) :
    get (writeFile trunc env proc s fs t p data).fs p =
      some (finalFile trunc env proc s (get fs p) t data) := by
  rw [writeFile_passed h]; exact get_set_same _ _ _

theorem get_writeFile_other {q : Path} (hq : p ≠ q) :
    get (writeFile trunc env proc s fs t p data).fs q = get fs q := by
  cases h : env.hookOk (preHook (get fs p).isNone) with
  | false => rw [writeFile_pre_failed h]
  | true => rw [writeFile_passed h]; exact get_set_other _ _ _ _ hq

theorem writeFile_wrote :
    (writeFile trunc env proc s fs t p data).wrote = env.hookOk (preHook (get fs p).isNone) := by
  cases h : env.hookOk (preHook (get fs p).isNone) with
  | false => rw [writeFile_pre_failed h]; rfl
  | true => rw [writeFile_passed h]; simp [Outcome.wrote]

theorem writeFile_ok_pre (h : (writeFile trunc env proc s fs t p data).result = .ok) :
    env.hookOk (preHook (get fs p).isNone) = true := by
  cases hp : env.hookOk (preHook (get fs p).isNone) with
  | true => rfl
  | false => rw [writeFile_pre_failed hp] at h; cases h

theorem writeFile_ok_wrote (h : (writeFile trunc env proc s fs t p data).isOk = true) :
    (writeFile trunc env proc s fs t p data).wrote = true := by
  rw [writeFile_wrote]
  exact writeFile_ok_pre (by simpa [Outcome.isOk] using h)

/-- The file as `open` without truncation finds or creates it. -/
def baseFile (proc : Proc) (s : Settings) (t : FileType) (old : Option File) : File :=
  openedF .no proc (modeFor s t) old

def baseUid (proc : Proc) : Option File → Nat
  | none => proc.uid
  | some f => f.uid
def baseGid (proc : Proc) : Option File → Nat
  | none => proc.gid
  | some f => f.gid

theorem baseFile_uid : (baseFile proc s t old).uid = baseUid proc old := by cases old <;> rfl
theorem baseFile_gid : (baseFile proc s t old).gid = baseGid proc old := by cases old <;> rfl

theorem strip_idem (ig : Bool) (m : Nat) :
    Spec.C13.stripSpecial ig (Spec.C13.stripSpecial ig m) = Spec.C13.stripSpecial ig m := by
  have unfold_strip : ∀ m, Spec.C13.stripSpecial ig m =
      if (hasBit m 0o2000 && (hasBit m 0o010 || !ig)) = true
      then clearBits (clearBits m 0o4000) 0o2000 else clearBits m 0o4000 := fun _ => rfl
  rw [unfold_strip m]
  split
  · -- both bits gone: nothing left to remove
    rw [unfold_strip, if_neg (by rw [hasBit_clearBits_self]; simp)]
    apply clearBits_of_not_set
    rw [clearBits_and_disjoint _ _ _ (by decide)]
    exact clearBits_and_self _ _
  · next hcond =>
    -- set-group-id stays: the condition is the same the second time
    rw [unfold_strip, hasBit_clearBits_disjoint _ _ _ (by decide),
      hasBit_clearBits_disjoint _ _ _ (by decide), if_neg hcond]
    exact clearBits_idem _ _

theorem killWrite_idem (f : File) (c : List UInt8) :
    killWrite proc { f with content := c, mode := killWrite proc f } = killWrite proc f := by
  unfold killWrite
  split
  · rfl
  · exact strip_idem _ _

theorem killChown_killWrite (f : File) (c : List UInt8) (b : Bool) :
    killChown proc { f with content := c, mode := if b then killWrite proc f else f.mode } =
      killChown proc f := by
  cases b
  · simp only [Bool.false_eq_true, if_false]; rfl
  · simp only [if_true]
    unfold killWrite
    split
    · rfl
    · exact strip_idem _ _

theorem preFile_eq :
    preFile trunc proc s old t data =
      { baseFile proc s t old with
        content := overwrite (if trunc = .yes then [] else (baseFile proc s t old).content) data
        mode := if (trunc == .yes && old.isSome) || !data.isEmpty
          then killWrite proc (baseFile proc s t old) else (baseFile proc s t old).mode } := by
  unfold preFile writtenF baseFile
  cases hd : data.isEmpty
  · cases old <;> cases trunc <;> simp [openedF, killWrite_idem]
  · rw [List.isEmpty_iff] at hd
    subst hd
    cases old <;> cases trunc <;> simp [openedF, overwrite]

theorem writeFile_contentAt (trunc : Trunc) (q : Path) :
    contentAt (writeFile trunc env proc s fs t p data).fs q =
      if p = q ∧ (writeFile trunc env proc s fs t p data).wrote = true then
        some (overwrite (if trunc = .yes then [] else (contentAt fs p).getD []) data)
      else contentAt fs q := by
  rw [writeFile_wrote]
  by_cases hpq : p = q
  · subst hpq
    cases h : env.hookOk (preHook (get fs p).isNone) with
    | false => rw [writeFile_pre_failed h]; simp
    | true =>
      have hpre : (preFile trunc proc s (get fs p) t data).content =
          overwrite (if trunc = .yes then [] else ((get fs p).map (·.content)).getD []) data := by
        rw [preFile_eq]; cases get fs p <;> rfl
      have hfin : (finalFile trunc env proc s (get fs p) t data).content =
          (preFile trunc proc s (get fs p) t data).content := by
        unfold finalFile
        cases ownerIds env s t with
        | error e => rfl
        | ok ids => cases ids <;> rfl
      simp [contentAt, get_writeFile_same h, hfin, hpre]
  · simp [contentAt, get_writeFile_other hpq, hpq]

/-- The bytes of the last write in the trace that reached `write_all` on path `p`. -/
def lastWrite (tr : List (WriteOp × Outcome)) (p : Path) : Option (List UInt8) :=
  match tr with
  | [] => none
  | e :: r =>
    match lastWrite r p with
    | some d => some d
    | none => if e.1.path = p ∧ e.2.wrote = true then some e.1.data else none

theorem runHistory_mem {e : WriteOp × Outcome} :
    ∀ {h : List WriteOp} {fs : Fs}, e ∈ (runHistory trunc proc fs h).2 →
      ∃ fs', e.2 = step trunc proc fs' e.1
  | [], _, he => nomatch he
  | op :: rest, fs, he => by
    rcases List.mem_cons.1 he with rfl | he'
    · exact ⟨fs, rfl⟩
    · exact runHistory_mem he'

/-- What a harness observes of a trace. -/
def observe (tr : List (WriteOp × Outcome)) : List Spec.C02.Obs :=
  tr.map fun e => { path := e.1.path, data := e.1.data, ok := e.2.isOk }

theorem lookup_contents (fs : Fs) (p : Path) : Spec.C02.lookup (contents fs) p = contentAt fs p := by
  induction fs with
  | nil => rfl
  | cons e rest ih =>
    obtain ⟨q, f⟩ := e
    show Spec.C02.lookup ((q, f.content) :: contents rest) p =
      (AcmedVerif.Fs.get ((q, f) :: rest) p).map (·.content)
    simp only [Spec.C02.lookup, AcmedVerif.Fs.get]
    split
    · rfl
    · exact ih

theorem lastOn_lastWrite {tr : List (WriteOp × Outcome)} (p : Path)
    (hw : ∀ e ∈ tr, e.2.isOk = true → e.2.wrote = true) :
    match Spec.C02.lastOn (observe tr) p with
    | none => lastWrite tr p = none
    | some l => l.ok = true → lastWrite tr p = some l.data := by
  induction tr with
  | nil => rfl
  | cons e r ih =>
    have ih := ih fun x hx => hw x (List.mem_cons_of_mem _ hx)
    simp only [observe, List.map_cons, Spec.C02.lastOn, lastWrite] at ih ⊢
    split at ih
    · next hr =>
      rw [hr, ih]
      by_cases hp : e.1.path = p
      · simp only [hp, if_true, true_and]
        intro hok
        rw [if_pos (hw e List.mem_cons_self hok)]
      · simp only [hp, if_false, false_and]
    · next l hr => rw [hr]; exact fun hok => by rw [ih hok]

/-- Special bits are removed up to three times (truncate, write, `chown`): whatever `killChown` keeps,
the final mode has. -/
theorem finalFile_mode_ind {Q : Nat → Prop} (hQ : ∀ f : File, Q f.mode → Q (killChown proc f))
    (h0 : Q (baseFile proc s t old).mode) : Q (finalFile trunc env proc s old t data).mode := by
  have hp : Q (preFile trunc proc s old t data).mode := by
    rw [preFile_eq]
    dsimp only [killWrite]
    split
    · split
      · exact h0
      · exact hQ _ h0
    · exact h0
  unfold finalFile
  cases ownerIds env s t with
  | error e => exact hp
  | ok ids =>
    cases ids with
    | none => exact hp
    | some ug => exact hQ _ hp

theorem finalFile_mode_and {c : Nat} (hu : S_ISUID &&& c = 0) (hg : S_ISGID &&& c = 0) :
    (finalFile trunc env proc s old t data).mode &&& c = (baseFile proc s t old).mode &&& c :=
  finalFile_mode_ind (Q := fun m => m &&& c = (baseFile proc s t old).mode &&& c)
    (fun f hf => (killChown_and proc f c hu hg).trans hf) rfl

theorem finalFile_mode_plain (hm : (baseFile proc s t old).mode &&& 0o6000 = 0) :
    (finalFile trunc env proc s old t data).mode = (baseFile proc s t old).mode :=
  finalFile_mode_ind (Q := fun m => m = (baseFile proc s t old).mode)
    (fun f hf => (killChown_plain proc f (hf ▸ hm)).trans hf) rfl

theorem finalFile_created_mode (hplain : modeFor s t &&& 0o6000 = 0) :
    (finalFile trunc env proc s none t data).mode = maskMode (modeFor s t) proc.umask :=
  finalFile_mode_plain (old := none) (and_and_eq_zero _ _ _ hplain)

theorem finalFile_created_private (hcfg : modeFor s t &&& 0o077 = 0) :
    (finalFile trunc env proc s none t data).mode &&& 0o077 = 0 := by
  rw [finalFile_mode_and (old := none) (by decide) (by decide)]
  exact and_and_eq_zero _ _ _ hcfg

theorem finalFile_found_mode (f0 : File) :
    (finalFile trunc env proc s (some f0) t data).mode &&& 0o1777 = f0.mode &&& 0o1777 ∧
    (f0.mode &&& 0o6000 = 0 → (finalFile trunc env proc s (some f0) t data).mode = f0.mode) :=
  ⟨finalFile_mode_and (old := some f0) (by decide) (by decide), finalFile_mode_plain (old := some f0)⟩

theorem finalFile_ids (h : ownerIds env s t = .ok ids) :
    (finalFile trunc env proc s old t data).uid = (ownAs proc ids (baseFile proc s t old)).uid ∧
    (finalFile trunc env proc s old t data).gid = (ownAs proc ids (baseFile proc s t old)).gid := by
  rw [finalFile, h, preFile_eq]
  cases ids <;> exact ⟨rfl, rfl⟩

theorem applyId_eq_newId (w : Option Nat) (old : Nat) : applyId w old = Spec.C13.newId w old := by
  cases w with
  | none => rfl
  | some n =>
    show (if n = 4294967295 then (none : Option Nat) else some n).getD old =
      if n = 4294967295 then old else n
    split <;> rfl

def statOf (f : File) : Spec.C13.Stat := { mode := f.mode, uid := f.uid, gid := f.gid }

/-- The judge's input for one model write (`observed` left to the caller). -/
def caseOf (proc : Proc) (s : Settings) (old : Option File) (t : FileType) (data : List UInt8)
    (wu wg : Option Nat) (observed : Spec.C13.Stat) : Spec.C13.Case :=
  { ftype := t, certMode := s.certMode, pkMode := s.pkMode, umask := proc.umask,
    procUid := proc.uid, procGid := proc.gid, fsetid := proc.fsetid, prev := old.map statOf,
    wantUid := wu, wantGid := wg, dataEmpty := data.isEmpty, observed := observed }

/-- The judge's `expected`, in the model's words. -/
theorem expected_caseOf (wu wg : Option Nat) (o : Spec.C13.Stat) :
    Spec.C13.expected (caseOf proc s old t data wu wg o) =
      { mode := if (!proc.fsetid && (old.isSome || !data.isEmpty)) || (ownerCfg s t).isSome
          then killChown proc (baseFile proc s t old) else (baseFile proc s t old).mode
        uid := if (ownerCfg s t).isSome then Spec.C13.newId wu (baseFile proc s t old).uid
          else (baseFile proc s t old).uid
        gid := if (ownerCfg s t).isSome then Spec.C13.newId wg (baseFile proc s t old).gid
          else (baseFile proc s t old).gid } := by
  cases t <;> cases old <;> rfl

theorem statOf_finalFile {wu wg : Option Nat} (o : Spec.C13.Stat)
    (hown : ∀ u g, ownerCfg s t = some (u, g) →
      resolve env.lookupUser u = some wu ∧ resolve env.lookupGroup g = some wg ∧
      env.chownOk = true) :
    statOf (finalFile .yes env proc s old t data) =
      Spec.C13.expected (caseOf proc s old t data wu wg o) := by
  rw [expected_caseOf, finalFile, ownerIds_of_resolved hown, preFile_eq]
  cases ownerCfg s t with
  | none => cases hf : proc.fsetid <;> simp [ownAs, statOf, killWrite, hf]
  | some ug =>
    simp only [Option.map_some, ownAs, statOf, chownedF, killChown_killWrite, applyId_eq_newId]
    simp

end AcmedVerif.Storage
