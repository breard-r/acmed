/-
C09, soundness of the judge.  The harness sees, for request `i` of a real run of the limiter, only
the instant `call i` at which it entered `block_until_allowed` and the instant `ret i` at which it was
released; the admission instant `as[i]` (the `Instant::now()` pushed on the query log,
endpoint.rs:100) lies in between.  `Props/C09.lean` `window_safe` speaks about the admission instants
(`Limiter.inWindow` on the ghost history); `Spec/C09.lean` `bracketOk` speaks about `(call, ret)`.

This file proves the two are tied, in both directions that matter:

 * `bracket_of_window` / `model_runs_pass_judge`: whatever the model can do passes the judge, for
   every observation that brackets the admissions (no false alarm on conforming code);
 * `bracket_violation_is_real` / `judge_exact_on_exact_observations`: on exact observations the
   judge rejects exactly when some window really holds more than `n` admissions, and
   `bracketOk_widen`: with looser brackets it can only become more lenient (never stricter).
-/
import AcmedVerif.Model.Limiter
import AcmedVerif.Spec.C09
import AcmedVerif.Lemmas.Limiter
import AcmedVerif.Lemmas.Judge09
import AcmedVerif.Props.C09

namespace AcmedVerif.Props.C09Judge
open AcmedVerif.Limiter
open AcmedVerif.Spec.C09
open AcmedVerif.Judge09

theorem bracketOk_spec (lim : Limit) (ev : List (Nat × Nat)) :
    bracketOk lim ev = true ↔
      ∀ (i : Nat) (e f : Nat × Nat), ev[i]? = some e → ev[i + lim.n]? = some f →
        e.1 + lim.period ≤ f.2 :=
  bracketOk_iff lim ev

theorem bracketOk_false_spec (lim : Limit) (ev : List (Nat × Nat)) :
    bracketOk lim ev = false ↔ ∃ i, FailsAt lim ev i :=
  bracketOk_false_iff lim ev

/-- **(a) Window-safe admissions pass the judge.**  For every limit `(n, p)`, every list of
admission instants `as` that never goes backwards and every observation `ev` bracketing it: if no
window `(t - p, t]` holds more than `n` admissions (the conclusion of `window_safe`), the judge
accepts.  No bound on lengths, instants, `n` or `p`. -/
theorem bracket_of_window (n p : Nat) (ev : List (Nat × Nat)) (as : List Nat)
    (hb : Brackets ev as) (hs : Sorted as) (hw : ∀ t, inWindow as p t ≤ n) :
    bracketOk ⟨n, p⟩ ev = true := by
  rw [bracketOk_spec]
  intro i e f he hf
  -- both indices exist in `as`
  have hj : i + n < as.length :=
    Nat.lt_of_lt_of_le (List.getElem?_eq_some_iff.mp hf).1 hb.1
  have ha := List.getElem?_eq_getElem (Nat.lt_of_le_of_lt (Nat.le_add_right i n) hj)
  have hb' := List.getElem?_eq_getElem hj
  have h1 := (hb.2 i e _ he ha).1
  have h2 := (hb.2 (i + n) f _ hf hb').2
  -- were they closer than `p`, the window ending at admission `i + n` would hold `n + 1`
  refine Nat.le_of_not_lt fun hlt => Nat.not_succ_le_self n (Nat.le_trans
    (segment_in_window hs p ha hb' ?_) (hw _))
  exact Nat.lt_of_le_of_lt h2 (Nat.lt_of_lt_of_le hlt (Nat.add_le_add_right h1 p))

theorem holds_of_window (limits : List Limit) (ev : List (Nat × Nat)) (as : List Nat)
    (hb : Brackets ev as) (hs : Sorted as)
    (hw : ∀ lim ∈ limits, ∀ t, inWindow as lim.period t ≤ lim.n) :
    holds limits ev = true := by
  unfold holds
  rw [List.all_eq_true]
  intro lim hl
  exact bracket_of_window lim.n lim.period ev as hb hs (hw lim hl)

/-- Contrapositive, the form the evidence uses: a rejected observation means the admission
instants it brackets really over-fill some window — whatever the slack of the brackets. -/
theorem rejection_is_real (n p : Nat) (ev : List (Nat × Nat)) (as : List Nat)
    (hb : Brackets ev as) (hs : Sorted as) (hfalse : bracketOk ⟨n, p⟩ ev = false) :
    ∃ t, n < inWindow as p t := by
  refine Classical.byContradiction fun hn => ?_
  rw [bracket_of_window n p ev as hb hs fun t => Nat.le_of_not_lt fun h => hn ⟨t, h⟩] at hfalse
  cases hfalse

/-- The ghost history of every reachable limiter state never goes backwards (monotone clock). -/
theorem hist_sorted (limits : List Limit) (rs : List Readings)
    (hmono : monoFrom 0 (flatReadings rs)) : Sorted (run (init limits) rs).hist :=
  let ⟨_, h, _⟩ := run_preserves_mono (P := fun last s => Sorted s.hist ∧ ∀ x ∈ s.hist, x ≤ last)
    (fun _ _ _ => attempt_hist_sorted) rs 0 (init limits) ⟨List.Pairwise.nil, nofun⟩ hmono
  h

/-- **Every run of the model passes the judge.**  For every limit set with the longest period
first (what `RateLimit::new` produces: `mkLimits_headMax`), every number of passes, every monotone
sequence of clock readings: ANY observation whose `(call, ret)` pairs bracket the admission
instants of the reached state is accepted by `Spec.C09.holds`.  (`window_safe` ∘
`bracket_of_window`.)  Hence a rejection by the judge of a real run is a behaviour the model does
not have. -/
theorem model_runs_pass_judge (limits : List Limit) (hm : HeadMax limits) (rs : List Readings)
    (hwf : wfReadings limits.length rs) (hmono : monoFrom 0 (flatReadings rs))
    (ev : List (Nat × Nat)) (hb : Brackets ev (run (init limits) rs).hist) :
    holds limits ev = true :=
  holds_of_window limits ev _ hb (hist_sorted limits rs hmono)
    (fun lim hl t => AcmedVerif.Props.C09.window_safe limits hm rs hwf hmono lim hl t)

/-- … starting from the configured limits as `RateLimit::new` receives them. -/
theorem configured_runs_pass_judge (raw limits : List Limit) (hmk : mkLimits raw = some limits)
    (rs : List Readings) (hwf : wfReadings limits.length rs)
    (hmono : monoFrom 0 (flatReadings rs))
    (ev : List (Nat × Nat)) (hb : Brackets ev (run (init limits) rs).hist) :
    holds raw ev = true := by
  have h := model_runs_pass_judge limits (AcmedVerif.Props.C09.mkLimits_headMax raw limits hmk) rs
    hwf hmono ev hb
  unfold holds at h ⊢
  rw [List.all_eq_true] at h ⊢
  intro l hl
  exact h l ((AcmedVerif.Props.C09.mkLimits_mem raw limits hmk l).mpr hl)

/-- **(b) On exact observations a rejection is a real violation.**  If the brackets are tight
(`call i = as[i] = ret i`) and the judge fails at index `i`, then admission `i + n` exists and the
window of length `p` ending at it holds more than `n` admissions. -/
theorem bracket_violation_is_real (n p : Nat) (ev : List (Nat × Nat)) (as : List Nat)
    (ht : Tight ev as) (hs : Sorted as) (i : Nat) (hfail : FailsAt ⟨n, p⟩ ev i) :
    ∃ h : i + n < as.length, n < inWindow as p as[i + n] := by
  obtain ⟨e, f, he, hf, hlt⟩ := hfail
  have hj : i + n < as.length := ht.1 ▸ (List.getElem?_eq_some_iff.mp hf).1
  have ha := List.getElem?_eq_getElem (Nat.lt_of_le_of_lt (Nat.le_add_right i n) hj)
  have hb := List.getElem?_eq_getElem hj
  have h1 := (ht.2 i e _ he ha).1
  have h2 := (ht.2 (i + n) f _ hf hb).2
  exact ⟨hj, segment_in_window hs p ha hb (h2 ▸ h1 ▸ hlt)⟩

/-- `rejection_is_real` for exact observations. -/
theorem bracket_false_is_real (n p : Nat) (ev : List (Nat × Nat)) (as : List Nat)
    (ht : Tight ev as) (hs : Sorted as) (hfalse : bracketOk ⟨n, p⟩ ev = false) :
    ∃ t, n < inWindow as p t :=
  rejection_is_real n p ev as (tight_brackets ht) hs hfalse

/-- Converse of (b), stated on its own: on exact observations every over-full window is caught. -/
theorem exact_judge_catches_violation (n p : Nat) (as : List Nat) (hs : Sorted as) (t : Nat)
    (h : n < inWindow as p t) : bracketOk ⟨n, p⟩ (exact as) = false := by
  rw [bracketOk_false_spec]
  obtain ⟨i, x, y, hx, hy, hlt⟩ := overfull_close hs n p t h
  exact ⟨i, (x, x), (y, y), by rw [exact_getElem?, hx]; rfl,
    by show (exact as)[i + n]? = _; rw [exact_getElem?, hy]; rfl, hlt⟩

/-- **The judge is exact on exact observations**: it accepts iff no window holds more than `n`
admissions.  (Tight brackets are brackets, so (a) gives the other direction.) -/
theorem judge_exact_on_exact_observations (n p : Nat) (ev : List (Nat × Nat)) (as : List Nat)
    (ht : Tight ev as) (hs : Sorted as) :
    bracketOk ⟨n, p⟩ ev = true ↔ ∀ t, inWindow as p t ≤ n := by
  constructor
  · intro hok t
    refine Nat.le_of_not_lt fun hgt => ?_
    have hf := exact_judge_catches_violation n p as hs t hgt
    rw [← tight_eq_exact ht, hok] at hf
    cases hf
  · exact bracket_of_window n p ev as (tight_brackets ht) hs

/-- **Monotonicity: wider brackets are judged more leniently.**  Moving any call earlier and any
return later (and dropping observations at the end) keeps an accepted observation accepted. -/
theorem bracketOk_widen (lim : Limit) (ev ev' : List (Nat × Nat)) (hw : Wider ev ev')
    (hok : bracketOk lim ev = true) : bracketOk lim ev' = true := by
  rw [bracketOk_spec] at hok ⊢
  intro i e' f' he' hf'
  have hi : i < ev.length := Nat.lt_of_lt_of_le (List.getElem?_eq_some_iff.mp he').1 hw.1
  have hj : i + lim.n < ev.length := Nat.lt_of_lt_of_le (List.getElem?_eq_some_iff.mp hf').1 hw.1
  have h1 := (hw.2 i ev[i] e' (List.getElem?_eq_getElem hi) he').1
  have h2 := (hw.2 (i + lim.n) ev[i + lim.n] f' (List.getElem?_eq_getElem hj) hf').2
  have := hok i ev[i] ev[i + lim.n] (List.getElem?_eq_getElem hi) (List.getElem?_eq_getElem hj)
  exact Nat.le_trans (Nat.add_le_add_right h1 _) (Nat.le_trans this h2)

theorem holds_widen (limits : List Limit) (ev ev' : List (Nat × Nat)) (hw : Wider ev ev')
    (hok : holds limits ev = true) : holds limits ev' = true := by
  unfold holds at hok ⊢
  rw [List.all_eq_true] at hok ⊢
  intro l hl
  exact bracketOk_widen l ev ev' hw (hok l hl)

/-- Hence a loose observation is never judged more strictly than the exact one would be: if the
admission instants themselves pass, every observation bracketing them passes. -/
theorem loose_is_more_lenient (lim : Limit) (ev : List (Nat × Nat)) (as : List Nat)
    (hb : Brackets ev as) (hok : bracketOk lim (exact as) = true) : bracketOk lim ev = true :=
  bracketOk_widen lim (exact as) ev (brackets_wider_exact hb) hok

theorem progressOk_mono (b b' : Nat) (hbb : b ≤ b') (ev : List (Nat × Nat))
    (hok : progressOk b ev = true) : progressOk b' ev = true := by
  unfold progressOk at hok ⊢
  rw [List.all_eq_true] at hok ⊢
  exact fun e he => decide_eq_true
    (Nat.le_trans (of_decide_eq_true (hok e he)) (Nat.add_le_add_left hbb _))

theorem progressOk_spec (b : Nat) (ev : List (Nat × Nat)) :
    progressOk b ev = true ↔ ∀ e ∈ ev, e.2 ≤ e.1 + b := by
  unfold progressOk
  rw [List.all_eq_true]
  constructor
  · intro h e he; simpa using h e he
  · intro h e he; simpa using h e he

/-- The admissions of the concrete run of `Props/C09.lean` (2 per 10 s, 3 per 60 s), observed with
slack on both sides: the hypotheses of `model_runs_pass_judge` hold and the judge accepts. -/
def exEv : List (Nat × Nat) :=
  [(99000000000, 100000000500), (100500000000, 101000000900), (102000000000, 111000001000)]

example : (run (init AcmedVerif.Props.C09.exLimits) AcmedVerif.Props.C09.exRs).hist =
    [100000000003, 101000000003, 111000000007] := by decide +kernel

example : holds AcmedVerif.Props.C09.exLimits exEv = true := by decide +kernel

/-- `Brackets` is satisfiable by that observation (checked index by index). -/
example : exEv.length = 3 ∧
    (exEv.zip [100000000003, 101000000003, 111000000007]).all
      (fun x => decide (x.1.1 ≤ x.2) && decide (x.2 ≤ x.1.2)) = true := by decide +kernel

/-- A real violation, seen exactly: three admissions within 3 ns under "2 per 10 ns".  The judge
rejects, and the window ending at the third admission holds 3 > 2. -/
example : bracketOk ⟨2, 10⟩ (exact [0, 1, 2]) = false ∧ inWindow [0, 1, 2] 10 2 = 3 := by decide +kernel

/-- The same admissions seen with enough slack are accepted: the judge is lenient, never unsound
(this is why the probe keeps call/return close to the admission). -/
example : bracketOk ⟨2, 10⟩ [(0, 0), (1, 1), (2, 10)] = true := by decide +kernel

example : bracketOk ⟨2, 10⟩ (exact [0, 1, 10, 11, 20]) = true ∧
    inWindow [0, 1, 10, 11, 20] 10 11 = 2 := by decide +kernel

/-- `Sorted` is needed for (b): with admissions out of order the exact judge can fail although no
window is over-full (`as = [5, 0]`, 1 per 3). -/
example : bracketOk ⟨1, 3⟩ (exact [5, 0]) = false ∧
    inWindow [5, 0] 3 0 = 1 ∧ inWindow [5, 0] 3 5 = 1 := by decide +kernel

example : progressOk 5 [(0, 3), (10, 15)] = true ∧ progressOk 4 [(0, 3), (10, 15)] = false := by
  decide +kernel

end AcmedVerif.Props.C09Judge
