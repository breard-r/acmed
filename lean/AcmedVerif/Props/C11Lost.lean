/-
C11 / C04 — a key roll-over the CA PROCESSED whose answer was LOST (5ce05e3, 1fb1c1a, d9d2cda).

The state after such an exchange: the CA holds the new (current) key, the endpoint record still
names the superseded one.  Before 5ce05e3 every later synchronisation — also after restarts — sent
the roll-over again, signed by the superseded key, and was refused: for ever
(`lost_rollover_wedged_preFix`, `…_forever`).  The working tree first asks the CA (a POST-as-GET of
the account signed by the recorded key); the refusal a failed signature verification produces is
followed by the same question signed by the current key, whose 2xx answer records the roll-over as
done: the next synchronisation against a conforming CA recovers, having sent exactly ONE request
that does not verify under the key on record (`lost_rollover_recovers`) — the one request no client
can avoid, since after an unanswered keyChange nobody knows which key the CA holds.

About `Model/Flow.lean` (`Flow.synchronize`), for EVERY world; through `C11Indep.sync_refines_flow`
about every endpoint of `Model/AccountMulti.lean`.  Lemmas in `Lemmas/Flow.lean`.
-/
import AcmedVerif.Lemmas.Flow
import AcmedVerif.Props.C11

namespace AcmedVerif.Props.C11Lost
open AcmedVerif.Flow

/-! ### A conforming CA, read off the trace

`heldMon` / `heldEnd` of `Lemmas/Flow.lean` replay what the CLIENT may assume: every key change
answered 2xx moves the key held, whoever signed it.  Here the CA itself is replayed: it moves only on a
key change signed by the key it holds, and its answers are checked against that key (`conforms`),
so a request signed by another key can be counted (`misSigned`) instead of being rejected. -/

/-- The key a conforming CA holds after one `kid` request: a key change signed by the key it holds
and answered 2xx makes it hold `cur`. -/
def heldNext (cur held : KeyId) (k : ReqKind) (s : KeyId) (r : ExRes) : KeyId :=
  if k == .keyChange && s == held && isOkRes r then cur else held

/-- Replays a conforming and responsive CA that holds `held` for the account over the
`kid`-authenticated requests of a trace (`cur` = the key a roll-over installs): a request signed by
the key it holds is answered 2xx; a request signed by any other key is refused with an error a
failed signature verification produces (`sigRefused`). -/
def conforms (cur : KeyId) : KeyId → List Ev → Bool
  | _, [] => true
  | held, .exch k a s r :: es =>
    match a with
    | .kid =>
      (if s == held then isOkRes r else r == .acmeErr .sigRefused) &&
        conforms cur (heldNext cur held k s r) es
    | _ => conforms cur held es
  | held, _ :: es => conforms cur held es

/-- The key that CA holds after the trace. -/
def heldAfter (cur : KeyId) : KeyId → List Ev → KeyId
  | held, [] => held
  | held, .exch k a s r :: es =>
    match a with
    | .kid => heldAfter cur (heldNext cur held k s r) es
    | _ => heldAfter cur held es
  | held, _ :: es => heldAfter cur held es

/-- Every hook group of the trace succeeded. -/
def hooksOk : List Ev → Bool
  | [] => true
  | .hooks _ ok :: es => ok && hooksOk es
  | _ :: es => hooksOk es

/-- Number of `kid`-authenticated requests NOT signed by the key the CA holds at that moment (same
replay as `conforms`). -/
def misSigned (cur : KeyId) : KeyId → List Ev → Nat
  | _, [] => 0
  | held, .exch k a s r :: es =>
    match a with
    | .kid => (if s == held then 0 else 1) + misSigned cur (heldNext cur held k s r) es
    | _ => misSigned cur held es
  | held, _ :: es => misSigned cur held es

theorem replay_append (cur : KeyId) (a b : List Ev) : ∀ held,
    conforms cur held (a ++ b) = (conforms cur held a && conforms cur (heldAfter cur held a) b) ∧
    misSigned cur held (a ++ b) = misSigned cur held a + misSigned cur (heldAfter cur held a) b := by
  induction a with
  | nil => intro held; simp [conforms, misSigned, heldAfter]
  | cons e tl ih =>
    intro held
    cases e with
    | exch k au s r =>
      cases au <;> simp [conforms, misSigned, heldAfter, ih, Bool.and_assoc, Nat.add_assoc]
    | _ => simp [conforms, misSigned, heldAfter, ih]

theorem hooksOk_append (a b : List Ev) : hooksOk (a ++ b) = (hooksOk a && hooksOk b) := by
  induction a with
  | nil => rfl
  | cons e tl ih => cases e <;> simp [hooksOk, ih, Bool.and_assoc]

theorem noexch_replay (cur : KeyId) {es : List Ev} (h : ∀ e ∈ es, NoExch e) (held : KeyId) :
    conforms cur held es = true ∧ heldAfter cur held es = held ∧ misSigned cur held es = 0 := by
  induction es with
  | nil => exact ⟨rfl, rfl, rfl⟩
  | cons e tl ih =>
    have he := h e List.mem_cons_self
    have := ih fun x hx => h x (List.mem_cons_of_mem _ hx)
    cases e with
    | exch => exact he.elim
    | _ => exact this

/-- An account save: its events are no exchanges; with successful hooks and scripts that do not run
out it returns, leaving the account and the script of answers as they were. -/
theorem saveAccount_good (w : World) :
    ∃ es, (saveAccount w).2.trace = w.trace ++ es ∧ (∀ e ∈ es, NoExch e) ∧
      (saveAccount w).2.acc = w.acc ∧ (saveAccount w).2.exs = w.exs ∧
      (hooksOk es = true → (saveAccount w).1.tag ≠ .stuck → (saveAccount w).1.tag = .ok) := by
  obtain ⟨ha, hx, _, _, _, h | h | h | ⟨b, h⟩⟩ := saveAccount_spec w
  · exact ⟨[], by rw [h.2]; simp, by simp, ha, hx, fun _ hn => absurd (by rw [h.1]; rfl) hn⟩
  · exact ⟨_, h.2.2, by simp [NoExch], ha, hx, fun hk _ => by simp [hooksOk] at hk⟩
  · exact ⟨_, h.2.2, by simp [NoExch], ha, hx, fun _ hn => absurd (by rw [h.1]; rfl) hn⟩
  · refine ⟨_, h.2.2, by simp [NoExch], ha, hx, fun hk _ => ?_⟩
    cases b
    · simp [hooksOk] at hk
    · rw [h.1]; rfl

/-! ### (a) the working tree recovers -/

/-- The roll-over block in the state "the CA holds the current key, the record names another one",
against a conforming CA: the query signed by the recorded key is refused, the query signed by the
current key is answered, the roll-over is recorded; no key change request. -/
theorem updateKey_recovers (w : World) (hp : w.acc.pastKeyKnown = true)
    (hne : (w.acc.recKey == w.acc.curKey) = false) :
    ∃ es1, (updateKey .current w).2.trace = w.trace ++ es1 ∧
      (conforms w.acc.curKey w.acc.curKey es1 = true → hooksOk es1 = true →
        (updateKey .current w).1.tag ≠ .stuck →
        (updateKey .current w).1.tag = .ok ∧ (updateKey .current w).2.acc = keyAcc w.acc ∧
        ∃ b rest, es1 = .exch .accountProbe .kid w.acc.recKey (.acmeErr .sigRefused) ::
          .exch .accountProbe .kid w.acc.curKey (.ok b) :: rest ∧ ∀ e ∈ rest, NoExch e) := by
  have hk : updateKey .current w = keyChangeChecked w := by
    rw [updateKey_run, if_pos hp]
    rfl
  rw [hk]
  -- the query signed by the recorded key: a CA that holds the current key answers it `sigRefused`
  have hfirst : ∀ p : ExRes, p ≠ .acmeErr .sigRefused → ∀ es',
      conforms w.acc.curKey w.acc.curKey (.exch .accountProbe .kid w.acc.recKey p :: es') = false := by
    intro p hps es'
    simp only [conforms, hne, Bool.false_eq_true, if_false, Bool.and_eq_false_iff]
    left
    simpa using hps
  rcases hx : w.exs with _ | ⟨p, rest⟩
  · rw [keyChangeChecked_run, hx]
    exact ⟨[], by simp, fun _ _ hn => absurd rfl hn⟩
  · by_cases hps : p = .acmeErr .sigRefused
    · subst hps
      rw [keyChangeChecked_run, hx]
      simp only
      rw [checkNewKey_run]
      rcases rest with _ | ⟨q, rest2⟩
      · exact ⟨[.exch .accountProbe .kid w.acc.recKey (.acmeErr .sigRefused)],
          by simp [World.afterExch, authOf], fun _ _ hn => absurd rfl hn⟩
      · have hcur : (w.afterExch .accountProbe w.acc.recKey (.acmeErr .sigRefused)
            (q :: rest2)).acc = w.acc := rfl
        simp only [World.afterExch] at hcur ⊢
        by_cases hq : isOkRes q = true
        · obtain ⟨b, rfl⟩ : ∃ b, q = .ok b := by
            cases q <;> first | exact ⟨_, rfl⟩ | cases hq
          simp only
          obtain ⟨es, he, hno, hacc, _, hgood⟩ := saveAccount_good
            (World.withAcc { w with exs := rest2, trace := w.trace ++
              [.exch .accountProbe (authOf .accountProbe) w.acc.recKey (.acmeErr .sigRefused)] ++
              [.exch .accountProbe (authOf .accountProbe) w.acc.curKey (.ok b)] } (keyAcc w.acc))
          refine ⟨.exch .accountProbe .kid w.acc.recKey (.acmeErr .sigRefused) ::
            .exch .accountProbe .kid w.acc.curKey (.ok b) :: es, ?_, ?_⟩
          · simp only [World.withAcc, List.append_assoc] at he ⊢
            rw [he]; simp [authOf]
          · intro _ hh hn
            have hh' : hooksOk es = true := by simpa [hooksOk] using hh
            exact ⟨hgood hh' hn, hacc, b, es, rfl, hno⟩
        · refine ⟨[.exch .accountProbe .kid w.acc.recKey (.acmeErr .sigRefused),
            .exch .accountProbe .kid w.acc.curKey q], ?_, ?_⟩
          · cases q <;> first | exact absurd rfl hq | simp [authOf]
          · intro hc
            have : isOkRes q = false := by simpa using hq
            simp [conforms, hne, heldNext, this] at hc
    · -- any other first answer: a conforming CA that holds the current key gives no such answer
      obtain ⟨es1, he1⟩ := keyChangeChecked_head hx
      refine ⟨_, he1, fun hc => ?_⟩
      rw [hfirst p hps] at hc
      cases hc

/-- The contact-update block against a conforming CA that holds the current key. -/
theorem updateContacts_conforming (w : World) :
    ∃ es2, (updateContacts w).2.trace = w.trace ++ es2 ∧
      (conforms w.acc.curKey w.acc.curKey es2 = true → hooksOk es2 = true →
        (updateContacts w).1.tag ≠ .stuck →
        (updateContacts w).1.tag = .ok ∧ (updateContacts w).2.acc = contactsAcc w.acc ∧
        ∃ b rest, es2 = .exch .accountUpdate .kid w.acc.curKey (.ok b) :: rest ∧
          ∀ e ∈ rest, NoExch e) := by
  rcases hx : w.exs with _ | ⟨r, rest⟩
  · rw [updateContacts_run, hx]
    exact ⟨[], by simp, fun _ _ hn => absurd rfl hn⟩
  · by_cases hr : isOkRes r = true
    · obtain ⟨b, rfl⟩ : ∃ b, r = .ok b := by
        cases r <;> first | exact ⟨_, rfl⟩ | cases hr
      rw [updateContacts_run, hx]
      simp only
      obtain ⟨es, he, hno, hacc, _, hgood⟩ := saveAccount_good
        ((w.afterExch .accountUpdate w.acc.curKey (.ok b) rest).withAcc (contactsAcc w.acc))
      refine ⟨.exch .accountUpdate .kid w.acc.curKey (.ok b) :: es, ?_, ?_⟩
      · exact he.trans (w.afterExch_append _ _ _ rest _)
      · intro _ hh hn
        have hh' : hooksOk es = true := by simpa [hooksOk] using hh
        exact ⟨hgood hh' hn, hacc, b, es, rfl, hno⟩
    · have hnr : isOkRes r = false := by simpa using hr
      obtain ⟨es, he⟩ := updateContacts_head hx
      refine ⟨_, he, fun hc => ?_⟩
      simp [conforms, hnr] at hc

/-- What a synchronisation in the state "the CA holds the new key, the record names the old one"
looks like against a conforming CA. -/
structure Recovered (w : World) (tag : Result) (w' : World) (es : List Ev) : Prop where
  ok : tag = .ok
  /-- the record names the current key, which the CA holds -/
  recorded : w'.acc.recKey = w.acc.curKey
  held : w'.acc.caKey = w.acc.curKey
  cur : w'.acc.curKey = w.acc.curKey
  /-- exactly one request was signed by a key the CA does not hold … -/
  one : misSigned w.acc.curKey w.acc.curKey es = 1
  /-- … the first one: the query of the account signed by the recorded (superseded) key, refused;
  the second request is that query signed by the current key, answered 2xx; everything that follows
  verifies under the key on record; and no key change request is sent -/
  shape : ∃ b rest, es = .exch .accountProbe .kid w.acc.recKey (.acmeErr .sigRefused) ::
      .exch .accountProbe .kid w.acc.curKey (.ok b) :: rest ∧
    misSigned w.acc.curKey w.acc.curKey rest = 0 ∧
    ∀ a s r, Ev.exch .keyChange a s r ∉ es

/-- **`lost_rollover_recovers`.**  From ANY state in which the CA holds the new key while the
record still names the old one (URL stored, binding unchanged, the old key still among the past
keys; contacts changed or not), with ANY scripts: if the CA's answers are those of a conforming CA
holding the current key (`conforms`), the file hooks succeed and no script runs out, the next
synchronisation of the working tree returns with the record naming the current key, having sent
exactly one request signed by the old key — the refused query of the account — and thereafter only
requests that verify under the key on record; no key change request is sent.  (`_hca` names the
state meant and is not used: the CA replayed is `conforms cur cur`, not the ghost `caKey`.) -/
theorem lost_rollover_recovers (w : World)
    (hu : w.acc.hasUrl = true) (hb : w.acc.bindingInSync = true) (hp : w.acc.pastKeyKnown = true)
    (hk : w.acc.keyInSync = false) (_hca : w.acc.caKey = w.acc.curKey) :
    ∃ es, (synchronize .current w).2.trace = w.trace ++ es ∧
      (conforms w.acc.curKey w.acc.curKey es = true → hooksOk es = true →
        (synchronize .current w).1.tag ≠ .stuck →
        Recovered w (synchronize .current w).1.tag (synchronize .current w).2 es) := by
  have hne : (w.acc.recKey == w.acc.curKey) = false := hk
  rw [sync_eq_keyFirst .current w hu hb rfl]
  simp only [hk, Bool.not_false, if_true]
  obtain ⟨es1, he1, hgood1⟩ := updateKey_recovers w hp hne
  -- what the first block's events amount to, once it is known to be the recovery
  have hrep : ∀ b rest, (∀ e ∈ rest, NoExch e) →
      es1 = .exch .accountProbe .kid w.acc.recKey (.acmeErr .sigRefused) ::
        .exch .accountProbe .kid w.acc.curKey (.ok b) :: rest →
      heldAfter w.acc.curKey w.acc.curKey es1 = w.acc.curKey ∧
      misSigned w.acc.curKey w.acc.curKey es1 = 1 ∧
      ∀ a s r, Ev.exch .keyChange a s r ∉ es1 := by
    intro b rest hno he
    obtain ⟨_, h2, h3⟩ := noexch_replay w.acc.curKey hno w.acc.curKey
    subst he
    refine ⟨by simp [heldAfter, heldNext, h2], by simp [misSigned, heldNext, hne, h3], ?_⟩
    intro a s r hm
    rcases List.mem_cons.mp hm with h | h
    · cases h
    · rcases List.mem_cons.mp h with h | h
      · cases h
      · exact hno _ h
  rcases bind_cases (updateKey .current) (fun _ =>
      if (!w.acc.contactsInSync) = true then updateContacts else pure ()) w with
    ⟨u, w1, e1, e2⟩ | ⟨hne1, e2, e3⟩
  · -- the roll-over block returned
    rw [e2]
    rw [e1] at he1 hgood1
    simp only at he1 hgood1
    cases hc : w.acc.contactsInSync
    · -- contacts changed too: the contact update, signed by the current key
      simp only [Bool.not_false, if_true]
      obtain ⟨es2, he2, hgood2⟩ := updateContacts_conforming w1
      refine ⟨es1 ++ es2, by rw [he2, he1, List.append_assoc], ?_⟩
      intro hcf hh hn
      rw [(replay_append ..).1, Bool.and_eq_true] at hcf
      rw [hooksOk_append, Bool.and_eq_true] at hh
      obtain ⟨_, hacc1, b, rest, hes1, hno1⟩ := hgood1 hcf.1 hh.1 (by simp)
      obtain ⟨hA, hM, hK⟩ := hrep b rest hno1 hes1
      have hcur1 : w1.acc.curKey = w.acc.curKey := by rw [hacc1]; rfl
      rw [hA, ← hcur1] at hcf
      obtain ⟨hok2, hacc2, b2, rest2, hes2, hno2⟩ := hgood2 hcf.2 hh.2 hn
      obtain ⟨_, _, h3⟩ := noexch_replay w.acc.curKey hno2 w.acc.curKey
      refine ⟨hok2, by rw [hacc2, hacc1]; rfl, by rw [hacc2, hacc1]; rfl,
        by rw [hacc2, hacc1]; rfl, ?_, b, rest ++ es2, by rw [hes1]; rfl, ?_, ?_⟩
      · rw [(replay_append ..).2, hM, hA, hes2, hcur1]
        simp [misSigned, heldNext, h3]
      · obtain ⟨_, h2', h3'⟩ := noexch_replay w.acc.curKey hno1 w.acc.curKey
        rw [(replay_append ..).2, h3', h2', hes2, hcur1]
        simp [misSigned, heldNext, h3]
      · intro a s r hm
        rcases List.mem_append.mp hm with h | h
        · exact hK a s r h
        · rw [hes2] at h
          rcases List.mem_cons.mp h with h | h
          · cases h
          · exact hno2 _ h
    · simp only [Bool.not_true, Bool.false_eq_true, if_false, pure_run]
      refine ⟨es1, he1, ?_⟩
      intro hcf hh _
      obtain ⟨_, hacc1, b, rest, hes1, hno1⟩ := hgood1 hcf hh (by simp)
      obtain ⟨_, hM, hK⟩ := hrep b rest hno1 hes1
      obtain ⟨_, _, h3'⟩ := noexch_replay w.acc.curKey hno1 w.acc.curKey
      exact ⟨rfl, by rw [hacc1]; rfl, by rw [hacc1]; rfl, by rw [hacc1]; rfl, hM, b, rest, hes1,
        h3', hK⟩
  · -- the roll-over block did not return: against a conforming CA it can only be stuck
    rw [e2, e3]
    refine ⟨es1, he1, ?_⟩
    intro hcf hh hn
    have := (hgood1 hcf hh hn).1
    exact absurd this hne1


/-- Non-vacuity: contacts changed as well; the conforming CA's answers are [refusal, 2xx, 2xx], the
four hook groups succeed. -/
example :
    let w : World := ⟨[.acmeErr .sigRefused, .ok .undecodable, .ok .undecodable],
      [true, true, true, true], [], ⟨none, none⟩, 0, true,
      ⟨true, false, true, true, 101, 100, 101, false⟩, []⟩
    conforms 101 101 (synchronize .current w).2.trace = true ∧
    hooksOk (synchronize .current w).2.trace = true ∧
    (synchronize .current w).1.tag = .ok ∧
    (synchronize .current w).2.acc = ⟨true, true, true, true, 101, 101, 101, true⟩ ∧
    misSigned 101 101 (synchronize .current w).2.trace = 1 := by
  decide +kernel

/-! ### (b) before 5ce05e3 the same state is a fixed point -/

/-- **`lost_rollover_wedged_preFix`.**  The tree before 5ce05e3 in the same state: the CA, holding
another key than the one that signs the roll-over request, refuses it (any ACME error other than
accountDoesNotExist; a conforming CA: `sigRefused`).  The synchronisation IS: that one request —
signed by the superseded key, it does not verify —, failure, the account exactly as it was. -/
theorem lost_rollover_wedged_preFix (w : World)
    (hu : w.acc.hasUrl = true) (hb : w.acc.bindingInSync = true) (hp : w.acc.pastKeyKnown = true)
    (hk : w.acc.keyInSync = false) (ty : ErrClass) (hty : ty ≠ .accountDoesNotExist)
    (rest : List ExRes) (hx : w.exs = .acmeErr ty :: rest) :
    synchronize .preFix w =
      (.fail .keyChange, w.afterExch .keyChange w.acc.recKey (.acmeErr ty) rest) := by
  rw [sync_eq_keyFirst .preFix w hu hb rfl]
  simp only [hk, Bool.not_false, if_true]
  have hkey : updateKey .preFix w =
      (.fail .keyChange, w.afterExch .keyChange w.acc.recKey (.acmeErr ty) rest) := by
    rw [updateKey_run, if_pos hp]
    show keyChangeStep false w = _
    rw [keyChangeStep_run, hx]
    cases ty with
    | accountDoesNotExist => exact absurd rfl hty
    | _ => rfl
  rw [bind_run, hkey]

/-- The request of `lost_rollover_wedged_preFix` seen by the replay of a conforming CA that holds
the current key: it is the conforming answer, and the request is mis-signed. -/
theorem wedged_request_is_missigned (rec cur : KeyId) (hne : (rec == cur) = false) :
    conforms cur cur [.exch .keyChange .kid rec (.acmeErr .sigRefused)] = true ∧
    misSigned cur cur [.exch .keyChange .kid rec (.acmeErr .sigRefused)] = 1 := by
  simp [conforms, misSigned, hne]

/-- `n` successive synchronisations of the tree before 5ce05e3 (the same daemon or restarts: what
is carried over is the account), the `i`-th with the scripts `sc i`: outcome, requests and other
events, the account afterwards. -/
def preFixRounds : Nat → (Nat → List ExRes × List Bool) → World → List (Result × List Ev × Acc)
  | 0, _, _ => []
  | n + 1, sc, w =>
    let r := synchronize .preFix { w with exs := (sc 0).1, hks := (sc 0).2, trace := [] }
    (r.1.tag, r.2.trace, r.2.acc) :: preFixRounds n (fun i => sc (i + 1)) r.2

/-- **For ever.**  However many synchronisations follow, as long as the CA keeps refusing the
request signed by the key it no longer holds: every one of them fails at the roll-over, sends that
one mis-signed request, and leaves the account as it was — the state is a fixed point. -/
theorem lost_rollover_wedged_preFix_forever (n : Nat) :
    ∀ (sc : Nat → List ExRes × List Bool) (w : World),
    w.acc.hasUrl = true → w.acc.bindingInSync = true → w.acc.pastKeyKnown = true →
    w.acc.keyInSync = false →
    (∀ i, ∃ ty rest, ty ≠ ErrClass.accountDoesNotExist ∧ (sc i).1 = .acmeErr ty :: rest) →
    ∀ x ∈ preFixRounds n sc w,
      x.1 = .failed .keyChange ∧ x.2.2 = w.acc ∧
      ∃ ty, x.2.1 = [.exch .keyChange .kid w.acc.recKey (.acmeErr ty)] := by
  induction n with
  | zero => intro sc w _ _ _ _ _ x hx; cases hx
  | succ n ih =>
    intro sc w hu hb hp hk hsc x hx
    obtain ⟨ty, rest, hty, h0⟩ := hsc 0
    have hrun := lost_rollover_wedged_preFix
      { w with exs := (sc 0).1, hks := (sc 0).2, trace := [] } hu hb hp hk ty hty rest h0
    simp only [preFixRounds, hrun, List.mem_cons] at hx
    rcases hx with rfl | hx
    · exact ⟨rfl, rfl, ty, rfl⟩
    · exact ih (fun i => sc (i + 1))
        (World.afterExch { w with exs := (sc 0).1, hks := (sc 0).2, trace := [] } .keyChange
          w.acc.recKey (.acmeErr ty) rest) hu hb hp hk (fun i => hsc (i + 1)) x hx

/-- Non-vacuity: three rounds. -/
example : (preFixRounds 3 (fun _ => ([.acmeErr .sigRefused], []))
    ⟨[], [], [], ⟨none, none⟩, 0, true, ⟨true, true, true, true, 101, 100, 101, true⟩, []⟩).map (·.1) =
      [.failed .keyChange, .failed .keyChange, .failed .keyChange] := by decide +kernel

/-! ### (c) how the two keys can come apart, and only so -/

/-- The CA's key and the recorded key stay in step through a synchronisation — whatever its outcome
— as long as no answer is LOST AFTER THE CA PROCESSED THE REQUEST (`ExRes.lost`). -/
def InStep : World → Result → World → Prop := fun w _ w' =>
  .lost ∉ w.exs → w.acc.caKey = w.acc.recKey →
    w'.acc.caKey = w'.acc.recKey ∧ .lost ∉ w'.exs ∧ w'.acc.curKey = w.acc.curKey

theorem InStep.law : Law InStep where
  refl := fun _ _ hn h => ⟨h, hn, rfl⟩
  trans := by
    intro w1 w2 w3 t h1 h2 hn h
    obtain ⟨a1, a2, a3⟩ := h1 hn h
    obtain ⟨b1, b2, b3⟩ := h2 a2 a1
    exact ⟨b1, b2, b3.trans a3⟩

theorem InStep.exchange (k : ReqKind) (s : KeyId) : Sat InStep (exchange k s) := by
  constructor; intro w; unfold Flow.exchange
  rcases hx : w.exs with _ | ⟨r, rest⟩
  · exact fun hn h => ⟨h, hn, rfl⟩
  · intro hn h
    rw [hx] at hn
    exact ⟨h, fun hm => hn (List.mem_cons_of_mem _ hm), rfl⟩

theorem InStep.hookGroup (ty : HookKind) : Sat InStep (hookGroup ty) := by
  constructor; intro w; unfold Flow.hookGroup
  cases w.hks <;> exact fun hn h => ⟨h, hn, rfl⟩

theorem InStep.emit (e : Ev) : Sat InStep (emit e) := ⟨fun _ hn h => ⟨h, hn, rfl⟩⟩

theorem InStep.saveAccount : Sat InStep saveAccount :=
  .writeFileHooks InStep.law (InStep.hookGroup _) (InStep.hookGroup _) _ (InStep.emit _)

/-- `InStep` may assume of an answer that it is not `lost`: the ghost effect of a lost answer is
never judged. -/
theorem InStep.acct : AcctSteps InStep (fun _ => True) (· ≠ .lost) where
  law := InStep.law
  exchange := fun k s _ => InStep.exchange k s
  exchThen := fun k s f _ hf => ⟨fun w => by
    rw [bind_run]
    unfold Flow.exchange
    rcases hx : w.exs with _ | ⟨r, rest⟩
    · exact fun hn h => ⟨h, hn, rfl⟩
    · intro hn h
      rw [hx] at hn
      have hr : r ≠ .lost := fun h => hn (by rw [h]; exact List.mem_cons_self)
      exact (hf r hr).run (w.afterExch k s r rest) (fun hm => hn (List.mem_cons_of_mem _ hm)) h⟩
  modAcc := fun f hc hs => ⟨fun w hn h => ⟨hs w.acc h, hn, hc w.acc⟩⟩
  ghostLost := fun _ _ h => absurd rfl h
  saveAccount := InStep.saveAccount

theorem InStep.register : Sat InStep register := InStep.acct.register trivial

theorem InStep.updateContacts : Sat InStep updateContacts :=
  InStep.acct.updateContacts trivial trivial

theorem InStep.synchronize (v : Variant) : Sat InStep (synchronize v) :=
  InStep.acct.synchronize trivial trivial trivial trivial v

/-- **The keys come apart only through a lost answer.**  From a state in which the CA holds the
recorded key, a synchronisation (any tree, any answers, any outcome — failures included) whose
script contains no answer "processed, then lost" ends with the CA holding the recorded key. -/
theorem keys_in_step_without_lost_answer (v : Variant) (w : World)
    (hn : .lost ∉ w.exs) (h : w.acc.caKey = w.acc.recKey) :
    (synchronize v w).2.acc.caKey = (synchronize v w).2.acc.recKey :=
  ((InStep.synchronize v).run w hn h).1

/-- **…and a lost answer to the roll-over request gives exactly the state of (a).**  The CA holds
the recorded key, answers the query of the account, processes the roll-over, and the answer is
lost: the synchronisation fails; every request it sent verified; afterwards the CA holds the
current key, the record names the old one, and everything else the hypotheses of
`lost_rollover_recovers` ask for is as before.  (`_hca` names the state meant and is not used: the
ghost `caKey` is written by the run, never read.) -/
theorem lost_answer_gives_pending (w : World)
    (hu : w.acc.hasUrl = true) (hb : w.acc.bindingInSync = true) (hp : w.acc.pastKeyKnown = true)
    (hk : w.acc.keyInSync = false) (_hca : w.acc.caKey = w.acc.recKey)
    (b : Body) (rest : List ExRes) (hx : w.exs = .ok b :: .lost :: rest) :
    (synchronize .current w).1.tag = .failed .keyChange ∧
    (synchronize .current w).2.trace = w.trace ++
      [.exch .accountProbe .kid w.acc.recKey (.ok b), .exch .keyChange .kid w.acc.recKey .lost] ∧
    misSigned w.acc.curKey w.acc.recKey
      [.exch .accountProbe .kid w.acc.recKey (.ok b), .exch .keyChange .kid w.acc.recKey .lost] = 0 ∧
    (synchronize .current w).2.acc = { w.acc with caKey := w.acc.curKey } := by
  rw [sync_eq_keyFirst .current w hu hb rfl]
  simp only [hk, Bool.not_false, if_true]
  have hkey : updateKey .current w = (.fail .keyChange,
      ((w.afterExch .accountProbe w.acc.recKey (.ok b) (.lost :: rest)).afterExch .keyChange
        w.acc.recKey .lost rest).withAcc (keyLostAcc w.acc)) := by
    rw [updateKey_run, if_pos hp]
    show keyChangeChecked w = _
    rw [keyChangeChecked_run, hx]
    simp only
    rw [keyChangeStep_run]
    rfl
  rw [bind_run, hkey]
  refine ⟨rfl, List.append_assoc w.trace [_] [_], ?_, rfl⟩
  simp [misSigned, heldNext, isOkRes]

/-- The two facts chained on a concrete history: CA and record agree on key 100; the roll-over to
101 is processed, its answer lost; the next synchronisation (conforming CA, now holding 101)
recovers with ONE mis-signed request, the first after the unanswered key change — which is also the
first request that gets an answer. -/
example :
    let w0 : World := ⟨[.ok .undecodable, .lost], [], [], ⟨none, none⟩, 0, true,
      ⟨true, true, true, true, 101, 100, 100, true⟩, []⟩
    let w1 : World := { (synchronize .current w0).2 with
      exs := [.acmeErr .sigRefused, .ok .undecodable], hks := [true, true], trace := [] }
    (synchronize .current w0).1.tag = .failed .keyChange ∧
    w1.acc = ⟨true, true, true, true, 101, 100, 101, true⟩ ∧
    (synchronize .current w1).1.tag = .ok ∧
    (synchronize .current w1).2.acc = ⟨true, true, true, true, 101, 101, 101, true⟩ ∧
    conforms 101 101 (synchronize .current w1).2.trace = true ∧
    misSigned 101 101 (synchronize .current w1).2.trace = 1 ∧
    (synchronize .current w1).2.trace.head? =
      some (.exch .accountProbe .kid 100 (.acmeErr .sigRefused)) := by
  decide +kernel

end AcmedVerif.Props.C11Lost
