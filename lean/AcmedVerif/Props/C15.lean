/-
C15 — JWK, thumbprint input and signature encodings are exact for every key (with the encoding
theorems C04 and C05 rest on: `sig_roundtrip`, `header_members`, `key_authorization_shape`,
`proof_tls_alpn_shape`, `parseDerConf_proof`).  Models: `Model/Bytes`, `Base64`, `Json`, `Jose`; judge:
`Spec/C15`.  All statements are for every input: no bound on lengths or values.
-/
import AcmedVerif.Model.Jose
import AcmedVerif.Spec.C15
import AcmedVerif.Lemmas.Bytes
import AcmedVerif.Lemmas.Base64
import AcmedVerif.Lemmas.Jose

namespace AcmedVerif.Props.C15
open AcmedVerif.Bytes AcmedVerif.Base64 AcmedVerif.Json AcmedVerif.Jose AcmedVerif.Spec.C15

/-! ## base64url (`acme_common::b64_encode`) -/

theorem b64url_def (bs : List UInt8) : encodeUrl bs = trimEndEq (translate (encodeStd bs)) := rfl

theorem b64url_direct (bs : List UInt8) : encodeUrl bs = encodeUrlDirect bs :=
  encodeUrl_eq_direct bs

/-- The strict decoder (no padding, no foreign character, no dangling bits) reads back every
encoding. -/
theorem b64url_roundtrip (bs : List UInt8) : decodeUrl (encodeUrl bs) = some bs := by
  rw [encodeUrl_eq_direct]; exact decodeUrl_encodeUrlDirect bs

theorem b64url_injective (a b : List UInt8) (h : encodeUrl a = encodeUrl b) : a = b := by
  have := b64url_roundtrip a
  rw [h, b64url_roundtrip b] at this
  exact (Option.some.inj this).symm

theorem b64url_decode_strict (s : List Char) (bs : List UInt8) :
    decodeUrl s = some bs ↔ s = encodeUrl bs := by
  constructor
  · intro h; rw [encodeUrl_eq_direct]; exact (decodeUrl_canonical s bs h).symm
  · intro h; rw [h]; exact b64url_roundtrip bs

/-- Only `[A-Za-z0-9_-]`; in particular never `=`, `+`, `/`. -/
theorem b64url_alphabet_nopad (bs : List UInt8) :
    ∀ c ∈ encodeUrl bs, InUrlAlphabet c ∧ c ≠ '=' ∧ c ≠ '+' ∧ c ≠ '/' :=
  forall_mem_encodeUrl (by decide +kernel) bs

theorem b64url_length (bs : List UInt8) : (encodeUrl bs).length = (4 * bs.length + 2) / 3 := by
  rw [encodeUrl_eq_direct]; exact length_encodeUrlDirect bs

theorem b64url_decode_rejects (s : List Char) :
    ((∃ c ∈ s, ¬ InUrlAlphabet c) → decodeUrl s = none) ∧ (s.length % 4 = 1 → decodeUrl s = none) := by
  constructor
  · intro ⟨c, hc, hn⟩
    cases h : decodeUrl s with
    | none => rfl
    | some bs =>
      rw [(b64url_decode_strict s bs).mp h] at hc
      exact absurd (b64url_alphabet_nopad bs c hc).1 hn
  · intro hl
    cases h : decodeUrl s with
    | none => rfl
    | some bs =>
      rw [(b64url_decode_strict s bs).mp h, b64url_length] at hl
      omega

theorem b64std_append (xs ys : List UInt8) (h : 3 ∣ xs.length) :
    encodeStd (xs ++ ys) = encodeStd xs ++ encodeStd ys := by
  obtain ⟨k, hk⟩ := h
  exact encodeStd_append_aux k xs ys hk

theorem b64url_append (xs ys : List UInt8) (h : 3 ∣ xs.length) :
    encodeUrl (xs ++ ys) = encodeUrl xs ++ encodeUrl ys := encodeUrl_append xs ys h

theorem wrap64_join (s : List Char) : (wrap64 s).flatten = s := wrap64_flatten s

/-! ## big-endian numbers (`BigNum::to_vec`, `to_vec_padded`) -/

theorem bytes_min_roundtrip (n : Nat) : toNat (ofNatMin n) = n := toNat_ofNatMin n

theorem bytes_min_no_leading_zero (n : Nat) : (ofNatMin n).head? ≠ some 0 := head?_ofNatMin n

/-- Fixed width: every number below `256^w` has a `w`-byte form with the same value (the
0.21.0 defect was `ofNatMin` in place of `ofNatFixed`, see `min_is_not_fixed`). -/
theorem bytes_fixed_roundtrip (w n : Nat) (h : n < 256 ^ w) :
    ∃ bs, ofNatFixed w n = some bs ∧ bs.length = w ∧ toNat bs = n := ofNatFixed_spec h

/-- The `to_vec_padded` error. -/
theorem bytes_fixed_refuses (w n : Nat) : ofNatFixed w n = none ↔ 256 ^ w ≤ n :=
  ofNatFixed_none_iff w n

/-- Witness of the 0.21.0 defect class: the minimal form of a coordinate with a zero top byte is
shorter than the curve width. -/
theorem min_is_not_fixed : ∃ n, n < 256 ^ 32 ∧ (ofNatMin n).length ≠ 32 :=
  ⟨1, by decide +kernel⟩

/-- `rsa_minimal`: the `n`/`e` members decode to the minimal big-endian form of the number. -/
theorem rsa_minimal (n : Nat) :
    ∃ bs, decodeUrl (encodeUrl (ofNatMin n)) = some bs ∧ toNat bs = n ∧ bs.head? ≠ some 0 :=
  ⟨ofNatMin n, b64url_roundtrip _, toNat_ofNatMin n, head?_ofNatMin n⟩

theorem curveInfo_cases {kt crv alg : List Char} {w : Nat} (h : curveInfo kt = some (crv, alg, w)) :
    (crv = "P-256".toList ∧ alg = "ES256".toList ∧ w = 32) ∨
    (crv = "P-384".toList ∧ alg = "ES384".toList ∧ w = 48) ∨
    (crv = "P-521".toList ∧ alg = "ES512".toList ∧ w = 66) := by
  unfold curveInfo at h
  split at h
  · cases h; exact .inl ⟨rfl, rfl, rfl⟩
  split at h
  · cases h; exact .inr (.inl ⟨rfl, rfl, rfl⟩)
  split at h
  · cases h; exact .inr (.inr ⟨rfl, rfl, rfl⟩)
  · cases h

/-- All that is used of a supported curve (signature length: RFC 7518 §3.4). -/
theorem curveInfo_names {kt crv alg : List Char} {w : Nat} (h : curveInfo kt = some (crv, alg, w)) :
    (escape crv = crv ∧ escape alg = alg) ∧ (noWs crv = true ∧ noWs alg = true) ∧
    sigLen alg = some (2 * w) := by
  rcases curveInfo_cases h with ⟨rfl, rfl, rfl⟩ | ⟨rfl, rfl, rfl⟩ | ⟨rfl, rfl, rfl⟩ <;> decide +kernel

/-! ## ECDSA signatures (`sign_ecdsa`, `get_ecdsa_sig_part!`) -/

/-- What C04 and `sig_lengths` rest on: for all `r`, `s` below `256^w` the signature is
`2w` bytes and splits back into `(r, s)`. -/
theorem sig_roundtrip (w r s : Nat) (hr : r < 256 ^ w) (hs : s < 256 ^ w) :
    ∃ sig, sigEncode w r s = some sig ∧ sig.length = 2 * w ∧ sigDecode w sig = some (r, s) :=
  sigEncode_spec hr hs

theorem sig_holds (w r s : Nat) (hr : r < 256 ^ w) (hs : s < 256 ^ w) :
    ∃ sig, sigEncode w r s = some sig ∧ holdsSig w r s sig = true := by
  obtain ⟨sig, h1, h2, h3⟩ := sigEncode_spec hr hs
  refine ⟨sig, h1, ?_⟩
  simp only [sigDecode, h2, if_true, Option.some.injEq, Prod.mk.injEq] at h3
  simp [holdsSig, h2, h3.1, h3.2]

theorem sig_lengths (kt crv alg : List Char) (w r s : Nat)
    (hk : curveInfo kt = some (crv, alg, w)) (hr : r < 256 ^ w) (hs : s < 256 ^ w) :
    ∃ sig, sigEncode w r s = some sig ∧ sigLen alg = some sig.length := by
  obtain ⟨sig, h1, h2, _⟩ := sigEncode_spec hr hs
  exact ⟨sig, h1, h2 ▸ (curveInfo_names hk).2.2⟩

/-! ## the EdDSA public key taken out of the PEM text (`get_eddsa_jwk`) -/

theorem okp_body_exact (der : List UInt8) : okpBody (pemPublic der) = encodeUrl der :=
  okpBody_pemPublic der

/-- For every key (any length) behind any 12-byte header, `x` is exactly `b64url(key)`, and the
`replace_range(..16, "")` guard holds. -/
theorem okp_x_exact_general (pre key : List UInt8) (h : pre.length = 12) :
    okpXFromPem (pemPublic (pre ++ key)) = encodeUrl key ∧
    okpXFromPemChecked (pemPublic (pre ++ key)) = some (encodeUrl key) :=
  okpX_of_prefix pre key h

/-- Instances of `okp_x_exact_general`; the length hypotheses are not used. -/
theorem okp_x_exact (key : List UInt8) (_h : key.length = 32) :
    okpXFromPem (pemPublic (spkiPrefixEd25519 ++ key)) = encodeUrl key :=
  (okpX_of_prefix spkiPrefixEd25519 key rfl).1

theorem okp_x_exact_ed448 (key : List UInt8) (_h : key.length = 57) :
    okpXFromPem (pemPublic (spkiPrefixEd448 ++ key)) = encodeUrl key :=
  (okpX_of_prefix spkiPrefixEd448 key rfl).1

/-- So the JWK the Rust code builds from the PEM text is the RFC 8037 one. -/
theorem okp_jwk_from_pem (crv : List Char) (pre key : List UInt8) (h : pre.length = 12)
    (thumb : Bool) : jwkOkpFromPem crv (pemPublic (pre ++ key)) thumb = jwkOkp crv key thumb := by
  unfold jwkOkpFromPem jwkOkp; rw [(okpX_of_prefix pre key h).1]

theorem okp_x_length (key : List UInt8) :
    (key.length = 32 → (encodeUrl key).length = 43) ∧
    (key.length = 57 → (encodeUrl key).length = 76) := by
  constructor <;> intro h <;> rw [b64url_length, h]

theorem escape_b64url (bs : List UInt8) : str (encodeUrl bs) = q (encodeUrl bs) :=
  str_eq_q (escape_encodeUrl bs)

/-- The literals of the three JWK families need no escaping. -/
theorem escape_lit_facts :
    escape "alg".toList = "alg".toList ∧ escape "crv".toList = "crv".toList ∧
    escape "kty".toList = "kty".toList ∧ escape "use".toList = "use".toList ∧
    escape "e".toList = "e".toList ∧ escape "n".toList = "n".toList ∧
    escape "x".toList = "x".toList ∧ escape "y".toList = "y".toList ∧
    escape "RS256".toList = "RS256".toList ∧ escape "RSA".toList = "RSA".toList ∧
    escape "sig".toList = "sig".toList ∧ escape "EC".toList = "EC".toList ∧
    escape "OKP".toList = "OKP".toList ∧ escape "EdDSA".toList = "EdDSA".toList := by decide +kernel

/-- RSA: the full form is `{"alg":"RS256","e":…,"kty":"RSA","n":…,"use":"sig"}`, the thumbprint
form `{"e":…,"kty":"RSA","n":…}`, character for character. -/
theorem jwk_members_exact_rsa (n e : List UInt8) (thumb : Bool) :
    jwkRsa n e thumb = rsaJwk (encodeUrl e) (encodeUrl n) thumb := by
  have plain : ∀ kv ∈ rsaKvs (encodeUrl e) (encodeUrl n) thumb,
      escape kv.1 = kv.1 ∧ escape kv.2 = kv.2 := by
    cases thumb <;>
      simp only [rsaKvs, Bool.false_eq_true, ↓reduceIte, List.forall_mem_cons,
        escape_encodeUrl, escape_lit_facts, and_self, List.not_mem_nil, false_imp_iff, implies_true]
  rw [rsaJwk, ← obj_eq_tmpl _ plain]
  cases thumb <;> rfl

theorem jwkEcBytes_eq (crv alg : List Char) (x y : List UInt8) (thumb : Bool)
    (hc : escape crv = crv) (ha : escape alg = alg) :
    jwkEcBytes crv alg x y thumb = ecJwk crv alg (encodeUrl x) (encodeUrl y) thumb := by
  have plain : ∀ kv ∈ ecKvs crv alg (encodeUrl x) (encodeUrl y) thumb,
      escape kv.1 = kv.1 ∧ escape kv.2 = kv.2 := by
    cases thumb <;>
      simp only [ecKvs, Bool.false_eq_true, ↓reduceIte, List.forall_mem_cons, hc, ha,
        escape_encodeUrl, escape_lit_facts, and_self, List.not_mem_nil, false_imp_iff, implies_true]
  rw [ecJwk, ← obj_eq_tmpl _ plain]
  cases thumb <;> rfl

theorem jwkEc_eq_some_iff {crv alg : List Char} {w x y : Nat} {thumb : Bool} {j : List Char} :
    jwkEc crv alg w x y thumb = some j ↔ ∃ xb yb, ofNatFixed w x = some xb ∧
      ofNatFixed w y = some yb ∧ jwkEcBytes crv alg xb yb thumb = j := by
  unfold jwkEc
  cases ofNatFixed w x <;> cases ofNatFixed w y <;> simp

/-- EC: the RFC 7518 §6.2 text, both coordinates of exactly `w` octets (`bytes_fixed_roundtrip`). -/
theorem jwk_members_exact_ec (kt crv alg : List Char) (w x y : Nat)
    (hk : curveInfo kt = some (crv, alg, w)) (hx : x < 256 ^ w) (hy : y < 256 ^ w) (thumb : Bool) :
    ∃ xb yb, xb.length = w ∧ toNat xb = x ∧ yb.length = w ∧ toNat yb = y ∧
      jwkEc crv alg w x y thumb = some (ecJwk crv alg (encodeUrl xb) (encodeUrl yb) thumb) := by
  obtain ⟨xb, hxb, hxl, hxv⟩ := ofNatFixed_spec hx
  obtain ⟨yb, hyb, hyl, hyv⟩ := ofNatFixed_spec hy
  have hc := (curveInfo_names hk).1
  exact ⟨xb, yb, hxl, hxv, hyl, hyv,
    jwkEc_eq_some_iff.2 ⟨xb, yb, hxb, hyb, jwkEcBytes_eq _ _ xb yb thumb hc.1 hc.2⟩⟩

/-- A coordinate that does not fit is an error, not a truncated JWK. -/
theorem jwkEc_refuses (crv alg : List Char) (w x y : Nat) (thumb : Bool)
    (h : 256 ^ w ≤ x ∨ 256 ^ w ≤ y) : jwkEc crv alg w x y thumb = none := by
  unfold jwkEc
  rcases h with h | h
  · rw [(ofNatFixed_none_iff w x).mpr h]
  · rw [(ofNatFixed_none_iff w y).mpr h]
    split <;> simp_all

theorem jwk_members_exact_okp (crv : List Char) (key : List UInt8) (thumb : Bool)
    (hc : escape crv = crv) : jwkOkp crv key thumb = okpJwk crv (encodeUrl key) thumb := by
  have plain : ∀ kv ∈ okpKvs crv (encodeUrl key) thumb, escape kv.1 = kv.1 ∧ escape kv.2 = kv.2 := by
    cases thumb <;>
      simp only [okpKvs, Bool.false_eq_true, ↓reduceIte, List.forall_mem_cons, hc,
        escape_encodeUrl, escape_lit_facts, and_self, List.not_mem_nil, false_imp_iff, implies_true]
  rw [okpJwk, ← obj_eq_tmpl _ plain]
  cases thumb <;> rfl

/-- The hypothesis of `jwk_members_exact_okp` for the two names acmed uses. -/
theorem okp_crv_plain :
    escape "Ed25519".toList = "Ed25519".toList ∧ escape "Ed448".toList = "Ed448".toList := by
  decide +kernel

/-- The member names of the templates are the RFC sets. -/
theorem jwk_member_sets (e n crv alg x y : List Char) :
    (rsaKvs e n false).map Prod.fst = fullMembers "RSA".toList ∧
    (rsaKvs e n true).map Prod.fst = requiredMembers "RSA".toList ∧
    (ecKvs crv alg x y false).map Prod.fst = fullMembers "EC".toList ∧
    (ecKvs crv alg x y true).map Prod.fst = requiredMembers "EC".toList ∧
    (okpKvs crv x false).map Prod.fst = fullMembers "OKP".toList ∧
    (okpKvs crv x true).map Prod.fst = requiredMembers "OKP".toList := by
  exact ⟨rfl, rfl, rfl, rfl, rfl, rfl⟩

theorem member_sets_sorted :
    sortedKeys (fullMembers "RSA".toList) = true ∧ sortedKeys (requiredMembers "RSA".toList) = true ∧
    sortedKeys (fullMembers "EC".toList) = true ∧ sortedKeys (requiredMembers "EC".toList) = true ∧
    sortedKeys (fullMembers "OKP".toList) = true ∧ sortedKeys (requiredMembers "OKP".toList) = true := by
  decide +kernel

/-- The judge accepts the model's output: RSA, EC, OKP. -/
theorem holdsRsa_model (n e : Nat) :
    holdsRsa n e (ofNatMin n) (ofNatMin e) (jwkRsaNat n e false) (jwkRsaNat n e true) = true := by
  have h1 := toNat_ofNatMin n
  have h2 := toNat_ofNatMin e
  have h3 := head?_ofNatMin n
  have h4 := head?_ofNatMin e
  simp [holdsRsa, isMinimal, jwkRsaNat, jwk_members_exact_rsa, h1, h2, h3, h4]

theorem holdsEc_model (kt crv alg : List Char) (w x y : Nat)
    (hk : curveInfo kt = some (crv, alg, w)) (hx : x < 256 ^ w) (hy : y < 256 ^ w) :
    ∃ xb yb jwk thumb, jwkEc crv alg w x y false = some jwk ∧ jwkEc crv alg w x y true = some thumb ∧
      holdsEc crv alg w x y xb yb jwk thumb = true := by
  obtain ⟨xb, hxb, hxl, hxv⟩ := ofNatFixed_spec hx
  obtain ⟨yb, hyb, hyl, hyv⟩ := ofNatFixed_spec hy
  have hc := (curveInfo_names hk).1
  refine ⟨xb, yb, _, _, jwkEc_eq_some_iff.2 ⟨xb, yb, hxb, hyb, rfl⟩,
    jwkEc_eq_some_iff.2 ⟨xb, yb, hxb, hyb, rfl⟩, ?_⟩
  simp [holdsEc, isFixed, hxl, hxv, hyl, hyv, jwkEcBytes_eq _ _ _ _ _ hc.1 hc.2]

theorem holdsOkp_model (crv : List Char) (key : List UInt8) (hc : escape crv = crv) :
    holdsOkp crv key (jwkOkp crv key false) (jwkOkp crv key true) = true := by
  simp [holdsOkp, jwk_members_exact_okp _ _ _ hc]

theorem thumbprint_canonical_rsa (n e : List UInt8) (thumb : Bool) :
    noWs (jwkRsa n e thumb) = true := by
  rw [jwk_members_exact_rsa, rsaJwk, noWs_tmpl]
  cases thumb <;>
    simp only [rsaKvs, Bool.false_eq_true, ↓reduceIte, List.all_cons, noWs_encodeUrl] <;>
    decide +kernel

theorem thumbprint_canonical_ec (crv alg : List Char) (x y : List UInt8) (thumb : Bool)
    (hc : escape crv = crv) (ha : escape alg = alg) (hcw : noWs crv = true) (haw : noWs alg = true) :
    noWs (jwkEcBytes crv alg x y thumb) = true := by
  rw [jwkEcBytes_eq _ _ _ _ _ hc ha, ecJwk, noWs_tmpl]
  cases thumb <;>
    simp only [ecKvs, Bool.false_eq_true, ↓reduceIte, List.all_cons, noWs_encodeUrl, hcw,
      haw] <;>
    decide +kernel

theorem thumbprint_canonical_okp (crv : List Char) (key : List UInt8) (thumb : Bool)
    (hc : escape crv = crv) (hcw : noWs crv = true) : noWs (jwkOkp crv key thumb) = true := by
  rw [jwk_members_exact_okp _ _ _ hc, okpJwk, noWs_tmpl]
  cases thumb <;>
    simp only [okpKvs, Bool.false_eq_true, ↓reduceIte, List.all_cons, noWs_encodeUrl, hcw] <;>
    decide +kernel

theorem thumbprint_canonical_ec_curve (kt crv alg : List Char) (w x y : Nat) (thumb : Bool)
    (j : List Char) (hk : curveInfo kt = some (crv, alg, w))
    (hj : jwkEc crv alg w x y thumb = some j) : noWs j = true := by
  obtain ⟨xb, yb, _, _, rfl⟩ := jwkEc_eq_some_iff.1 hj
  obtain ⟨⟨hc, ha⟩, ⟨hcw, haw⟩, _⟩ := curveInfo_names hk
  exact thumbprint_canonical_ec _ _ xb yb thumb hc ha hcw haw

/-- `jwk_members_exact`, all key families: the model's texts are the judge's RFC templates, whose
member names are exactly the RFC sets in sorted order. -/
theorem jwk_members_exact :
    (∀ (n e : List UInt8) (thumb : Bool), jwkRsa n e thumb = rsaJwk (encodeUrl e) (encodeUrl n) thumb) ∧
    (∀ (kt crv alg : List Char) (w x y : Nat) (thumb : Bool), curveInfo kt = some (crv, alg, w) →
      x < 256 ^ w → y < 256 ^ w →
      ∃ xb yb, xb.length = w ∧ toNat xb = x ∧ yb.length = w ∧ toNat yb = y ∧
        jwkEc crv alg w x y thumb = some (ecJwk crv alg (encodeUrl xb) (encodeUrl yb) thumb)) ∧
    (∀ (crv : List Char) (key : List UInt8) (thumb : Bool), escape crv = crv →
      jwkOkp crv key thumb = okpJwk crv (encodeUrl key) thumb) ∧
    (∀ e n crv alg x y : List Char,
      (rsaKvs e n false).map Prod.fst = fullMembers "RSA".toList ∧
      (rsaKvs e n true).map Prod.fst = requiredMembers "RSA".toList ∧
      (ecKvs crv alg x y false).map Prod.fst = fullMembers "EC".toList ∧
      (ecKvs crv alg x y true).map Prod.fst = requiredMembers "EC".toList ∧
      (okpKvs crv x false).map Prod.fst = fullMembers "OKP".toList ∧
      (okpKvs crv x true).map Prod.fst = requiredMembers "OKP".toList) :=
  ⟨jwk_members_exact_rsa,
   fun kt crv alg w x y thumb hk hx hy => jwk_members_exact_ec kt crv alg w x y hk hx hy thumb,
   jwk_members_exact_okp, jwk_member_sets⟩

/-- `thumbprint_canonical`, all key families: no white space; required members only
(`jwk_member_sets`), sorted. -/
theorem thumbprint_canonical :
    (∀ (n e : List UInt8), noWs (jwkRsa n e true) = true) ∧
    (∀ (kt crv alg : List Char) (w x y : Nat) (j : List Char), curveInfo kt = some (crv, alg, w) →
      jwkEc crv alg w x y true = some j → noWs j = true) ∧
    (∀ (crv : List Char) (key : List UInt8), escape crv = crv → noWs crv = true →
      noWs (jwkOkp crv key true) = true) ∧
    sortedKeys (requiredMembers "RSA".toList) = true ∧ sortedKeys (requiredMembers "EC".toList) = true ∧
    sortedKeys (requiredMembers "OKP".toList) = true :=
  ⟨fun n e => thumbprint_canonical_rsa n e true,
   fun kt crv alg w x y j hk hj => thumbprint_canonical_ec_curve kt crv alg w x y true j hk hj,
   fun crv key hc hw => thumbprint_canonical_okp crv key true hc hw,
   member_sets_sorted.2.1, member_sets_sorted.2.2.2.1, member_sets_sorted.2.2.2.2.2⟩

/-- `escape_no_raw_quote`: scanning the escaped text finds no bare `"` and no control character. -/
theorem escape_no_raw_quote (s : List Char) : wellEscaped (escape s) = true := wellEscaped_escape s

/-- Stronger: a JSON string reader gives back exactly the original string. -/
theorem escape_roundtrip (s : List Char) : unescape (escape s) = some s := unescape_escape s

/-- `header_members`: `{"alg":…[,"jwk":…][,"kid":…][,"nonce":…],"url":…}`: exactly these members, in
this order, the optional ones present iff given. -/
theorem header_members (alg : List Char) (jwk kid nonce : Option (List Char)) (url : List Char) :
    protectedHeader alg jwk kid nonce url =
      "{\"alg\":".toList ++ str alg
        ++ (match jwk with | some j => ",\"jwk\":".toList ++ j | none => [])
        ++ (match kid with | some k => ",\"kid\":".toList ++ str k | none => [])
        ++ (match nonce with | some n => ",\"nonce\":".toList ++ str n | none => [])
        ++ ",\"url\":".toList ++ str url ++ "}".toList := by
  have e1 : "{\"alg\":".toList = '{' :: (str "alg".toList ++ [':']) := by decide +kernel
  have e2 : ",\"jwk\":".toList = ',' :: (str "jwk".toList ++ [':']) := by decide +kernel
  have e3 : ",\"kid\":".toList = ',' :: (str "kid".toList ++ [':']) := by decide +kernel
  have e4 : ",\"nonce\":".toList = ',' :: (str "nonce".toList ++ [':']) := by decide +kernel
  have e5 : ",\"url\":".toList = ',' :: (str "url".toList ++ [':']) := by decide +kernel
  have e6 : "}".toList = ['}'] := by decide +kernel
  rw [e1, e2, e3, e4, e5, e6]
  cases jwk <;> cases kid <;> cases nonce <;>
    simp only [protectedHeader, optMember, obj, members, member, Option.map,
      List.append_assoc, List.cons_append, List.nil_append, List.append_nil]

/-- `{"protected":"…","payload":"…","signature":"…"}`. -/
theorem flattened_shape (p pl sg : List UInt8) :
    flattened (encodeUrl p) (encodeUrl pl) (encodeUrl sg) =
      "{\"protected\":\"".toList ++ encodeUrl p ++ "\",\"payload\":\"".toList ++ encodeUrl pl
        ++ "\",\"signature\":\"".toList ++ encodeUrl sg ++ "\"}".toList := by
  -- kernel evaluation of `"…".toList` is quadratic in the length; this gives the characters at once
  unfold flattened
  rw [escape_b64url, escape_b64url, escape_b64url]
  repeat rw [String.toList_ofList]
  simp only [obj, members, member, q, List.append_assoc, List.cons_append, List.nil_append]
  rfl

/-- The signing input has exactly one `.`, so it splits back uniquely. -/
theorem signingInput_shape (pj : List Char) (payload : List UInt8) :
    signingInput pj payload = encodeUrl (utf8 pj) ++ '.' :: encodeUrl payload ∧
    '.' ∉ encodeUrl (utf8 pj) ∧ '.' ∉ encodeUrl payload := by
  refine ⟨rfl, ?_, ?_⟩ <;>
  · intro h
    have := (b64url_alphabet_nopad _ _ h).1
    revert this; decide

theorem hash_length (m : List UInt8) : (Sha256.hash m).length = 32 := by
  simp only [Sha256.hash, Sha256.stBytes, Sha256.wordBytes, List.length_append, List.length_cons,
    List.length_nil]

/-- C05 `key_authorization_shape`. -/
theorem key_authorization_shape (token thumbInput : List Char) :
    keyAuthorization token thumbInput
      = token ++ ".".toList ++ encodeUrl (Sha256.hash (utf8 thumbInput)) ∧
    (encodeUrl (Sha256.hash (utf8 thumbInput))).length = 43 := by
  constructor
  · simp [keyAuthorization]
  · rw [b64url_length, hash_length]

theorem proof_http (token thumbInput : List Char) :
    proofHttp token thumbInput = keyAuthorization token thumbInput := rfl

theorem proof_dns (ka : List Char) :
    proofDns ka = encodeUrl (Sha256.hash (utf8 ka)) ∧ (proofDns ka).length = 43 := by
  refine ⟨rfl, ?_⟩
  unfold proofDns; rw [b64url_length, hash_length]

theorem hexColon_length (bs : List UInt8) : (hexColon bs).length = 3 * bs.length - 1 :=
  length_hexColon bs

/-- The tls-alpn-01 proof text C05 judges. -/
theorem proof_tls_alpn_shape (digest : List UInt8) (h : digest.length = 32) :
    proofTlsAlpn digest = "1.3.6.1.5.5.7.1.31=critical,DER:04:20:".toList ++ hexColon digest ∧
    (proofTlsAlpn digest).length = 133 := by
  suffices hs : proofTlsAlpn digest = _ from
    ⟨hs, by rw [hs, List.length_append, length_hexColon, h, String.toList_ofList]; rfl⟩
  unfold proofTlsAlpn proofTlsAlpnValue acmeExtName
  rw [h, hexMin2_32, String.toList_ofList, String.toList_ofList, String.toList_ofList]
  rfl

theorem raw_proof_tls_alpn (digest : List UInt8) : rawProofTlsAlpn digest = encodeUrl digest := rfl

theorem hexBytes_roundtrip (bs : List UInt8) : hexBytes (hexColon bs) = some bs :=
  hexBytes_hexColon bs

/-- What C05 and `C16Ext.ext_bytes_exact` rest on: OpenSSL's reading of the value is `critical` and
the DER OCTET STRING `04 20 ‖ digest`. -/
theorem parseDerConf_proof (digest : List UInt8) (h : digest.length = 32) :
    parseDerConf (proofTlsAlpnValue digest) = some (true, [0x04, 0x20] ++ digest) := by
  match digest, h with
  | d :: ds, h =>
    -- the value is `critical,DER:` followed by the hex text of `04 20 ‖ digest`
    unfold proofTlsAlpnValue parseDerConf
    rw [h, hexMin2_32, String.toList_ofList, String.toList_ofList, String.toList_ofList]
    change (match hexBytes (hexColon (0x04 :: 0x20 :: d :: ds)) with
      | some bs => some (true, bs) | none => none) = _
    rw [hexBytes_hexColon]; rfl

/-- … and `gen_certificate`'s split at `=` finds the OID and that value. -/
theorem splitExt_proof (digest : List UInt8) :
    splitExt (proofTlsAlpn digest) = some (acmeExtName, proofTlsAlpnValue digest) :=
  splitExt_proofTlsAlpn digest

/-! ## non-vacuity of the hypotheses above -/

/-- `3 ∣ xs.length` with a non-empty `xs` and a `ys` that needs padding. -/
example : encodeStd ([1, 2, 3] ++ [4]) = encodeStd [1, 2, 3] ++ encodeStd [4] :=
  b64std_append [1, 2, 3] [4] ⟨1, rfl⟩

/-- `n < 256 ^ w` with a leading zero byte (the rare case the 0.21.0 defect got wrong). -/
example : ofNatFixed 4 65537 = some [0, 1, 0, 1] := by decide +kernel

example : curveInfo "ecdsa-p256".toList = some ("P-256".toList, "ES256".toList, 32) := by
  decide +kernel
example : curveInfo "ecdsa-p384".toList = some ("P-384".toList, "ES384".toList, 48) := by
  decide +kernel
example : curveInfo "ecdsa-p521".toList = some ("P-521".toList, "ES512".toList, 66) := by
  decide +kernel
example : (1 : Nat) < 256 ^ 32 ∧ (2 ^ 255 + 19 : Nat) < 256 ^ 32 := by decide +kernel

/-- `sig_roundtrip` with a short `r` on P-256. -/
example : ∃ sig, sigEncode 32 1 (2 ^ 255 + 19) = some sig ∧ sig.length = 64 ∧
    sigDecode 32 sig = some (1, 2 ^ 255 + 19) :=
  sig_roundtrip 32 1 (2 ^ 255 + 19) (by decide) (by decide)

/-- a 32-byte key and a 57-byte key exist (`okp_x_exact`, `okp_x_exact_ed448`). -/
example : (List.replicate 32 (7 : UInt8)).length = 32 ∧ (List.replicate 57 (255 : UInt8)).length = 57 :=
  ⟨rfl, rfl⟩
example : spkiPrefixEd25519.length = 12 ∧ spkiPrefixEd448.length = 12 := ⟨rfl, rfl⟩
example : (List.replicate 32 (7 : UInt8)).length = 32 := rfl

/-- `escape crv = crv` for the names in use. -/
example : escape "Ed25519".toList = "Ed25519".toList ∧ noWs "Ed25519".toList = true := by
  decide +kernel

/-! ## tests (sample evaluations, NOT proofs of the general statements) -/

/-- test: RFC 4648 §10 vectors. -/
example : encodeStd (utf8 "foobar".toList) = "Zm9vYmFy".toList := by decide +kernel
example : encodeStd [0x66] = "Zg==".toList ∧ encodeStd [0x66, 0x6f] = "Zm8=".toList := by
  decide +kernel
/-- test: `jws.rs` `test_default_nopad_jwk`. -/
example : encodeUrl (utf8 "Dummy payload".toList) = "RHVtbXkgcGF5bG9hZA".toList := by
  rw [String.toList_ofList, String.toList_ofList]; decide +kernel
/-- test: strictness of the decoder. -/
example : decodeUrl "RHVtbXkgcGF5bG9hZA==".toList = none ∧ decodeUrl "RHVtbXkgcGF5bG9hZB".toList = none
    ∧ decodeUrl "A".toList = none ∧ decodeUrl "AA+A".toList = none
    ∧ decodeUrl "-_-_".toList = some [251, 255, 191] := by
  repeat rw [String.toList_ofList]
  decide +kernel
/-- test: FIPS 180-4 / NIST vectors `""` and `"abc"`, evaluated by the kernel. -/
example : Sha256.hash [] =
    [0xe3, 0xb0, 0xc4, 0x42, 0x98, 0xfc, 0x1c, 0x14, 0x9a, 0xfb, 0xf4, 0xc8, 0x99, 0x6f, 0xb9, 0x24,
     0x27, 0xae, 0x41, 0xe4, 0x64, 0x9b, 0x93, 0x4c, 0xa4, 0x95, 0x99, 0x1b, 0x78, 0x52, 0xb8, 0x55] := by
  decide +kernel
example : Sha256.hash [0x61, 0x62, 0x63] =
    [0xba, 0x78, 0x16, 0xbf, 0x8f, 0x01, 0xcf, 0xea, 0x41, 0x41, 0x40, 0xde, 0x5d, 0xae, 0x22, 0x23,
     0xb0, 0x03, 0x61, 0xa3, 0x96, 0x17, 0x7a, 0x9c, 0xb4, 0x10, 0xff, 0x61, 0xf2, 0x00, 0x15, 0xad] := by
  decide +kernel
/-- test: RFC 7638 §3.1 example thumbprint input shape (`e` = 65537). -/
example : jwkRsa [0xc0, 0xff, 0xee] [1, 0, 1] true
    = "{\"e\":\"AQAB\",\"kty\":\"RSA\",\"n\":\"wP_u\"}".toList := by
  rw [String.toList_ofList]; decide +kernel
/-- test: RFC 8037 §A.2 public key → `x`. -/
example : jwkOkp "Ed25519".toList
    [0xd7, 0x5a, 0x98, 0x01, 0x82, 0xb1, 0x0a, 0xb7, 0xd5, 0x4b, 0xfe, 0xd3, 0xc9, 0x64, 0x07, 0x3a,
     0x0e, 0xe1, 0x72, 0xf3, 0xda, 0xa6, 0x23, 0x25, 0xaf, 0x02, 0x1a, 0x68, 0xf7, 0x07, 0x51, 0x1a] true
    = "{\"crv\":\"Ed25519\",\"kty\":\"OKP\",\"x\":\"11qYAYKxCrfVS_7TyWQHOg7hcvPapiMlrwIaaPcHURo\"}".toList := by
  rw [String.toList_ofList, String.toList_ofList]; decide +kernel
/-- test: the JSON escaper on every class of character. -/
example : str "a\"b\\c\n\x01\x7f/é".toList = "\"a\\\"b\\\\c\\n\\u0001\x7f/é\"".toList := by
  rw [String.toList_ofList, String.toList_ofList]; decide +kernel
/-- test: OpenSSL's hex reader is lenient about colons and case, strict about odd digits. -/
example : hexBytes "::0A:ff:".toList = some [10, 255] ∧ hexBytes "0a:f".toList = none
    ∧ hexBytes "0a f0".toList = none := by decide +kernel
example : parseDerConf "DER:0401".toList = some (false, [4, 1])
    ∧ parseDerConf "critical, DER: 04:01".toList = some (true, [4, 1])
    ∧ parseDerConf "critical,ASN1:NULL".toList = none := by
  rw [String.toList_ofList, String.toList_ofList, String.toList_ofList]; decide +kernel

end AcmedVerif.Props.C15
