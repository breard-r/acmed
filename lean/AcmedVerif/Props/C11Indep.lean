/-
C11, clause "…the next renewal first brings the CA's record into line with the configuration (one
update per changed item, key roll-overs authorised by the key the CA currently holds, EACH ENDPOINT
INDEPENDENTLY)…".

About `Model/AccountMulti.lean`: the account with its map of endpoint records
(`account.rs:88-96`) and `Account::synchronize` for the endpoint named `e` (`account.rs:205-243`,
`acme_proto/account.rs`).  For EVERY account state (any number of endpoints), every script of CA
answers and hook exits, every variant unless stated.  Lemmas in `Lemmas/C11Indep.lean`.

What is per endpoint: the record `AccountEndpoint` (URLs and the three fingerprints).  What is per
ACCOUNT (`Shared`): `contacts`, `current_key`, `past_keys`, `external_account`.  `synchronize` never
writes the shared part (`sync_other_records_untouched`); only `Account::load` does
(`key_change_is_for_all_endpoints`), so after a key change EVERY endpoint needs its own roll-over,
and gets it at its own next synchronisation, authorised by the key its own CA holds
(`other_endpoint_brought_into_line_later`).
-/
import AcmedVerif.Model.AccountMulti
import AcmedVerif.Lemmas.C11Indep
import AcmedVerif.Props.C11

namespace AcmedVerif.Props.C11Indep
open AcmedVerif.AccountMulti
open AcmedVerif.Flow (Variant KeyId)

/-- **(a) Requests go to endpoint `e` only.**  Every request of the synchronisation of `e` is sent
through the `Endpoint` object `e`; an account creation to `e`'s `newAccount` URL with the key as
`jwk`; a roll-over to `e`'s `keyChange` URL; a contact update, and the queries of the account made
by the roll-over block (since 5ce05e3 / 1fb1c1a), to the URL they carry as `kid`. -/
theorem sync_requests_only_to_e (v : Variant) (e : EpName) (s : MWorld) :
    ∃ es, (synchronize v e s).2.log = s.log ++ es ∧ ∀ ev ∈ es, ReqOk e ev :=
  (ReqOk.synchronize v e).run s

/-- An endpoint the account has no record for: an error, nothing is sent, nothing changes
(`account.rs:206`). -/
theorem sync_unknown_endpoint (v : Variant) (e : EpName) (s : MWorld)
    (h : s.acct.getEndpoint e = none) : synchronize v e s = (.unknownEndpoint, s) :=
  synchronize_unknown v e s h

/-- An endpoint the account has a record for is never reported unknown, and stays known. -/
theorem sync_known_endpoint (v : Variant) (e : EpName) (s : MWorld) (h : Known e s.acct) :
    (synchronize v e s).1.tag ≠ .unknownEndpoint ∧ Known e (synchronize v e s).2.acct :=
  (KnownR.synchronize v e).run s h

/-- **(b) The records of the other endpoints are untouched**, whatever the outcome: the shared
fields (contacts, current key, past keys, binding) are unchanged; the map is the old one with the
FIRST entry named `e` replaced by a function of itself — same length, same names in the same order,
every entry with another name literally the same; in particular `get_endpoint(e')` is unchanged
for every `e' ≠ e`. -/
theorem sync_other_records_untouched (v : Variant) (e : EpName) (s : MWorld) :
    (synchronize v e s).2.acct.shared = s.acct.shared ∧
    (∃ g, (synchronize v e s).2.acct.endpoints = modFirst e g s.acct.endpoints) ∧
    (synchronize v e s).2.acct.endpoints.map (·.1) = s.acct.endpoints.map (·.1) ∧
    (∀ n r, n ≠ e → ((n, r) ∈ (synchronize v e s).2.acct.endpoints ↔ (n, r) ∈ s.acct.endpoints)) ∧
    (∀ e', e' ≠ e → (synchronize v e s).2.acct.getEndpoint e' = s.acct.getEndpoint e') := by
  obtain ⟨h1, ⟨g, h2⟩, _⟩ := (FrameR.synchronize v e).run s
  refine ⟨h1, ⟨g, h2⟩, ?_, ?_, ?_⟩
  · rw [h2, modFirst_names]
  · intro n r hn
    rw [h2]
    exact modFirst_mem_other g hn
  · intro e' he
    unfold Account.getEndpoint
    rw [h2, lookupEp_modFirst_other he]

/-- **(b′) The account file too.**  Whatever the synchronisation of `e` writes to disk (the whole
account is written, `account/storage.rs:143-174`) has the shared fields and the records of the other
endpoints that are in memory. -/
theorem sync_saved_file_keeps_others (v : Variant) (e : EpName) (s : MWorld) :
    (synchronize v e s).2.disk = s.disk ∨
    ∃ a, (synchronize v e s).2.disk = some a ∧ a.shared = s.acct.shared ∧
      ∀ e', e' ≠ e → a.getEndpoint e' = s.acct.getEndpoint e' := by
  obtain ⟨_, _, h3⟩ := (FrameR.synchronize v e).run s
  rcases h3 with h3 | ⟨a, g, h4, h5, h6⟩
  · exact .inl h3
  · refine .inr ⟨a, h4, h5, ?_⟩
    intro e' he
    unfold Account.getEndpoint
    rw [h6, lookupEp_modFirst_other he]

/-- **(c) The outcome for `e` does not depend on the other records.**  Two states with the same
scripts, the same log, the same shared fields and the same record for `e` — the records of all
other endpoints, their number, their order, and the file on disk being arbitrary on both sides —
give the same outcome, the same requests (the whole log), the same unused scripts, the same shared
fields and the same record for `e`. -/
theorem sync_outcome_independent_of_others (v : Variant) (e : EpName) (s1 s2 : MWorld)
    (hx : s1.exs = s2.exs) (hh : s1.hks = s2.hks) (hl : s1.log = s2.log)
    (hs : s1.acct.shared = s2.acct.shared)
    (he : s1.acct.getEndpoint e = s2.acct.getEndpoint e) :
    (synchronize v e s1).1 = (synchronize v e s2).1 ∧
    (synchronize v e s1).2.log = (synchronize v e s2).2.log ∧
    (synchronize v e s1).2.exs = (synchronize v e s2).2.exs ∧
    (synchronize v e s1).2.hks = (synchronize v e s2).2.hks ∧
    (synchronize v e s1).2.acct.shared = (synchronize v e s2).2.acct.shared ∧
    (synchronize v e s1).2.acct.getEndpoint e = (synchronize v e s2).2.acct.getEndpoint e := by
  obtain ⟨h0, h1, h2, h3, h4, h5⟩ :=
    (NI2.synchronize (RelE.prims e) v).run s1 s2 ⟨hx, hh, hl, hs, he⟩
  exact ⟨h0, h3, h1, h2, h4, h5⟩

/-- **Each endpoint independently** ((a), (b), (c) together). -/
theorem endpoints_independent (v : Variant) (e : EpName) (s : MWorld) :
    -- (a)
    (∃ es, (synchronize v e s).2.log = s.log ++ es ∧ ∀ ev ∈ es, ReqOk e ev) ∧
    -- (b)
    ((synchronize v e s).2.acct.shared = s.acct.shared ∧
     ∀ e', e' ≠ e → (synchronize v e s).2.acct.getEndpoint e' = s.acct.getEndpoint e') ∧
    -- (c)
    (∀ s2 : MWorld, s.exs = s2.exs → s.hks = s2.hks → s.log = s2.log →
      s.acct.shared = s2.acct.shared → s.acct.getEndpoint e = s2.acct.getEndpoint e →
      (synchronize v e s).1 = (synchronize v e s2).1 ∧
      (synchronize v e s).2.log = (synchronize v e s2).2.log ∧
      (synchronize v e s).2.acct.getEndpoint e = (synchronize v e s2).2.acct.getEndpoint e) := by
  refine ⟨sync_requests_only_to_e v e s, ?_, ?_⟩
  · have := sync_other_records_untouched v e s
    exact ⟨this.1, this.2.2.2.2⟩
  · intro s2 hx hh hl hs he
    have := sync_outcome_independent_of_others v e s s2 hx hh hl hs he
    exact ⟨this.1, this.2.1, this.2.2.2.2.2⟩

/-- The ghost (what each CA holds) is never read: two states that differ only in ghosts give the
same outcome, log and unused scripts, and accounts that differ only in ghosts. -/
theorem ghost_not_read (v : Variant) (e : EpName) (s1 s2 : MWorld) (h : RelG s1 s2) :
    (synchronize v e s1).1 = (synchronize v e s2).1 ∧
    RelG (synchronize v e s1).2 (synchronize v e s2).2 :=
  (NI2.synchronize (RelG.prims e) v).run s1 s2 h

/-- **A key change is one event for the whole account.**  `Account::load` with a changed key type
(`update_keys`, `account.rs:288-306`): the old current key is appended to `past_keys`, the new one
becomes current, no endpoint record is touched — so every endpoint whose record carries the
fingerprint of another key than the new one now has `key_changed` true, and the old key can be
found again by its fingerprint. -/
theorem key_change_is_for_all_endpoints (a : Account) (contacts : Nat) (fresh : KeyId)
    (eab : Option Nat) :
    (a.load contacts true fresh eab).endpoints = a.endpoints ∧
    (a.load contacts true fresh eab).shared.currentKey = fresh ∧
    (a.load contacts true fresh eab).shared.pastKeys = a.shared.pastKeys ++ [a.shared.currentKey] ∧
    (∀ e r k, a.getEndpoint e = some r → r.keyHash = some k → k ≠ fresh →
      (a.load contacts true fresh eab).getEndpoint e = some r ∧
      (viewAcc (a.load contacts true fresh eab).shared r).keyInSync = false) ∧
    (a.load contacts true fresh eab).getPastKey (some a.shared.currentKey) =
      some a.shared.currentKey := by
  refine ⟨rfl, rfl, rfl, ?_, ?_⟩
  · intro e r k hr hk hne
    refine ⟨hr, ?_⟩
    rw [view_keyInSync, hk]
    show (!(some k != some fresh)) = false
    simp [hne]
  · show (a.shared.pastKeys ++ [a.shared.currentKey]).find? (· == a.shared.currentKey) = _
    induction a.shared.pastKeys with
    | nil => simp
    | cons x rest ih =>
      by_cases hx : (x == a.shared.currentKey) = true
      · have : x = a.shared.currentKey := by simpa using hx
        simp [this]
      · simp [hx, ih]

/-- **The invariant `HeldAll`** — for every endpoint with an account URL: a key fingerprint is
recorded, the CA of that endpoint holds exactly that key, and the account still has that key
(current or past) — is kept by the synchronisation of ANY endpoint, whatever the outcome (failures
included), as long as no answer is LOST AFTER THE CA PROCESSED THE REQUEST (`NoLost`); by a (re)start
with any configuration edit; and by a new endpoint name; hence along any history without such an
answer. -/
theorem held_kept_by_sync (v : Variant) (e : EpName) (s : MWorld) (hn : NoLost s.exs)
    (h : HeldAll s.acct) : HeldAll (synchronize v e s).2.acct :=
  ((HeldR.synchronize v e).run s hn h).1

/-- **Without `NoLost` it is false** (what the ghost could not express before 5ce05e3: the CA's
record moves only when the client sees a 2xx): the CA of endpoint 1 processes the roll-over 100 → 101
and its answer is lost; the record still names key 100, the CA holds key 101. -/
theorem held_kept_by_sync_full_is_false :
    ∃ (s : MWorld), HeldAll s.acct ∧ ¬ HeldAll (synchronize .current 1 s).2.acct ∧
      (synchronize .current 1 s).1.tag = .failed .keyChange ∧
      ((synchronize .current 1 s).2.acct.getEndpoint 1).map (fun r => (r.keyHash, r.ca.key)) =
        some (some 100, 101) :=
  ⟨⟨⟨[(1, ⟨0, 11, 12, some 100, some 7, none, ⟨100, some 7⟩⟩)], ⟨7, 101, [100], none⟩⟩,
     [.okOther, .lost], [], [], none⟩,
   heldAllB_sound (by decide +kernel),
   by
    intro h
    obtain ⟨k, h1, h2, _⟩ := h 1 ⟨0, 11, 12, some 100, some 7, none, ⟨101, some 7⟩⟩
      (by decide +kernel) (by decide)
    simp only [Option.some.injEq] at h1
    subst h1
    exact absurd h2 (by decide),
   by decide +kernel, by decide +kernel⟩

/-- **With lost answers**: the weaker invariant `HeldPAll` — the CA holds the recorded key OR the
account's current key (a roll-over it processed whose answer was lost) — is kept by the
synchronisation of ANY endpoint with ANY answers. -/
theorem heldP_kept_by_sync (v : Variant) (e : EpName) (s : MWorld) (h : HeldPAll s.acct) :
    HeldPAll (synchronize v e s).2.acct :=
  (HeldPR.synchronize v e).run s h

/-- A new account (no account file) satisfies it, and so does it with any endpoint names added. -/
theorem held_of_new_account (contacts : Nat) (fresh : KeyId) (eab : Option Nat)
    (names : List EpName) :
    HeldAll (runOps (names.map .addEndpoint) (Account.create contacts fresh eab)) :=
  HeldAll.runOps (fun _ _ h => by cases h) _ (by
    intro op hop
    obtain ⟨n, _, rfl⟩ := List.mem_map.mp hop
    trivial)

theorem held_kept_by_load (a : Account) (h : HeldAll a) (contacts : Nat) (keyChanged : Bool)
    (fresh : KeyId) (eab : Option Nat) : HeldAll (a.load contacts keyChanged fresh eab) :=
  h.load contacts keyChanged fresh eab

theorem held_kept_by_history (a : Account) (h : HeldAll a) (ops : List Op)
    (hn : ∀ op ∈ ops, op.noLost) : HeldAll (runOps ops a) :=
  h.runOps ops hn

/-- **Roll-overs are authorised by the key the endpoint's own CA holds** (current order of the
updates, `v.keyFirst`).  When the record of `e` satisfies `Held`, the synchronisation of `e` sends
no keyChange request at all, or exactly one: through `e`, to `e`'s `keyChange` URL, `kid` = the
recorded account URL, signed by the key the CA of `e` holds — a past key of the account, different
from the current one; it is the first request, or (since 1fb1c1a) the second, after the query of the
account (through `e`, to the recorded account URL) signed by that same key. -/
theorem rollover_authorised_by_held_key (v : Variant) (hv : v.keyFirst = true) (e : EpName)
    (s : MWorld) (r0 : EpRec) (hk : s.acct.getEndpoint e = some r0)
    (hh : Held s.acct.shared r0) :
    ∃ es, (synchronize v e s).2.log = s.log ++ es ∧
      ((∀ ev ∈ es, NotKeyChange ev) ∨ ∃ a pre rest,
        es = pre ++ .req e .keyChange (.dirKeyChange e) r0.ca.key r0.accountUrl a :: rest ∧
        (pre = [] ∨ ∃ p, pre =
          [.req e .accountProbe (.url r0.accountUrl) r0.ca.key r0.accountUrl p]) ∧
        r0.ca.key ∈ s.acct.shared.pastKeys ∧ r0.ca.key ≠ s.acct.shared.currentKey ∧
        ∀ ev ∈ rest, NotKeyChange ev) := by
  obtain ⟨es, he, hs⟩ := synchronize_shape v hv e s r0 hk
  refine ⟨es, he, ?_⟩
  rcases hs with hs | ⟨old, g1, g2, g3, g4, hs | ⟨a, pre, rest, g5, g7, g6⟩⟩
  · exact .inl hs
  · exact .inl hs
  · obtain ⟨k, k1, k2, _⟩ := hh g4
    have : old = k := by rw [g1] at k1; exact Option.some.inj k1
    subst this
    rw [k2]
    exact .inr ⟨a, pre, rest, g5, g7, g2, g3, g6⟩

/-- **The record of `e` and its CA are brought into line** (current order of the updates).
Whenever the synchronisation of `e` returns (no `Location` header of the script being empty): the
record has an account URL, the fingerprints of the CURRENT key, of the configured contacts and of
the configured binding; and, `HeldAll` holding before, the CA of `e` holds the current key.
(Through `sync_refines_flow` and `Props.C11.sync_converges`.) -/
theorem sync_brings_into_line (v : Variant) (hv : v.keyFirst = true) (e : EpName) (s s' : MWorld)
    (r0 : EpRec) (u : Unit) (hk : s.acct.getEndpoint e = some r0)
    (hn : ∀ o ex, Ans.account ⟨some 0, o, ex⟩ ∉ s.exs) (hh : HeldAll s.acct) (hnl : NoLost s.exs)
    (hrun : synchronize v e s = (.val u, s')) :
    s'.acct.shared = s.acct.shared ∧
    ∃ r', s'.acct.getEndpoint e = some r' ∧ r'.accountUrl ≠ 0 ∧
      r'.keyHash = some s.acct.shared.currentKey ∧
      r'.contactsHash = some s.acct.shared.contacts ∧
      bindingChanged s.acct.shared r' = false ∧
      r'.ca.key = s.acct.shared.currentKey := by
  have hsh : s'.acct.shared = s.acct.shared := by
    have := (sync_other_records_untouched v e s).1
    rw [hrun] at this; exact this
  have hheld : HeldAll s'.acct := by
    have := held_kept_by_sync v e s hnl hh
    rw [hrun] at this; exact this
  have hsim := synchronize_sim v hv (simR_view hk hn)
    (by intro r hr; rw [hk] at hr; cases hr; rfl)
  rw [hrun] at hsim
  obtain ⟨⟨ht, _⟩, hr⟩ := hsim
  rcases hq : Flow.synchronize v (viewWorld s r0) with ⟨o', w'⟩
  rw [hq] at ht hr
  cases o' with
  | fail st => simp [Tag.abs] at ht
  | stuck => simp [Tag.abs] at ht
  | val u' =>
    obtain ⟨⟨c1, c2, c3, c4⟩, _, _⟩ := AcmedVerif.Props.C11.sync_converges v _ w' u' hq
    obtain ⟨r', hk', hacc'⟩ := hr.ep
    rw [hsh] at hacc'
    obtain ⟨hu, hkey, hct, hb⟩ := view_inLine hacc' c1 c2 c3 c4
    refine ⟨hsh, r', hk', hu, hkey, hct, hb, ?_⟩
    obtain ⟨k, k1, k2, _⟩ := hheld e r' hk' hu
    rw [hkey] at k1
    rw [k2, ← Option.some.inj k1]

/-- **After a key change, an endpoint whose CA still holds the old key is brought into line at ITS
next synchronisation, authorised by the key ITS CA holds** — whatever happened in between: the
synchronisation of other endpoints (first, successfully or not), further key changes, contact or
binding edits, restarts, new endpoints — as long as no answer was lost after the CA had processed
the request (`noLost`; for that case see `Props/C11Lost.lean`).  From an account satisfying `HeldAll` (e.g. a new one, or
one whose endpoints are all in line), after ANY history `ops`, for ANY endpoint `e'` with a record:
(1) its synchronisation sends no keyChange request, or exactly one, first, signed by the key the
CA of `e'` holds (`kid` = the recorded URL, through `e'`); (2) if it returns, the record of `e'` is
in line with the configuration and the CA of `e'` holds the current key. -/
theorem other_endpoint_brought_into_line_later (a : Account) (h : HeldAll a) (ops : List Op)
    (hnl : ∀ op ∈ ops, op.noLost)
    (v : Variant) (hv : v.keyFirst = true) (e' : EpName) (exs : List Ans) (hks : List Bool)
    (r0 : EpRec) (hk : (runOps ops a).getEndpoint e' = some r0)
    (hn : ∀ o ex, Ans.account ⟨some 0, o, ex⟩ ∉ exs) (hnx : NoLost exs) :
    (∃ es, (synchronize v e' ⟨runOps ops a, exs, hks, [], none⟩).2.log = es ∧
      ((∀ ev ∈ es, NotKeyChange ev) ∨ ∃ ans pre rest,
        es = pre ++ .req e' .keyChange (.dirKeyChange e') r0.ca.key r0.accountUrl ans :: rest ∧
        (pre = [] ∨ ∃ p, pre =
          [.req e' .accountProbe (.url r0.accountUrl) r0.ca.key r0.accountUrl p]) ∧
        r0.ca.key ∈ (runOps ops a).shared.pastKeys ∧
        r0.ca.key ≠ (runOps ops a).shared.currentKey ∧ ∀ ev ∈ rest, NotKeyChange ev)) ∧
    (∀ u s', synchronize v e' ⟨runOps ops a, exs, hks, [], none⟩ = (.val u, s') →
      ∃ r', s'.acct.getEndpoint e' = some r' ∧ r'.accountUrl ≠ 0 ∧
        r'.keyHash = some (runOps ops a).shared.currentKey ∧
        r'.contactsHash = some (runOps ops a).shared.contacts ∧
        bindingChanged (runOps ops a).shared r' = false ∧
        r'.ca.key = (runOps ops a).shared.currentKey) := by
  have hh := held_kept_by_history a h ops hnl
  constructor
  · obtain ⟨es, he, hs⟩ := rollover_authorised_by_held_key v hv e'
      ⟨runOps ops a, exs, hks, [], none⟩ r0 hk (hh e' r0 hk)
    exact ⟨es, by simpa using he, hs⟩
  · intro u s' hrun
    exact (sync_brings_into_line v hv e' ⟨runOps ops a, exs, hks, [], none⟩ s' r0 u hk hn hh hnx
      hrun).2

/-- **Seen from endpoint `e`, this model is `Model/Flow.lean`** (current order of the updates, no
empty `Location` header in the script): running `Flow.synchronize v` on the view of the state from
`e` (`viewWorld`) gives the same outcome, and its final world is the view of the final state from
`e`: the flags of the final record of `e` (all but the input flag `pastKeyKnown`), the unused
scripts, the trace (`MEv.abs` of the log).  So every theorem of `Props/C11.lean` about
`Flow.synchronize` speaks about each endpoint of the account. -/
theorem sync_refines_flow (v : Variant) (hv : v.keyFirst = true) (e : EpName) (s : MWorld)
    (r0 : EpRec) (hk : s.acct.getEndpoint e = some r0)
    (hn : ∀ o ex, Ans.account ⟨some 0, o, ex⟩ ∉ s.exs) :
    (synchronize v e s).1.tag.abs = (Flow.synchronize v (viewWorld s r0)).1.tag ∧
    (synchronize v e s).1.tag ≠ .unknownEndpoint ∧
    ∃ r', (synchronize v e s).2.acct.getEndpoint e = some r' ∧
      forgetPk (Flow.synchronize v (viewWorld s r0)).2.acc =
        forgetPk (viewAcc (synchronize v e s).2.acct.shared r') ∧
      (Flow.synchronize v (viewWorld s r0)).2.exs = (synchronize v e s).2.exs.map Ans.abs ∧
      (Flow.synchronize v (viewWorld s r0)).2.hks = (synchronize v e s).2.hks ∧
      (Flow.synchronize v (viewWorld s r0)).2.trace = (synchronize v e s).2.log.map MEv.abs := by
  obtain ⟨⟨h1, h2⟩, hr⟩ := synchronize_sim v hv (simR_view hk hn)
    (by intro r hr; rw [hk] at hr; cases hr; rfl)
  obtain ⟨r', g1, g2⟩ := hr.ep
  exact ⟨h1, h2, r', g1, g2, hr.exs, hr.hks, hr.trace⟩

/-- Contacts and key changed; the contact update (sent first before e0bc7c2) is answered
`accountDoesNotExist`, the re-registration succeeds. -/
def wOld : MWorld :=
  ⟨⟨[(1, ⟨0, 11, 12, some 100, some 7, none, ⟨100, some 7⟩⟩)], ⟨8, 101, [100], none⟩⟩,
   [.acmeErr .accountDoesNotExist, .account ⟨some 13, none, false⟩, .okOther],
   [true, true, true, true], [], none⟩

/-- **`sync_refines_flow` without `v.keyFirst` is false** (order of the updates before e0bc7c2):
after the re-registration the record carries the fingerprint of the CURRENT key, which
`get_past_key` does not find among the past keys — this model (like `update_account_key`, which
reads `ep.key_hash` when called) stops with "key not found", while `Model/Flow.lean`, whose flag
`pastKeyKnown` is an input that no step refreshes, goes on with a keyChange request.  The two
models agree on the current tree (`sync_refines_flow`); they differ on this historical variant. -/
theorem sync_refines_flow_old_is_false :
    ∃ (s : MWorld) (r0 : EpRec), s.acct.getEndpoint 1 = some r0 ∧
      (∀ o ex, Ans.account ⟨some 0, o, ex⟩ ∉ s.exs) ∧
      (synchronize .old 1 s).1.tag = .failed .pastKey ∧
      (Flow.synchronize .old (viewWorld s r0)).1.tag = .ok ∧
      (synchronize .old 1 s).1.tag.abs ≠ (Flow.synchronize .old (viewWorld s r0)).1.tag :=
  ⟨wOld, ⟨0, 11, 12, some 100, some 7, none, ⟨100, some 7⟩⟩, by decide +kernel,
    by intro o ex h; simp [wOld] at h, by decide +kernel, by decide +kernel, by decide +kernel⟩

/-- A CA that answers newAccount with an EMPTY `Location` header. -/
def wEmptyLoc : MWorld :=
  ⟨⟨[(1, EpRec.new)], ⟨7, 100, [], none⟩⟩, [.account ⟨some 0, none, false⟩], [true, true], [],
   none⟩

/-- **`sync_brings_into_line` without the side condition on `Location` is false**: `new_account`
(`acme_proto/http.rs:41-55`) only checks that the header is PRESENT; an empty one is stored as the
account URL, the synchronisation returns, and the endpoint still counts as not registered
(`account_url.is_empty()`, `account.rs:207`). -/
theorem sync_brings_into_line_empty_location_is_false :
    ∃ (s : MWorld) (r0 : EpRec), s.acct.getEndpoint 1 = some r0 ∧ HeldAll s.acct ∧
      (synchronize .current 1 s).1.tag = .ok ∧
      ((synchronize .current 1 s).2.acct.getEndpoint 1).map (·.accountUrl) = some 0 :=
  ⟨wEmptyLoc, EpRec.new, by decide +kernel, heldAllB_sound (by decide +kernel), by decide +kernel,
    by decide +kernel⟩

/-- Registered on endpoints 1 and 2 with key 100 and contacts 7; each CA holds key 100. -/
def acct0 : Account :=
  ⟨[(1, ⟨0, 11, 12, some 100, some 7, none, ⟨100, some 7⟩⟩),
    (2, ⟨0, 21, 22, some 100, some 7, none, ⟨100, some 7⟩⟩)], ⟨7, 100, [], none⟩⟩

/-- Restart with another key type in the configuration: new key 101. -/
def acct1 : Account := acct0.load 7 true 101 none

/-- The renewal on endpoint 1 comes first; its CA accepts the roll-over. -/
def w1 : MWorld := ⟨acct1, [.okOther, .okOther], [true, true], [], none⟩

/-- The same, except that endpoint 2 was never registered, a third endpoint exists, and the
file on disk is something else. -/
def w1' : MWorld :=
  ⟨⟨[(3, ⟨0, 31, 0, some 55, none, none, ⟨55, none⟩⟩), (2, EpRec.new),
     (1, ⟨0, 11, 12, some 100, some 7, none, ⟨100, some 7⟩⟩)], acct1.shared⟩,
   [.okOther, .okOther], [true, true], [], some acct0⟩

/-- Afterwards: endpoint 2's turn. -/
def w2 : MWorld :=
  ⟨(synchronize .current 1 w1).2.acct, [.okOther, .okOther], [true, true], [], none⟩

example : HeldAll acct0 := heldAllB_sound (by decide +kernel)

/-- `key_change_is_for_all_endpoints`: both endpoints now need a roll-over. -/
example : acct0.getEndpoint 2 = some ⟨0, 21, 22, some 100, some 7, none, ⟨100, some 7⟩⟩ ∧
    (100 : KeyId) ≠ 101 ∧
    (viewAcc acct1.shared ⟨0, 11, 12, some 100, some 7, none, ⟨100, some 7⟩⟩).keyInSync = false ∧
    (viewAcc acct1.shared ⟨0, 21, 22, some 100, some 7, none, ⟨100, some 7⟩⟩).keyInSync = false := by
  decide +kernel

/-- (a), (b): the synchronisation of endpoint 1 sends two requests, the query of the account and the
roll-over, through endpoint 1, both signed by the old key; the record of endpoint 2 is as before and still carries the old
fingerprint; the current key is shared and unchanged. -/
example :
    (synchronize .current 1 w1).1.tag = .ok ∧
    (synchronize .current 1 w1).2.log =
      [.req 1 .accountProbe (.url 11) 100 11 .okOther,
       .req 1 .keyChange (.dirKeyChange 1) 100 11 .okOther, .hooks .filePre true, .saveAccount,
       .hooks .filePost true] ∧
    (synchronize .current 1 w1).2.acct.getEndpoint 1 =
      some ⟨0, 11, 12, some 101, some 7, none, ⟨101, some 7⟩⟩ ∧
    (synchronize .current 1 w1).2.acct.getEndpoint 2 = acct1.getEndpoint 2 ∧
    (synchronize .current 1 w1).2.acct.getEndpoint 2 =
      some ⟨0, 21, 22, some 100, some 7, none, ⟨100, some 7⟩⟩ ∧
    (synchronize .current 1 w1).2.acct.shared = ⟨7, 101, [100], none⟩ ∧
    (synchronize .current 1 w1).2.disk = some (synchronize .current 1 w1).2.acct := by
  decide +kernel

/-- (c): the hypotheses of `sync_outcome_independent_of_others` hold of two different states, and
the conclusion is not trivial (a request is sent, the record of 1 changes). -/
example : w1.exs = w1'.exs ∧ w1.hks = w1'.hks ∧ w1.log = w1'.log ∧
    w1.acct.shared = w1'.acct.shared ∧ w1.acct.getEndpoint 1 = w1'.acct.getEndpoint 1 ∧
    w1.acct.getEndpoint 2 ≠ w1'.acct.getEndpoint 2 ∧ w1.disk ≠ w1'.disk ∧
    (synchronize .current 1 w1').2.log = (synchronize .current 1 w1).2.log ∧
    (synchronize .current 1 w1').2.acct.getEndpoint 1 =
      some ⟨0, 11, 12, some 101, some 7, none, ⟨101, some 7⟩⟩ ∧
    (synchronize .current 1 w1').2.acct.getEndpoint 2 = some EpRec.new := by
  decide +kernel

/-- `other_endpoint_brought_into_line_later`, `rollover_authorised_by_held_key`,
`sync_brings_into_line`: at ITS next synchronisation endpoint 2 — whose CA still holds key 100 —
sends the roll-over through endpoint 2, signed by key 100, with its own account URL as `kid`, and
ends with the fingerprint of key 101, its CA holding key 101. -/
example :
    w2.acct.getEndpoint 2 = some ⟨0, 21, 22, some 100, some 7, none, ⟨100, some 7⟩⟩ ∧
    (synchronize .current 2 w2).1.tag = .ok ∧
    (synchronize .current 2 w2).2.log =
      [.req 2 .accountProbe (.url 21) 100 21 .okOther,
       .req 2 .keyChange (.dirKeyChange 2) 100 21 .okOther, .hooks .filePre true, .saveAccount,
       .hooks .filePost true] ∧
    (synchronize .current 2 w2).2.acct.getEndpoint 2 =
      some ⟨0, 21, 22, some 101, some 7, none, ⟨101, some 7⟩⟩ ∧
    (synchronize .current 2 w2).2.acct.getEndpoint 1 =
      some ⟨0, 11, 12, some 101, some 7, none, ⟨101, some 7⟩⟩ := by
  decide +kernel

/-- A longer history: key change (101), endpoint 1 renews, SECOND key change (102), endpoint 1's
next synchronisation fails, a third endpoint is added; then endpoint 2 renews: one roll-over
100 → 102, signed by key 100 (the key its CA holds), and its CA ends with key 102. -/
def history : List Op :=
  [.load 7 true 101 none, .sync .current 1 [.okOther, .okOther] [true, true],
   .load 7 true 102 none, .sync .current 1 [.otherErr] [], .addEndpoint 3]

example :
    (runOps history acct0).getEndpoint 2 =
      some ⟨0, 21, 22, some 100, some 7, none, ⟨100, some 7⟩⟩ ∧
    (runOps history acct0).getEndpoint 1 =
      some ⟨0, 11, 12, some 101, some 7, none, ⟨101, some 7⟩⟩ ∧
    (runOps history acct0).shared = ⟨7, 102, [100, 101], none⟩ ∧
    (∀ o ex, Ans.account ⟨some 0, o, ex⟩ ∉ [Ans.okOther, Ans.okOther]) ∧
    (∀ op ∈ history, op.noLost) ∧
    (synchronize .current 2
      ⟨runOps history acct0, [.okOther, .okOther], [true, true], [], none⟩).1.tag = .ok ∧
    (synchronize .current 2
      ⟨runOps history acct0, [.okOther, .okOther], [true, true], [], none⟩).2.log.take 2 =
      [.req 2 .accountProbe (.url 21) 100 21 .okOther,
       .req 2 .keyChange (.dirKeyChange 2) 100 21 .okOther] ∧
    (synchronize .current 2
      ⟨runOps history acct0, [.okOther, .okOther], [true, true], [], none⟩).2.acct.getEndpoint 2 =
      some ⟨0, 21, 22, some 102, some 7, none, ⟨102, some 7⟩⟩ := by
  refine ⟨by decide +kernel, by decide +kernel, by decide +kernel, by simp, ?_, by decide +kernel,
    by decide +kernel, by decide +kernel⟩
  intro op hop
  simp only [history, List.mem_cons, List.mem_nil_iff, or_false] at hop
  rcases hop with rfl | rfl | rfl | rfl | rfl <;> simp [Op.noLost, NoLost]

/-- `sync_refines_flow`: its hypotheses hold of `w1`, and the `Flow` run is the roll-over. -/
example : w1.acct.getEndpoint 1 = some ⟨0, 11, 12, some 100, some 7, none, ⟨100, some 7⟩⟩ ∧
    (∀ o ex, Ans.account ⟨some 0, o, ex⟩ ∉ w1.exs) ∧
    (Flow.synchronize .current
      (viewWorld w1 ⟨0, 11, 12, some 100, some 7, none, ⟨100, some 7⟩⟩)).2.trace.take 2 =
      [.exch .accountProbe .kid 100 (.ok .undecodable),
       .exch .keyChange .kid 100 (.ok .undecodable)] := by
  refine ⟨by decide +kernel, ?_, by decide +kernel⟩
  intro o ex h
  simp [w1] at h

/-- `ghost_not_read`: two states that differ in a ghost only. -/
example : RelG w1 ⟨⟨[(1, ⟨0, 11, 12, some 100, some 7, none, ⟨5, none⟩⟩),
    (2, ⟨0, 21, 22, some 100, some 7, none, ⟨100, some 7⟩⟩)], acct1.shared⟩,
    [.okOther, .okOther], [true, true], [], none⟩ := by
  unfold RelG
  decide +kernel

/-- `sync_unknown_endpoint`, `sync_known_endpoint`. -/
example : w1.acct.getEndpoint 5 = none ∧ Known 1 w1.acct := by
  unfold Known
  decide +kernel

end AcmedVerif.Props.C11Indep
