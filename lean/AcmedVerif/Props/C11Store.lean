/-
C11, persistence clauses — "…everything needed for that (current and superseded keys, URLs,
fingerprints) survives a restart exactly.  A truncated or unreadable account file makes the daemon
refuse to start instead of replacing the identity."

Theorems about `Model/Bincode.lean` (the `bincode` image of `AccountStorage` and `fetch`); helper
lemmas in `Lemmas/Bincode.lean`.  Every statement is for ALL accounts: any number of endpoints,
contacts and past keys, any byte contents, any UTF-8 validity predicate `u`, any key / algorithm /
contact-type validators.  The only hypothesis on the account, `wfAccount u a`, says what every
in-memory Rust value satisfies: strings are valid UTF-8, lengths and counts fit `u64`, dates are
representable `SystemTime`s at or after the epoch.
-/
import AcmedVerif.Model.Bincode
import AcmedVerif.Spec.C11Store
import AcmedVerif.Lemmas.Bincode

namespace AcmedVerif.Props.C11Store
open AcmedVerif.Bincode AcmedVerif.Spec.C11Store

/-! ## Round trip -/

/-- Maps as maps: for every well-formed account and whatever follows its image, decoding returns
the account with its endpoint list replaced by the map built from it (insertion order, last value
wins), and leaves exactly the trailing bytes. -/
theorem bincode_roundtrip_general (u : Bytes → Bool) (a : Account) (rest : Bytes)
    (hwf : wfAccount u a = true) :
    decodeAccount u (encodeAccount a ++ rest) =
      some ({ a with endpoints := normMap a.endpoints }, rest) :=
  (good_account u a hwf).exact rest

/-- **Main round trip (clause C11.3).** A `HashMap` has distinct keys; then the decoded account is
EXACTLY the encoded one: name, every endpoint (URLs, fingerprints, dates), contacts, the current
key, every superseded key in order, the external account binding. -/
theorem bincode_roundtrip (u : Bytes → Bool) (a : Account) (rest : Bytes)
    (hwf : wfAccount u a = true) (hd : distinctKeys a.endpoints = true) :
    decodeAccount u (encodeAccount a ++ rest) = some (a, rest) := by
  have := bincode_roundtrip_general u a rest hwf
  rw [normMap_of_distinct a.endpoints hd] at this
  exact this

/-- What a restart sees: `fetch` on the file written by `save` yields the saved account, given
that its keys, algorithm names and contact types are ones `to_generic` accepts (they came from a
live account, so they are). -/
theorem restart_exact (P : Params) (a : Account) (hwf : wfAccount P.utf8Valid a = true)
    (hd : distinctKeys a.endpoints = true) (hg : toGenericOk P a = true) :
    load P (encodeAccount a) = .loaded a := by
  have := bincode_roundtrip P.utf8Valid a [] hwf hd
  rw [List.append_nil] at this
  simp [load, this, hg]

/-- Nothing is lost or merged by the encoding: two well-formed accounts with the same file are the
same account. -/
theorem encode_injective (u : Bytes → Bool) (a b : Account)
    (ha : wfAccount u a = true) (hb : wfAccount u b = true)
    (hda : distinctKeys a.endpoints = true) (hdb : distinctKeys b.endpoints = true)
    (h : encodeAccount a = encodeAccount b) : a = b := by
  have h1 := bincode_roundtrip u a [] ha hda
  have h2 := bincode_roundtrip u b [] hb hdb
  rw [h, h2] at h1
  simpa using h1.symm

/-! ## Truncation -/

/-- **Every truncation point (clause C11.4).** No strict prefix of an account image decodes. -/
theorem bincode_truncation (u : Bytes → Bool) (a : Account) (hwf : wfAccount u a = true)
    (p : Bytes) (hp : p <+: encodeAccount a) (hne : p ≠ encodeAccount a) :
    decodeAccount u p = none :=
  (good_account u a hwf).pfail p hp hne

/-- The same, by cut position. -/
theorem bincode_truncation_at (u : Bytes → Bool) (a : Account) (hwf : wfAccount u a = true)
    (n : Nat) (hn : n < (encodeAccount a).length) :
    decodeAccount u ((encodeAccount a).take n) = none := by
  apply bincode_truncation u a hwf _ (List.take_prefix n _)
  intro h
  have := congrArg List.length h
  rw [List.length_take] at this
  omega

/-- **A truncated account file is refused**, whatever the validators say. -/
theorem truncated_file_refused (P : Params) (a : Account) (hwf : wfAccount P.utf8Valid a = true)
    (p : Bytes) (hp : p <+: encodeAccount a) (hne : p ≠ encodeAccount a) :
    load P p = .refuse := by
  simp [load, bincode_truncation P.utf8Valid a hwf p hp hne]

/-- A file that exists is never treated as "no account yet": `fetch` either loads it or fails, so
`Account::load` cannot reach the branch that creates a fresh identity. -/
theorem present_file_never_replaced (P : Params) (bytes : Bytes) :
    fetch P (.data bytes) ≠ .noAccount := by
  simp only [fetch]
  cases load P bytes <;> simp

theorem unreadable_file_refused (P : Params) : fetch P .unreadable = .refuse := rfl

/-- Truncated file, end to end: start-up fails (and therefore nothing is written). -/
theorem truncated_file_fetch_refused (P : Params) (a : Account)
    (hwf : wfAccount P.utf8Valid a = true)
    (p : Bytes) (hp : p <+: encodeAccount a) (hne : p ≠ encodeAccount a) :
    fetch P (.data p) = .refuse := by
  simp [fetch, truncated_file_refused P a hwf p hp hne]

/-- Any file `bincode` cannot decode is refused. -/
theorem undecodable_file_refused (P : Params) (bytes : Bytes)
    (h : decodeAccount P.utf8Valid bytes = none) : load P bytes = .refuse := by
  simp [load, h]

/-! ## Trailing bytes -/

/-- `bincode::deserialize` allows trailing bytes: whatever follows a complete image is ignored. -/
theorem trailing_bytes_ignored (P : Params) (a : Account) (junk : Bytes)
    (hwf : wfAccount P.utf8Valid a = true) :
    load P (encodeAccount a ++ junk) = load P (encodeAccount a) := by
  have h1 := bincode_roundtrip_general P.utf8Valid a junk hwf
  have h2 := bincode_roundtrip_general P.utf8Valid a [] hwf
  rw [List.append_nil] at h2
  simp [load, h1, h2]

/-- Why the missing `truncate` on rewrite (before the repair) did not corrupt accounts: a shorter
new image followed by the tail of the old, longer one still loads as the NEW account. -/
theorem stale_tail_loads_new (P : Params) (new old : Account)
    (hwf : wfAccount P.utf8Valid new = true) (hd : distinctKeys new.endpoints = true)
    (hg : toGenericOk P new = true) :
    load P (encodeAccount new ++ (encodeAccount old).drop (encodeAccount new).length) =
      .loaded new := by
  rw [trailing_bytes_ignored P new _ hwf]
  exact restart_exact P new hwf hd hg

/-! ## Size -/

/-- The size of the account file. -/
theorem length_formula (a : Account) : (encodeAccount a).length = sizeAccount a :=
  encodeAccount_length a

/-! ## The model's behaviour satisfies the judge -/

theorem model_restart_meets_spec (P : Params) (a : Account)
    (hwf : wfAccount P.utf8Valid a = true) (hd : distinctKeys a.endpoints = true)
    (hg : toGenericOk P a = true) :
    holds (.restart a (dumpOf (load P (encodeAccount a)))) = true := by
  rw [restart_exact P a hwf hd hg]
  exact sameAccount_refl a hd

/-- A start on a truncated file reads it, fails, and writes nothing. -/
theorem model_truncation_meets_spec (P : Params) (a : Account)
    (hwf : wfAccount P.utf8Valid a = true) (p : Bytes) :
    holds (.truncated (encodeAccount a)
      { fileBefore := p, outcome := outcomeOf (load P p), fileAfter := p }) = true := by
  simp only [holds, holdsTruncated, Bool.or_eq_true, Bool.not_eq_true']
  cases hs : isStrictPrefix p (encodeAccount a) with
  | false => exact Or.inl rfl
  | true =>
    right
    obtain ⟨hp, hne⟩ := (isStrictPrefix_iff _ _).mp hs
    simp [refusedUntouched, truncated_file_refused P a hwf p hp hne, outcomeOf]

/-! ## Non-vacuity: the hypotheses hold of a concrete, non-trivial account -/

/-- Two endpoints, one contact, one superseded key, an external account binding, a non-ASCII
name ("hé"). -/
def demo : Account :=
  { name := [0x68, 0xC3, 0xA9]
    endpoints := [
      ([0x6C, 0x65], { creation := ⟨1700000000, 123456789⟩, accountUrl := [0x68, 0x74, 0x74, 0x70],
                       ordersUrl := [], keyHash := [1, 2, 3], contactsHash := [4], eabHash := [] }),
      ([0x62], { creation := ⟨0, 0⟩, accountUrl := [], ordersUrl := [], keyHash := [],
                 contactsHash := [], eabHash := [] })]
    contacts := [([0x6D, 0x61, 0x69, 0x6C, 0x74, 0x6F], [0x61, 0x40, 0x62])]
    currentKey := { creation := ⟨1700000001, 0⟩, key := [0x30, 0x03, 1, 2, 3],
                    alg := [0x45, 0x53, 0x32, 0x35, 0x36] }
    pastKeys := [{ creation := ⟨1600000000, 999999999⟩, key := [0x30, 0x00],
                   alg := [0x52, 0x53, 0x32, 0x35, 0x36] }]
    eab := some { identifier := [0x6B], key := [9, 9], alg := [0x48, 0x53, 0x32, 0x35, 0x36] } }

def demoParams : Params := stdParams (fun k => k.head? == some 0x30)

example : wfAccount demoParams.utf8Valid demo = true := by decide +kernel
example : distinctKeys demo.endpoints = true := by decide +kernel
example : toGenericOk demoParams demo = true := by decide +kernel
example : (encodeAccount demo).length = 297 := by rw [length_formula]; decide +kernel
/-- A cut in the middle of the file, and a cut that removes only the last byte. -/
example : load demoParams ((encodeAccount demo).take 150) = .refuse :=
  undecodable_file_refused _ _ (bincode_truncation_at _ demo (by decide +kernel) 150
    (by rw [length_formula]; decide +kernel))
example : load demoParams ((encodeAccount demo).take 296) = .refuse :=
  undecodable_file_refused _ _ (bincode_truncation_at _ demo (by decide +kernel) 296
    (by rw [length_formula]; decide +kernel))
example : load demoParams (encodeAccount demo ++ [0xFF, 0xFF]) = .loaded demo := by
  rw [trailing_bytes_ignored _ _ _ (by decide +kernel)]
  exact restart_exact _ _ (by decide +kernel) (by decide +kernel) (by decide +kernel)
/-- Duplicate keys (impossible for a `HashMap`, possible in a hand-made file): last value wins, so
the exact statement needs `distinctKeys`. -/
example : normMap [([1], 10), ([2], 20), ([1], 30)] = [([1], 30), ([2], 20)] := by decide +kernel
/-- A bad tag for the `Option`, a key `to_generic` rejects: both refused. -/
example : load demoParams ((encodeAccount { demo with eab := none }).dropLast ++ [2]) = .refuse := by
  decide +kernel
/-- The limit of the clause: the format has no checksum, so damage that is not a truncation can go
unnoticed — here one flipped byte inside a superseded key's DER gives a file that loads, as a
different account.  The property (and `bincode_truncation`) is about truncation only. -/
example : (match load demoParams ((encodeAccount demo).set 250 0x31) with
    | .loaded b => b != demo
    | .refuse => false) = true := by
  decide +kernel
example : load demoParams
    (encodeAccount { demo with currentKey := { demo.currentKey with key := [0x31] } }) = .refuse := by
  decide +kernel

end AcmedVerif.Props.C11Store
