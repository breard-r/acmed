/-
The repaired defects, machine-checked: for each `fix:` commit of /repo that changed behaviour under
C19, C14 or C02,
  * `<name>_old_is_false`            the property's judge (`Spec.Cxx`) is FALSE on what the code before
                                     the commit (Model/OldVariants.lean) does on a concrete witness
                                     (the witnesses are observations a–e, l, m of DESIGN.md §1 and the
                                     `fixed:` lines of known-findings.txt);
  * `<name>_new_is_true_on_witness`  the current model satisfies the judge on the same witness;
  * a general statement relating old and new (`*_old_eq_new_*`, `*_old_*eq_new*`: they agree outside the
    defect's class); its name follows the function compared, not the witness.
The relations for 537f12e / a9033b3 (nesting limits, budget) are in Props/C19Depth.lean
(`expandHookD_none_result`, `*_only_add_limit_errors`, `limits_conservative`, the families of its section (d)).
Audited per property by Audit/C19Old.lean, Audit/C14Old.lean, Audit/C02Old.lean.
-/
import AcmedVerif.Lemmas.OldVariants
import AcmedVerif.Lemmas.Storage
import AcmedVerif.Spec.C19
import AcmedVerif.Spec.C02
import AcmedVerif.Props.C09
import AcmedVerif.Props.C14

namespace AcmedVerif.Props.OldVariants
open AcmedVerif AcmedVerif.OldVariants

/-! # C19 -/

section C19
open AcmedVerif.Spec.C19 AcmedVerif.Period

/-! ## 27b8611 — `parse_duration`: overflow panicked (observation c) -/

def periodObs : Period.Outcome → PeriodObs
  | .ok v => .accepted v
  | .reject => .rejected
  | .panicMul => .crashed
  | .panicAdd => .crashed

def wMul : List Char := "30500568904944w".toList
def wAdd : List Char := "18446744073709551615s18446744073709551615s".toList

/-- **Before 27b8611 the C19 period judge fails.**  `30500568904944w`: the product overflows —
panic in the dev profile; in release it wraps and the string is ACCEPTED with the value 579584 s,
which is not the sum of its parts.  `18446744073709551615s18446744073709551615s`: `Duration +=`
panics in every profile. -/
theorem parse_duration_old_is_false :
    parseDurationOld .dev wMul = .panicMul ∧
    periodHolds wMul (periodObs (parseDurationOld .dev wMul)) = false ∧
    parseDurationOld .release wMul = .ok 579584 ∧
    periodHolds wMul (periodObs (parseDurationOld .release wMul)) = false ∧
    (∀ p, parseDurationOld p wAdd = .panicAdd) ∧
    (∀ p, periodHolds wAdd (periodObs (parseDurationOld p wAdd)) = false) := by
  -- the kernel evaluates `"…".toList` in time quadratic in the literal; this hands it the characters
  have hM : wMul = _ := String.toList_ofList
  have hA : wAdd = _ := String.toList_ofList
  rw [hM, hA]
  refine ⟨by decide +kernel, by decide +kernel, by decide +kernel, by decide +kernel, ?_, ?_⟩ <;>
    intro p <;> cases p <;> decide +kernel

theorem parse_duration_new_is_true_on_witness :
    parse wMul = .reject ∧ periodHolds wMul (periodObs (parse wMul)) = true ∧
    parse wAdd = .reject ∧ periodHolds wAdd (periodObs (parse wAdd)) = true := by
  have hM : wMul = _ := String.toList_ofList
  have hA : wAdd = _ := String.toList_ofList
  rw [hM, hA]
  decide +kernel

/-- The current parser passes the period judge on every string (the judge IS the grammar,
`Props.C19.period_grammar`; this only says the observation mapping loses nothing). -/
theorem parse_duration_new_is_true (s : List Char) : periodHolds s (periodObs (parse s)) = true := by
  unfold periodHolds
  cases h : parse s <;> simp [periodObs] <;>
    (rcases parse_no_panic s with ⟨v, hv⟩ | hr <;> simp_all)

/-- **Old and new agree whenever no overflow occurs**: every string the repaired parser accepts was
accepted with the same value by the old one, in either profile. -/
theorem parse_old_eq_new_of_small (p : Profile) (s : List Char) (v : Nat) (h : parse s = .ok v) :
    parseDurationOld p s = .ok v := by
  unfold parse parseWith at h
  cases hf : fold .checked s.length s { sum := some 0, count := 0 } with
  | error o => simp [hf] at h; rcases fold_error_is_panic _ _ _ _ _ hf with rfl | rfl <;> cases h
  | ok r =>
    obtain ⟨acc, rest⟩ := r
    simp only [hf] at h
    have hsum : acc.sum = some v := by
      split at h
      · cases h
      · split at h
        · cases h
        · split at h
          · next v' hv' => cases h; exact hv'
          · cases h
    have := fold_unchecked_of_checked (arithOf p) _ _ _ _ _ _ v hf hsum
    simp only [parseDurationOld, parseWith, this]
    exact h

/-- … and the old parser (dev profile) never differed from the repaired one except by panicking. -/
theorem parse_old_dev_eq_new_or_panics (s : List Char) :
    parseDurationOld .dev s = parse s ∨ parseDurationOld .dev s = .panicMul ∨
      parseDurationOld .dev s = .panicAdd := by
  cases hf : fold .uncheckedDev s.length s { sum := some 0, count := 0 } with
  | error o =>
    right
    have : parseDurationOld .dev s = o := by simp only [parseDurationOld, arithOf, parseWith, hf]
    rw [this]
    exact fold_error_is_panic _ _ _ _ _ hf
  | ok r =>
    left
    have hc := fold_checked_of_dev _ _ _ _ _ hf
    simp only [parseDurationOld, arithOf, parse, parseWith, hf, hc]

/-! ## b48ba6e, b1fb377, 64663b5 — the rate limiter at start-up / first request -/

/-- The outcome class an observer assigns.  `blocked k` (no admission in the `k` passes watched) is
classed `hung`; the theorems below use it only where it holds for EVERY number of passes and every
clock, which is what a hang is. -/
def classify : FirstRequest → StartOutcome
  | .rejected => .rejected
  | .admitted 0 => .starts
  | .admitted (_ + 1) => .startsAfterLimiterSleep
  | .panicked _ => .panicked
  | .blocked _ => .hung

/-- `number = 0, period = "5s"` and `number = 0, period = "1s"` (observation d), nanoseconds. -/
def zero5s : List Limiter.Limit := [⟨0, 5000000000⟩]
def zero1s : List Limiter.Limit := [⟨0, 1000000000⟩]

/-- **Before b48ba6e**: `number = 0` with a period of 5 s divides by zero in `get_sleep_duration`
(every profile, before any pass: whatever the clock does); with a period of 1 s the sleep is the
100 ms minimum and `request_allowed` refuses in every pass, for every number of passes and every
sequence of clock readings — it blocks for ever.  Both outcome classes fail the start-up judge. -/
theorem ratelimit_zero_old_is_false :
    (∀ prof rs, firstRequest (pre_b48ba6e prof) zero5s rs = .panicked .panicDivZero) ∧
    (∀ prof rs, startupHolds (classify (firstRequest (pre_b48ba6e prof) zero5s rs)) = false) ∧
    (∀ prof rs, firstRequest (pre_b48ba6e prof) zero1s rs = .blocked rs.length) ∧
    (∀ prof rs, startupHolds (classify (firstRequest (pre_b48ba6e prof) zero1s rs)) = false) := by
  have h5 : ∀ prof rs, firstRequest (pre_b48ba6e prof) zero5s rs = .panicked .panicDivZero := by
    intro prof rs; cases prof <;> rfl
  have h1 : ∀ prof rs, firstRequest (pre_b48ba6e prof) zero1s rs = .blocked rs.length := by
    intro prof rs
    have hb := passes_blocked (pre_b48ba6e prof) zero1s rs [] 0
      (fun r _ lg => allowedOld_zero lg _ [] r.tTests r.tPrune)
    have : firstRequest (pre_b48ba6e prof) zero1s rs = passes (pre_b48ba6e prof) zero1s [] rs 0 := by
      cases prof <;> rfl
    rw [this, hb, Nat.zero_add]
  refine ⟨h5, ?_, h1, ?_⟩
  · intro prof rs; rw [h5]; rfl
  · intro prof rs; rw [h1]; rfl

theorem ratelimit_zero_new_is_true_on_witness :
    (∀ rs, firstRequest current zero5s rs = .rejected) ∧
    (∀ rs, firstRequest current zero1s rs = .rejected) ∧
    (∀ rs, startupHolds (classify (firstRequest current zero5s rs)) = true) ∧
    (∀ rs, startupHolds (classify (firstRequest current zero1s rs)) = true) :=
  ⟨fun _ => rfl, fun _ => rfl, fun _ => rfl, fun _ => rfl⟩

/-- The period `"100000000000000000s"` of known-findings.txt (10¹⁷ s, in nanoseconds), one request. -/
def hugePeriod : List Limiter.Limit := [⟨1, 100000000000000000 * 1000000000⟩]

/-- One pass of the limiter 15 minutes after boot (nanoseconds). -/
def pass15min : Limiter.Readings := ⟨900000000000, [900000000001], 900000000002⟩

/-- **Before b1fb377** (dev profile): `n * 200` overflows `u64` in `get_sleep_duration`: panic
before the first pass, whatever the clock does. -/
theorem sleep_overflow_old_is_false :
    (∀ rs, firstRequest (pre_b1fb377 .dev) hugePeriod rs = .panicked .panicMulOverflow) ∧
    (∀ rs, startupHolds (classify (firstRequest (pre_b1fb377 .dev) hugePeriod rs)) = false) := by
  have h : ∀ rs, firstRequest (pre_b1fb377 .dev) hugePeriod rs = .panicked .panicMulOverflow := by
    intro rs
    have hs : sleepOld .dev (Limiter.sortDesc hugePeriod) = .panicMulOverflow := by decide
    simp only [firstRequest, pre_b1fb377, show Limiter.mkLimits hugePeriod = some (Limiter.sortDesc hugePeriod) by decide, hs]
    rfl
  exact ⟨h, fun rs => by rw [h]; rfl⟩

/-- In the RELEASE profile the same input did not violate C19 before b1fb377 either: the product
wraps, and the wrapped value still clamps to the one-hour maximum, which is also what the saturating
product gives.  (For other periods the wrapped product gives a shorter sleep than the saturating one
— e.g. 184 ms instead of 1 h — which changes how often the limiter polls, not whether it admits.) -/
theorem sleep_overflow_old_release_no_violation :
    sleepOld .release hugePeriod = .ms 3600000 ∧ sleepNew hugePeriod = .ms 3600000 ∧
    sleepOld .release [⟨1, 92233720368547759 * 1000000000⟩] = .ms 184 ∧
    sleepNew [⟨1, 92233720368547759 * 1000000000⟩] = .ms 3600000 := by decide +kernel

theorem sleep_overflow_new_is_true_on_witness :
    firstRequest current hugePeriod [pass15min] = .admitted 1 ∧
    startupHolds (classify (firstRequest current hugePeriod [pass15min])) = true := by decide +kernel

/-- `number = 2, period = "5000w"` (observation e), nanoseconds. -/
def lim5000w : Limiter.Limit := ⟨2, 5000 * 604800 * 1000000000⟩

/-- **Before 64663b5**: while the machine has been up for less than the period (5000 weeks), every
pass refuses although nothing was ever sent — for every number of passes and every such sequence of
clock readings; in particular with an uptime of 15 minutes.  Classed `hung`, the judge fails. -/
theorem uptime_old_is_false :
    (∀ rs : List Limiter.Readings, (∀ r ∈ rs, r.tTests.headD r.tPrune < lim5000w.period) →
      firstRequest pre_64663b5 [lim5000w] rs = .blocked rs.length) ∧
    firstRequest pre_64663b5 [lim5000w] [pass15min, pass15min, pass15min] = .blocked 3 ∧
    startupHolds (classify (firstRequest pre_64663b5 [lim5000w] [pass15min, pass15min, pass15min]))
      = false := by
  refine ⟨?_, by decide +kernel, by decide +kernel⟩
  intro rs h
  have hb := passes_blocked pre_64663b5 [lim5000w] rs [] 0
    (fun r hr lg => Props.C09.progress_unrepaired_is_false lg lim5000w [] r.tTests r.tPrune (h r hr))
  have : firstRequest pre_64663b5 [lim5000w] rs = passes pre_64663b5 [lim5000w] [] rs 0 := by
    simp only [firstRequest, pre_64663b5,
      show Limiter.mkLimits [lim5000w] = some [lim5000w] by decide, sleepNew]
    rfl
  rw [this, hb, Nat.zero_add]

theorem uptime_new_is_true_on_witness :
    firstRequest current [lim5000w] [pass15min] = .admitted 1 ∧
    startupHolds (classify (firstRequest current [lim5000w] [pass15min])) = true := by decide +kernel

/-- **Old and new limiter agree outside the three defect classes**: every number positive, every
`secs · 200` within 64 bits, and the machine up for at least every period at every clock reading
used — then the code before b48ba6e (either profile) and the current code give the same outcome. -/
theorem ratelimit_old_eq_new_of_small (prof : Profile) (raw : List Limiter.Limit)
    (rs : List Limiter.Readings)
    (hpos : ∀ l ∈ raw, l.n ≠ 0)
    (hsmall : ∀ l ∈ raw, l.period / 1000000000 * 200 ≤ Limiter.u64Max)
    (hup : ∀ l ∈ raw, ∀ r ∈ rs, ∀ t' ∈ r.tPrune :: r.tTests, l.period ≤ t') :
    firstRequest (pre_b48ba6e prof) raw rs = firstRequest current raw rs := by
  have hmk : Limiter.mkLimits raw = some (Limiter.sortDesc raw) := by
    unfold Limiter.mkLimits
    have : raw.any (fun l => l.n == 0) = false := by
      rw [List.any_eq_false]
      intro l hl
      simpa using hpos l hl
    rw [this]; rfl
  have hsleep : sleepOld prof (Limiter.sortDesc raw) = sleepNew (Limiter.sortDesc raw) := by
    apply sleepOld_eq_new_of_small
    intro l hl
    have hm : l ∈ raw := (Limiter.mem_sortDesc l raw).mp (List.mem_of_getLast? hl)
    exact ⟨Nat.pos_of_ne_zero (hpos l hm), hsmall l hm⟩
  have hpass := passes_congr (pre_b48ba6e prof) current (Limiter.sortDesc raw) rs [] 0
    (fun r hr lg => allowedOld_eq_allowed_of_uptime lg _ r.tTests r.tPrune
      (fun l hl t' ht' => hup l ((Limiter.mem_sortDesc l raw).mp hl) r hr t' ht'))
  simp only [firstRequest, pre_b48ba6e, current, mkLimitsOld, hmk, hsleep] at hpass ⊢
  cases hs : sleepNew (Limiter.sortDesc raw) <;> simp only [hpass, sleepNew] at hs ⊢

/-! ## c679126 — a hook group that contains itself (observation m) -/

def classifyExpand : Expand → StartOutcome
  | .ok _ => .starts
  | .err _ => .rejected
  | .stackOverflow => .died

/-- `[[group]] name = "g"  hooks = ["g"]`, referenced by a certificate. -/
def selfGroup : Config.Config :=
  { endpoints := [{ name := "le" }], accounts := [{ name := "acc" }],
    groups := [{ name := "g", hooks := ["g"] }],
    certificates := [{ crtId := "a_rsa2048", account := "acc", endpoint := "le", hooks := ["g"] }] }

/-- **Before c679126**: whatever the size of the stack, expanding `g` overflows it (the process is
killed by SIGABRT at start-up): outcome class `died`, the judge fails. -/
theorem hook_cycle_old_is_false :
    (∀ depth, getHookOld selfGroup depth "g" = .stackOverflow) ∧
    (∀ depth, startupHolds (classifyExpand (getHookOld selfGroup depth "g")) = false) := by
  have h := getHookOld_self_first selfGroup "g" { name := "g", hooks := ["g"] } []
    (by decide) (by decide) rfl
  exact ⟨h, fun d => by rw [h d]; rfl⟩

theorem hook_cycle_new_is_true_on_witness :
    getHookNew selfGroup "g" = .err (.groupCycle "g") ∧
    startupHolds (classifyExpand (getHookNew selfGroup "g")) = true ∧
    Config.build selfGroup = .error (.groupCycle "g") := by
  refine ⟨by rfl, by rfl, by rfl⟩

/-- **Old and new agree on every name the repaired code expands**: same hooks, given as many stack
frames as there are groups (plus one); and whatever the old code expanded without overflowing, the
current code expands to the same hooks — provided the name stays within the limits introduced later
(537f12e, a9033b3: `ResolvesWithin`; without that proviso the second half is false of the current
code: a chain of 33 groups).  The two differ only on names that reach a cycle or exceed a limit. -/
theorem hook_old_eq_new_of_ok (cfg : Config.Config) (n : String) (r : List Config.Hook) :
    (Config.getHook cfg n = .ok r → getHookOld cfg (Config.expandFuel cfg) n = .ok r) ∧
    (∀ depth, getHookOld cfg depth n = .ok r → Spec.C14.ResolvesWithin cfg n →
      Config.getHook cfg n = .ok r) := by
  refine ⟨fun h => ?_, ?_⟩
  · obtain ⟨b, hb⟩ := Config.getHook_ok h
    exact getHookOld_of_expandHook cfg _ _ _ n r b hb
  · intro depth h hw
    have hd := getHookOld_denotes cfg depth n r h
    obtain ⟨r', hr'⟩ := Config.getHook_isOk.mpr hw
    have hd' := Config.getHook_denotes hr'
    rw [hr', hd.unique hd']

end C19

/-! # C14 -/

section C14
open AcmedVerif.Config AcmedVerif.Spec.C14

/-! ## 4551043 — `[global]` of an included file: 8 of 15 options merged (observation l) -/

/-- Main file (0) with a `[global]` table, including file 1 whose `[global]` sets `renew_delay`,
`cert_file_ext`, `file_name_format`, `root_certificates`, `env` and `pk_file_mode`. -/
def treeL : List (Nat × FileContent (List Nat)) := [
  (0, { global := some { accounts_directory := some "/acc" },
        endpoints := [{ name := "le" }], accounts := [{ name := "acc" }],
        certificates := [{ crtId := "a_rsa2048", account := "acc", endpoint := "le" }],
        includes := [[1]] }),
  (1, { global := some { renew_delay := some "7d", cert_file_ext := some "crt",
                         file_name_format := some "ff", root_certificates := some "ca.pem",
                         env := [("K", "v")], pk_file_mode := some "0640" } })]

def dfltL : Defaults :=
  { renewDelay := "30d", randomEarlyRenew := "0s", fileNameFormat := "fmt", directory := "/certs" }

def ownL (p : Path) (o : GlobalOpt) : Option Val := optGet o (ownOf treeL p).global

def globalOf (r : Except Err (Config × List Nat)) : Option Global :=
  match r with
  | .ok (cfg, _) => cfg.global
  | .error _ => none

def orderOf (r : Except Err (Config × List Nat)) : List Nat :=
  match r with
  | .ok (_, order) => order
  | .error _ => []

def dumpOf (r : Except Err Built) : Outcome :=
  match r with
  | .ok b => .started (b.certificates.map (CertObs.ofBuilt dfltL))
  | .error _ => .rejected

/-- What the daemon before 4551043 reports for the certificate: built-in values. -/
def dumpOldL : Outcome := .started [{ crtId := "a_rsa2048", renewDelay := "30d", randomEarlyRenew := "0s", fileNameFormat := "fmt", directory := "/certs" }]
/-- What the current daemon reports: the values of the included `[global]`. -/
def dumpNewL : Outcome := .started [{ crtId := "a_rsa2048", renewDelay := "7d", randomEarlyRenew := "0s", fileNameFormat := "ff", directory := "/certs" }]

/-- **Before 4551043 the C14 judges fail on the witness tree**: both files are read, in the order
[0, 1]; of the included file's options only `pk_file_mode` arrives; `renew_delay`, `cert_file_ext`,
`file_name_format`, `root_certificates` stay unset and the `env` entry is lost.  The `[global]`
judge fails, and so does the judge of the whole tree: the certificate runs with the built-in
`renew_delay` and `file_name_format` instead of the values of the included `[global]`. -/
theorem global_merge_old_is_false :
    orderOf (loadTreeOrderOld treeL 0) = [0, 1] ∧
    holdsGlobal [0, 1] ownL (fun o => optGet o (globalOf (loadTreeOrderOld treeL 0))) = false ∧
    (GlobalOpt.all.filter fun o => o != .env &&
        optGet o (globalOf (loadTreeOrderOld treeL 0)) != lastSome ([0, 1].map fun p => ownL p o)) =
      [.cert_file_ext, .file_name_format, .renew_delay, .root_certificates] ∧
    optGet .pk_file_mode (globalOf (loadTreeOrderOld treeL 0)) = some "0640" ∧
    envLookup "K" (envOf (globalOf (loadTreeOrderOld treeL 0))) = none ∧
    dumpOf (startUpOld treeL 0) = dumpOldL ∧
    holdsTree dfltL treeL 0 (dumpOf (startUpOld treeL 0)) = false := by
  decide +kernel

theorem global_merge_new_is_true_on_witness :
    orderOf (loadTreeOrder treeL 0) = [0, 1] ∧
    holdsGlobal [0, 1] ownL (fun o => optGet o (globalOf (loadTreeOrder treeL 0))) = true ∧
    envLookup "K" (envOf (globalOf (loadTreeOrder treeL 0))) = some "v" ∧
    dumpOf (startUp treeL 0) = dumpNewL ∧
    holdsTree dfltL treeL 0 (dumpOf (startUp treeL 0)) = true := by
  decide +kernel

/-- Seven of the modelled options are not in `oldMergedOptions`, the merge block of the file before 4551043
(a hand-written list in Model/OldVariants.lean; `Spec.C14.globalMergeComplete` itself is not applied to it);
of the current source no option is missing. -/
theorem global_merge_old_incomplete :
    ((GlobalOpt.all.map GlobalOpt.name).filter fun o => !(oldMergedOptions.map GlobalOpt.name).contains o) =
      ["cert_file_ext", "env", "file_name_format", "pk_file_ext", "random_early_renew",
       "renew_delay", "root_certificates"] ∧
    globalMergeMissing = [] := ⟨by decide +kernel, Props.C14.globalMerge_complete.2⟩

/-- The parametrised loader used for the old variant IS the model's loader when given the current
merge block — so the only difference between `loadTreeOrderOld` and `loadTreeOrder` is the list. -/
theorem loader_with_current_block (files : List (Nat × FileContent (List Nat))) (main : Nat) :
    loadTreeOrderWith mergedOptions files main = loadTreeOrder files main := by
  unfold loadTreeOrderWith loadTreeOrder
  rw [readCnfWith_current]
  cases readCnf files (fun _ ps => ps) (loadFuel files) 0 main [] <;> rfl

/-- **Old and new merge agree on every option the old block assigned, and wherever the included
file does not set the option**; on a dropped option the old merge keeps the including file's value
(the included value is lost), and it never takes an `env` entry from the included file. -/
theorem merge_old_eq_new_unless_dropped (cur new : Global) (o : GlobalOpt) (ho : o ≠ .env) :
    (o ∈ oldMergedOptions ∨ new.get o = none →
      (mergeGlobalWith oldMergedOptions cur new).get o = (mergeGlobalWith mergedOptions cur new).get o) ∧
    (o ∉ oldMergedOptions → (mergeGlobalWith oldMergedOptions cur new).get o = cur.get o) ∧
    (mergeGlobalWith oldMergedOptions cur new).env = cur.env := by
  refine ⟨?_, ?_, ?_⟩
  · intro h
    rw [get_mergeGlobalWith _ _ _ _ ho, get_mergeGlobalWith _ _ _ _ ho,
      if_pos (Props.C14.model_merges_every_option o)]
    rcases h with h | h
    · rw [if_pos h]
    · rw [h]; simp
  · intro h
    rw [get_mergeGlobalWith _ _ _ _ ho, if_neg h]
  · simp [mergeGlobalWith, oldMergedOptions, List.foldl, env_mergeOpt]

end C14

/-! # C02 -/

section C02
open AcmedVerif.Fs AcmedVerif.Storage AcmedVerif.Spec.C02

def procW : Proc := { umask := 0o022, uid := 0, gid := 0 }
def pathW : Fs.Path := "c.pem".toList
/-- `c.pem` holds 20 × `A`. -/
def fsW : Fs := [(pathW, { content := List.replicate 20 65, mode := 0o644, uid := 0, gid := 0 })]
/-- `BBB`. -/
def dataW : List UInt8 := [66, 66, 66]
def obsW : List Obs := [{ path := pathW, data := dataW, ok := true }]

/-! ## 1d54e9b — no `flush` after `write_all` (observation b) -/

/-- **Before 1d54e9b the C02 judge fails** when the background write loses the race: `write_file`
returns `Ok(())` (having run `chown` and the post hook), and a reader at that instant finds the file
truncated and empty instead of `BBB`; the bytes arrive later.  Same over an absent file. -/
theorem flush_old_is_false :
    (writeFileNoFlush false Env.allOk procW {} fsW .certificate pathW dataW).1.result = .ok ∧
    contentAt (writeFileNoFlush false Env.allOk procW {} fsW .certificate pathW dataW).1.fs pathW
      = some [] ∧
    holds obsW (contents (writeFileNoFlush false Env.allOk procW {} fsW .certificate pathW dataW).1.fs)
      = false ∧
    contentAt (writeFileNoFlush false Env.allOk procW {} fsW .certificate pathW dataW).2 pathW
      = some dataW ∧
    holds obsW (contents (writeFileNoFlush false Env.allOk procW {} [] .certificate pathW dataW).1.fs)
      = false := by
  decide +kernel

theorem flush_new_is_true_on_witness :
    (writeFile .yes Env.allOk procW {} fsW .certificate pathW dataW).result = .ok ∧
    holds obsW (contents (writeFile .yes Env.allOk procW {} fsW .certificate pathW dataW).fs) = true ∧
    holds obsW (contents (writeFile .yes Env.allOk procW {} [] .certificate pathW dataW).fs) = true := by
  decide +kernel

/-- **Old and new agree whenever the background write wins the race** (and the later state is then
the state at return): the defect is exactly the `landed = false` schedule. -/
theorem flush_old_eq_new_of_landed (env : Env) (proc : Proc) (s : Settings) (fs : Fs) (t : FileType)
    (p : Fs.Path) (data : List UInt8) :
    writeFileNoFlush true env proc s fs t p data =
      (writeFile .yes env proc s fs t p data, (writeFile .yes env proc s fs t p data).fs) := by
  unfold writeFileNoFlush writeFile
  simp only [if_true]
  cases env.hookOk (preHook (get fs p).isNone) with
  | false => rfl
  | true =>
    simp only [Bool.not_true, Bool.false_eq_true, if_false]
    cases setOwner env proc s (writeAt0 proc (openCreate proc fs p (modeFor s t) .yes) p data) t p with
    | error e => rfl
    | ok r => cases env.hookOk (postHook (get fs p).isNone) <;> rfl

/-! ## 527d672 — no `.truncate(true)` (observation a); see also `Props.C02.write_no_trunc_is_false` -/

/-- **Before 527d672 the C02 judge fails**: `BBB` over 20 × `A` leaves `BBBAAAAAAAAAAAAAAAAA`. -/
theorem truncate_old_is_false :
    (writeFile .no Env.allOk procW {} fsW .certificate pathW dataW).result = .ok ∧
    contentAt (writeFile .no Env.allOk procW {} fsW .certificate pathW dataW).fs pathW
      = some (dataW ++ List.replicate 17 65) ∧
    holds obsW (contents (writeFile .no Env.allOk procW {} fsW .certificate pathW dataW).fs) = false := by
  decide +kernel

theorem truncate_new_is_true_on_witness :
    holds obsW (contents (writeFile .yes Env.allOk procW {} fsW .certificate pathW dataW).fs) = true := by
  decide +kernel

/-- **Old and new agree whenever the file was absent or not longer than the new content** (on the
content of the written file; `Props.C02.write_exact_unless_shrinking` is the same fact stated
against the property). -/
theorem truncate_old_eq_new_of_not_shrinking (proc : Proc) (fs : Fs) (p : Fs.Path) (mode : Nat)
    (data : List UInt8) (h : ∀ f, get fs p = some f → f.content.length ≤ data.length) :
    contentAt (writeAt0 proc (openCreate proc fs p mode .no) p data) p =
      contentAt (writeAt0 proc (openCreate proc fs p mode .yes) p data) p := by
  simp only [contentAt, get_writeAt0_same, get_openCreate_same, Option.map_some]
  cases hg : get fs p with
  | none => rfl
  | some f =>
    have hle := h f hg
    simp only [openedF, writtenF]
    cases data with
    | nil =>
      have : f.content = [] := List.eq_nil_of_length_eq_zero (by simpa using hle)
      simp [this]
    | cons d ds =>
      simp only [List.length_cons] at hle
      simp [overwrite, hle]

end C02

end AcmedVerif.Props.OldVariants
