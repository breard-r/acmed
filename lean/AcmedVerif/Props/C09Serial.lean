/-
C09 — "from all certificates and accounts using that endpoint": the requests of ALL certificates on one
endpoint pass ONE limiter one at a time.  `Limiter.attempt` and `Limiter.run` (Props/C09) are sequential
functions of one `RateLimit`; that they are never run concurrently for the same endpoint is mutual
exclusion of the endpoint's write lock (Props/C12), because every sender holds it:
`http::get`, `http::post`, `http::new_nonce` take `&mut Endpoint`, and the only way the code obtains a
`&mut Endpoint` is `endpoint_s.write().await` (Rust's borrow rules make this a compile-time fact; the
traced-lock runs of C12/C07 observe the same guards on the real code).
-/
import AcmedVerif.Props.C12
import AcmedVerif.Gen.Senders

namespace AcmedVerif.Props.C09Serial
open AcmedVerif.Locks

/-- Task `t` is inside a request on endpoint lock `e`: it holds `e` for writing. -/
def Sending (s : Sys) (t e : Nat) : Prop := (e, Mode.w) ∈ (s t).held

/-- **Sends on one endpoint are serialised.**  In every reachable state of any number of tasks running
any programs under any admissible reader/writer lock, two tasks are never inside a request on the same
endpoint at once — so the limiter's log is updated by one request at a time and the window bound of
`Props/C09` (stated for ONE sequence of admissions) is a bound on the union of all certificates'
requests. -/
theorem serialised_sends (G : Grant) (hG : ∀ s l m, G s l m → safeGrant s l m)
    (progs : Nat → List Op) (s : Sys) (hr : Reachable G (init progs) s)
    (t u e : Nat) (ht : Sending s t e) (hu : Sending s u e) : t = u :=
  ((AcmedVerif.Props.C12.mutual_exclusion G hG progs s hr t u e Mode.w ht hu).1).symm

/-- … and nobody even reads the endpoint (its `dir`, its `nonce`, its limiter) meanwhile. -/
theorem no_reader_during_send (G : Grant) (hG : ∀ s l m, G s l m → safeGrant s l m)
    (progs : Nat → List Op) (s : Sys) (hr : Reachable G (init progs) s)
    (t u e : Nat) (ht : Sending s t e) (hu : (e, Mode.r) ∈ (s u).held) : False := by
  have := (AcmedVerif.Props.C12.mutual_exclusion G hG progs s hr t u e Mode.r ht hu).2
  cases this

/-- The hypothesis "a sender holds the endpoint for writing", as far as the source shows it: every
function of the HTTP layers in whose body a request is sent (`.send()`), and the limiter call itself,
takes `&mut Endpoint` (regenerated from acmed/src/http.rs and acme_proto/http.rs on every run). -/
theorem senders_take_exclusive_endpoint :
    Gen.sendingFns ≠ [] ∧
    Gen.sendingFns.all (fun n => Gen.asyncHttpFns.lookup n == some true) = true ∧
    Gen.asyncHttpFns.lookup "http::rate_limit" = some true := by decide +kernel

/-- … and so does every other async function of the two layers (none of them reaches the network
through a shared reference). -/
theorem all_http_fns_take_exclusive_endpoint : Gen.asyncHttpFns.all (·.2) = true := by decide +kernel

end AcmedVerif.Props.C09Serial
