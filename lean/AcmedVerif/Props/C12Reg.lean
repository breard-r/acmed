/-
C12 — "never double-register", counted from what the account file already holds.
`Props/C12.register_once` (a corollary) allows 1 + dne + changes registrations whatever the start state;
here the allowance of the start is exact: an account whose URL is stored and whose binding fingerprint is the
configured one registers ONLY when the CA reports it unknown or the binding changes.
-/
import AcmedVerif.Spec.C12
import AcmedVerif.Lemmas.LocksReg

namespace AcmedVerif.Props.C12Reg
open AcmedVerif.Locks
open AcmedVerif.Spec.C12

/-- Over any interleaving of the atomic account operations of any tasks on one (account, endpoint)
pair: successful newAccount exchanges ≤ (1 if the start state needs a registration, else 0)
+ `accountDoesNotExist` answers + binding changes. -/
theorem register_once_from_start (registered stale : Bool) (evs : List Reg.Ev) (s : Reg.St)
    (h : Reg.run (Reg.start registered stale) evs = some s) :
    s.newAccountOk ≤ Reg.due (Reg.start registered stale) + s.dne + s.changes := by
  have hb := Reg.boundFrom_run evs (Reg.boundFrom_start registered stale) h
  unfold Reg.BoundFrom at hb
  omega

/-- An account that is registered with the configured binding never registers again on its own. -/
theorem registered_account_registers_only_on_cause (evs : List Reg.Ev) (s : Reg.St)
    (h : Reg.run (Reg.start true false) evs = some s) :
    s.newAccountOk ≤ s.dne + s.changes := by
  have := register_once_from_start true false evs s h
  simpa [Reg.due, Reg.start, Reg.b2n] using this

/-- … which is what the judge checks, with `base` = the allowance of the start state. -/
theorem register_once_judge_from_start (registered stale : Bool) (evs : List Reg.Ev) (s : Reg.St)
    (h : Reg.run (Reg.start registered stale) evs = some s) :
    registerOnceFromOk (Reg.due (Reg.start registered stale)) s.newAccountOk s.dne s.changes = true := by
  simpa [registerOnceFromOk] using register_once_from_start registered stale evs s h

/-- The bound is tight: two tasks that both saw `accountDoesNotExist` register twice. -/
example : ∃ s, Reg.run (Reg.start true false) [.orderDne 1, .orderDne 2, .reRegister 1 true, .reRegister 2 true] = some s ∧
    s.newAccountOk = 2 ∧ s.dne + s.changes = 2 := by decide

/-- Non-vacuity: a registered account, two synchronisations, no cause: no registration. -/
example : ∃ s, Reg.run (Reg.start true false) [.sync true, .sync true] = some s ∧ s.newAccountOk = 0 := by decide

/-- What the seeded "binding removed" defect does is outside the model's behaviours: a second
registration without cause would need `newAccountOk = 2 ≤ 0 + 1`. -/
example : registerOnceFromOk 0 2 0 1 = false := by decide

end AcmedVerif.Props.C12Reg
