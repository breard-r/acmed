/-
C04 under uncertainty — the judges `Spec/C04Lost.lean` and `Spec/C11Lost.lean` loosen NOTHING outside
the window an unanswered keyChange request opens; the window closes with the first answered
request; and the behaviour the working tree shows in that window (`Props/C11Lost.lean`,
`lost_rollover_recovers`) is what the judges admit: one request signed by the other key of the
pending exchange — the first after the unanswered keyChange, which is also the first one answered.
-/
import AcmedVerif.Spec.C04Lost
import AcmedVerif.Spec.C11Lost
import AcmedVerif.Props.C11Lost

namespace AcmedVerif.Props.C04Lost
open AcmedVerif.Spec.C04 AcmedVerif.Spec.C04Lost

/-- Without an unanswered keyChange request the C04 judge with windows IS `Spec.C04.reqOk`, record
by record. -/
theorem judge_strict_without_window (log : List ReqX)
    (h : ∀ x ∈ log, x.outer = true → (x.isKeyChange && !x.answered) = false) :
    judge false false log = log.map fun x => reqOk x.base := by
  induction log with
  | nil => rfl
  | cons x rest ih =>
    have hx := h x List.mem_cons_self
    have hr := ih fun y hy => h y (List.mem_cons_of_mem _ hy)
    by_cases ho : x.outer = true
    · have hw : nextWindow false x = false := by
        unfold nextWindow
        rw [hx ho]
        cases x.answered <;> rfl
      simp only [judge, ho, if_true, Bool.false_eq_true, if_false, hw, List.map_cons, hr]
    · simp only [judge, ho, Bool.false_eq_true, if_false, List.map_cons, hr]

/-- … hence `Spec.C04Lost.holds` is `Spec.C04.holds` on every history without an unanswered
keyChange request. -/
theorem holds_strict_without_window (log : List ReqX)
    (h : ∀ x ∈ log, x.outer = true → (x.isKeyChange && !x.answered) = false) :
    Spec.C04Lost.holds log = Spec.C04.holds (log.map (·.base)) := by
  unfold Spec.C04Lost.holds Spec.C04.holds
  rw [judge_strict_without_window log h, List.all_map, List.all_map]
  rfl

/-- A window never makes the judge stricter. -/
theorem reqOk_imp_either (x : ReqX) (h : reqOk x.base = true) : reqOkEither x = true := by
  simp [reqOkEither, h]

/-- An answered request closes the window: what follows it is judged by `reqOk`. -/
theorem window_closed_by_answer (win : Bool) (x : ReqX) (h : x.answered = true) :
    nextWindow win x = false := by
  unfold nextWindow
  simp [h]

/-- After an answered outer request, whatever the window was, the remaining records are judged as
from a closed window. -/
theorem judge_after_answer (win wo : Bool) (x : ReqX) (rest : List ReqX) (ho : x.outer = true)
    (ha : x.answered = true) :
    (judge win wo (x :: rest)).tail = judge false win rest := by
  simp only [judge, ho, if_true, List.tail_cons, window_closed_by_answer win x ha]

/-! ### The same for the C11 judge -/

open AcmedVerif.Spec.C11 in
/-- Without a window (none pending, no unanswered keyChange request in the renewal) the C11 judge
with windows is `Spec.C11.holds`. -/
theorem c11_holds_strict_without_window (o : Spec.C11.Obs) (xs : List Spec.C11Lost.ReqX)
    (ho : o.reqs = xs.map (·.base))
    (h : ∀ x ∈ xs, (x.base.kind == .keyChange && !x.answered) = false) :
    Spec.C11Lost.holds false o xs = Spec.C11.holds o := by
  have hs : ∀ l : List Spec.C11Lost.ReqX,
      (∀ x ∈ l, (x.base.kind == .keyChange && !x.answered) = false) →
      Spec.C11Lost.signersOk false l = (l.map (·.base)).all signerOk := by
    intro l
    induction l with
    | nil => intro _; rfl
    | cons x rest ih =>
      intro hl
      have hx := hl x List.mem_cons_self
      have hw : Spec.C11Lost.nextWindow false x = false := by
        unfold Spec.C11Lost.nextWindow
        rw [hx]
        cases x.answered <;> rfl
      simp only [Spec.C11Lost.signersOk, Bool.false_eq_true, if_false, hw, List.map_cons,
        List.all_cons, ih fun y hy => hl y (List.mem_cons_of_mem _ hy)]
  unfold Spec.C11Lost.holds Spec.C11.holds
  rw [hs xs h, ← ho]
  simp [Spec.C11Lost.onePerItemFrom]

/-! ### What the model does inside a window is what the judges admit -/

open AcmedVerif.Flow AcmedVerif.Props.C11Lost in
/-- The trace of `lost_rollover_recovers`, written by hand as the records the C11 judge reads (no Lean
function maps `Flow.Ev` to `ReqX`), for a renewal that starts inside a window: the refused query signed by the recorded key is admitted (it verifies under the other key
of the pending exchange, the one the CA held before), it is ANSWERED, so the window is closed for
the query signed by the current key and everything after it, which must — and do — verify under the
key the CA holds. -/
example :
    let q1 : Spec.C11Lost.ReqX := ⟨⟨.other, false, .recordedPast, false, true, .other⟩, true, true⟩
    let q2 : Spec.C11Lost.ReqX := ⟨⟨.other, false, .current, true, true, .ok⟩, true, false⟩
    let o : Spec.C11.Obs := ⟨true, false, false, true, [q1.base, q2.base], true, true, true⟩
    Spec.C11Lost.holds true o [q1, q2] = true ∧
    -- without the window the same renewal is rejected …
    Spec.C11Lost.holds false o [q1, q2] = false ∧ Spec.C11.holds o = false ∧
    -- … and inside a window a SECOND request under the old key is rejected as well
    Spec.C11Lost.holds true ⟨true, false, false, true, [q1.base, q1.base, q2.base], true, true, true⟩
      [q1, q1, q2] = false := by
  decide

end AcmedVerif.Props.C04Lost
