/-
C13 — private keys and account files are created with the configured mode and owner.
Theorems about `Model/Storage.lean` (`write_file`, `set_owner`) over the POSIX model `Model/Fs.lean`;
lemmas in `Lemmas/Storage.lean`.  All theorems hold for both variants of `write_file` (`trunc`)
unless they say `.yes`.

Reading guide: `baseFile proc s t old` (`baseUid/baseGid proc old` its owner/group) = the file as it is when
`write_all` starts: for a new file (`old = none`) the configured mode of the type masked by the
umask and the process' ids, for an existing file what it had.
-/
import AcmedVerif.Gen.Consts
import AcmedVerif.Model.Storage
import AcmedVerif.Spec.C13
import AcmedVerif.Lemmas.Storage

namespace AcmedVerif.Props.C13
open AcmedVerif.Fs AcmedVerif.Storage

theorem written_file_exists (trunc : Trunc) (env : Env) (proc : Proc) (s : Settings) (fs : Fs)
    (t : FileType) (p : Path) (data : List UInt8)
    (hpre : env.hookOk (preHook (get fs p).isNone) = true) :
    get (writeFile trunc env proc s fs t p data).fs p =
      some (finalFile trunc env proc s (get fs p) t data) :=
  get_writeFile_same hpre

/-! ### C13.1: the mode -/

/-- **Exact characterisation, all inputs** (all 4096 modes, every umask, new and existing files,
root or not, named/numeric/absent owners): whenever `set_owner` does not fail, the `stat` of the
file after `write_file` is what the C13 judge expects. -/
theorem stat_meets_spec (env : Env) (proc : Proc) (s : Settings) (fs : Fs) (t : FileType)
    (p : Path) (data : List UInt8) (wu wg : Option Nat)
    (hpre : env.hookOk (preHook (get fs p).isNone) = true)
    (hown : ∀ u g, ownerCfg s t = some (u, g) →
      resolve env.lookupUser u = some wu ∧ resolve env.lookupGroup g = some wg ∧
      env.chownOk = true) :
    ∃ f, get (writeFile .yes env proc s fs t p data).fs p = some f ∧
      Spec.C13.holds (caseOf proc s (get fs p) t data wu wg (statOf f)) = true := by
  refine ⟨_, written_file_exists .yes env proc s fs t p data hpre, ?_⟩
  unfold Spec.C13.holds
  rw [decide_eq_true_eq]
  exact statOf_finalFile _ hown

/-- **C13.1.** A file created by `write_file` (absent before, pre hooks passed; whatever happens
afterwards: `chown` refused, ids unparsable, post hook failing) has the configured mode of its type
masked by the umask, for every configured mode without set-user-id/set-group-id bit. -/
theorem created_mode (trunc : Trunc) (env : Env) (proc : Proc) (s : Settings) (fs : Fs)
    (t : FileType) (p : Path) (data : List UInt8) (hnew : get fs p = none)
    (hpre : env.hookOk (preHook (get fs p).isNone) = true)
    (hplain : modeFor s t &&& 0o6000 = 0) :
    ∃ f, get (writeFile trunc env proc s fs t p data).fs p = some f ∧
      f.mode = maskMode (modeFor s t) proc.umask := by
  refine ⟨_, written_file_exists trunc env proc s fs t p data hpre, ?_⟩
  rw [hnew]
  exact finalFile_created_mode hplain

/-- The defaults of `main.rs`: key and account files `0o600` (no group/other bit), certificates
`0o644`. -/
theorem default_modes_private :
    AcmedVerif.Gen.DEFAULT_PK_FILE_MODE = 0o600 ∧
    AcmedVerif.Gen.DEFAULT_ACCOUNT_FILE_MODE = 0o600 ∧
    AcmedVerif.Gen.DEFAULT_CERT_FILE_MODE = 0o644 ∧
    Spec.C13.isPrivate AcmedVerif.Gen.DEFAULT_PK_FILE_MODE = true ∧
    Spec.C13.isPrivate AcmedVerif.Gen.DEFAULT_ACCOUNT_FILE_MODE = true := by
  decide

/-- Account files: the constant of `main.rs` (`0o600`), masked. -/
theorem created_mode_account (trunc : Trunc) (env : Env) (proc : Proc) (s : Settings) (fs : Fs)
    (p : Path) (data : List UInt8) (hnew : get fs p = none)
    (hpre : env.hookOk (preHook (get fs p).isNone) = true) :
    ∃ f, get (writeFile trunc env proc s fs .account p data).fs p = some f ∧
      f.mode = maskMode AcmedVerif.Gen.DEFAULT_ACCOUNT_FILE_MODE proc.umask ∧
      AcmedVerif.Gen.DEFAULT_ACCOUNT_FILE_MODE = 0o600 :=
  let ⟨f, hf, hm⟩ := created_mode trunc env proc s fs .account p data hnew hpre
    (by show AcmedVerif.Gen.DEFAULT_ACCOUNT_FILE_MODE &&& 0o6000 = 0; decide)
  ⟨f, hf, hm, default_modes_private.2.1⟩

/-- The statement without the restriction on special bits is FALSE of the code on Linux: with
`pk_file_mode = 0o4755` the key file ends up `0o755`, because `set_owner` always calls `chown`
(even with no owner configured) and `chown` clears the set-user-id bit. -/
theorem created_mode_special_bits_is_false :
    ¬ ∀ (env : Env) (proc : Proc) (s : Settings) (fs : Fs) (t : FileType) (p : Path)
        (data : List UInt8), get fs p = none → env.hookOk (preHook (get fs p).isNone) = true →
        ∃ f, get (writeFile .yes env proc s fs t p data).fs p = some f ∧
          f.mode = maskMode (modeFor s t) proc.umask := by
  intro h
  obtain ⟨f, hf, hm⟩ := h Env.allOk { umask := 0o022, uid := 0, gid := 0 } { pkMode := 0o4755 } []
    .privateKey "k.pem".toList [1] rfl rfl
  revert hm hf
  decide +revert

/-- …but the permission bits (and the sticky bit) are as configured for EVERY configured mode. -/
theorem created_perm_bits (trunc : Trunc) (env : Env) (proc : Proc) (s : Settings) (fs : Fs)
    (t : FileType) (p : Path) (data : List UInt8) (hnew : get fs p = none)
    (hpre : env.hookOk (preHook (get fs p).isNone) = true) :
    ∃ f, get (writeFile trunc env proc s fs t p data).fs p = some f ∧
      f.mode &&& 0o1777 = maskMode (modeFor s t) proc.umask &&& 0o1777 := by
  refine ⟨_, written_file_exists trunc env proc s fs t p data hpre, ?_⟩
  rw [hnew]
  exact finalFile_mode_and (old := none) (by decide) (by decide)

/-- **"Never readable by group or others unless the administrator asked for it".** For every
umask, every configured mode (special bits included): if the configured mode of the type has no
group/other bit, the created file has none.  Account files: unconditionally. -/
theorem private_unless_asked (trunc : Trunc) (env : Env) (proc : Proc) (s : Settings) (fs : Fs)
    (t : FileType) (p : Path) (data : List UInt8) (hnew : get fs p = none)
    (hpre : env.hookOk (preHook (get fs p).isNone) = true)
    (hcfg : modeFor s t &&& 0o077 = 0) :
    ∃ f, get (writeFile trunc env proc s fs t p data).fs p = some f ∧ f.mode &&& 0o077 = 0 := by
  refine ⟨_, written_file_exists trunc env proc s fs t p data hpre, ?_⟩
  rw [hnew]
  exact finalFile_created_private hcfg

theorem account_always_private (trunc : Trunc) (env : Env) (proc : Proc) (s : Settings) (fs : Fs)
    (p : Path) (data : List UInt8) (hnew : get fs p = none)
    (hpre : env.hookOk (preHook (get fs p).isNone) = true) :
    ∃ f, get (writeFile trunc env proc s fs .account p data).fs p = some f ∧ f.mode &&& 0o077 = 0 :=
  private_unless_asked trunc env proc s fs .account p data hnew hpre
    (by show AcmedVerif.Gen.DEFAULT_ACCOUNT_FILE_MODE &&& 0o077 = 0; decide)

/-- With the default settings the created key file is private under every umask. -/
theorem default_key_private (trunc : Trunc) (env : Env) (proc : Proc) (fs : Fs)
    (p : Path) (data : List UInt8) (hnew : get fs p = none)
    (hpre : env.hookOk (preHook (get fs p).isNone) = true) :
    ∃ f, get (writeFile trunc env proc {} fs .privateKey p data).fs p = some f ∧
      f.mode &&& 0o077 = 0 :=
  private_unless_asked trunc env proc {} fs .privateKey p data hnew hpre (by decide)

/-- A rewrite keeps the permission bits of the existing file, whatever the configured mode says;
it keeps the whole mode when the file has no set-user-id/set-group-id bit. -/
theorem rewrite_keeps_mode (trunc : Trunc) (env : Env) (proc : Proc) (s : Settings) (fs : Fs)
    (t : FileType) (p : Path) (data : List UInt8) (f0 : File) (hold : get fs p = some f0)
    (hpre : env.hookOk (preHook (get fs p).isNone) = true) :
    ∃ f, get (writeFile trunc env proc s fs t p data).fs p = some f ∧
      f.mode &&& 0o1777 = f0.mode &&& 0o1777 ∧
      (f0.mode &&& 0o6000 = 0 → f.mode = f0.mode) := by
  refine ⟨_, written_file_exists trunc env proc s fs t p data hpre, ?_⟩
  rw [hold]
  exact finalFile_found_mode f0

/-- The configured mode is applied at creation only, so
a key file that already exists group/world-readable STAYS so after a successful key write with
`pk_file_mode = 0o600`. -/
theorem rewrite_does_not_tighten :
    ∃ (fs : Fs) (f : File),
      get (writeFile .yes Env.allOk { umask := 0o077, uid := 0, gid := 0 } { pkMode := 0o600 } fs
        .privateKey "k.pem".toList [1, 2, 3]).fs "k.pem".toList = some f ∧
      (writeFile .yes Env.allOk { umask := 0o077, uid := 0, gid := 0 } { pkMode := 0o600 } fs
        .privateKey "k.pem".toList [1, 2, 3]).result = .ok ∧
      f.mode = 0o644 :=
  ⟨[("k.pem".toList, { content := [], mode := 0o644, uid := 0, gid := 0 })],
   { content := [1, 2, 3], mode := 0o644, uid := 0, gid := 0 }, by decide⟩

/-! ### C13.2: owner and group -/

/-- **C13.2.** After a successful write of a key or certificate file, owner and group are the
configured ones, resolved (`resolve`: a string of digits is the id itself, anything else is looked
up by name), and unchanged — the process' for a new file, the previous ones otherwise — where
nothing is configured, where the NAME is unknown (`resolve … = some none`), or where the id is
`4294967295 = (uid_t)-1` (`applyId`). -/
theorem owner_set (trunc : Trunc) (env : Env) (proc : Proc) (s : Settings) (fs : Fs)
    (t : FileType) (p : Path) (data : List UInt8) (ht : t ≠ .account)
    (hok : (writeFile trunc env proc s fs t p data).result = .ok) :
    ∃ f u g wu wg, get (writeFile trunc env proc s fs t p data).fs p = some f ∧
      ownerCfg s t = some (u, g) ∧
      resolve env.lookupUser u = some wu ∧ resolve env.lookupGroup g = some wg ∧
      f.uid = applyId wu (baseUid proc (get fs p)) ∧
      f.gid = applyId wg (baseGid proc (get fs p)) := by
  have hpre := writeFile_ok_pre hok
  rw [writeFile_passed hpre] at hok ⊢
  -- `set_owner` did not fail, and for a key or certificate it resolved both names
  cases hids : ownerIds env s t with
  | error e => rw [hids] at hok; cases hok
  | ok ids =>
    obtain ⟨hu, hg⟩ := finalFile_ids (trunc := trunc) (proc := proc) (old := get fs p) (data := data) hids
    rw [ownerIds_eq_ok] at hids
    cases hc : ownerCfg s t with
    | none => cases t <;> simp [ownerCfg] at hc ht
    | some ug =>
      rw [hc] at hids
      obtain ⟨wu, wg, hru, hrg, _, rfl⟩ := hids
      exact ⟨_, ug.1, ug.2, wu, wg, get_set_same _ _ _, rfl, hru, hrg,
        hu.trans (congrArg (applyId wu) baseFile_uid), hg.trans (congrArg (applyId wg) baseFile_gid)⟩

theorem applyId_some (n old : Nat) (h : n ≠ 4294967295) : applyId (some n) old = n := by
  rw [applyId_eq_newId]; exact if_neg h

theorem applyId_none (old : Nat) : applyId none old = old := rfl

/-- Digits ⇒ the number itself, the passwd/group database is never consulted; otherwise ⇒ the
database answer, never parsed as a number. -/
theorem numeric_vs_name (lookup lookup' : List Char → Option Nat) (str : List Char) :
    (allDigits str = true → resolve lookup (some str) = resolve lookup' (some str) ∧
       resolve lookup (some str) = (parseU32 str).map some) ∧
    (allDigits str = false → resolve lookup (some str) = some (lookup str)) := by
  constructor
  · intro h
    simp only [resolve, h, if_true]
    cases parseU32 str <;> simp
  · intro h
    simp [resolve, h]

/-- `parseU32` on digits is the decimal value when it fits `u32`, an error otherwise (including
the empty string, which "consists only of digits"). -/
theorem parseU32_spec (str : List Char) :
    parseU32 str = if str ≠ [] ∧ digitsVal str < 2 ^ 32 then some (digitsVal str) else none := by
  unfold parseU32
  cases str with
  | nil => rfl
  | cons c r => simp

/-- An unknown NAME is not an error: the write succeeds and the owner is left unchanged
(`User::from_name` ⇒ `Ok(None)`, storage.rs:159-160). -/
theorem unknown_name_is_silent (lookup : List Char → Option Nat) (name : List Char)
    (hname : allDigits name = false) (hunk : lookup name = none) :
    resolve lookup (some name) = some none := by
  simp [resolve, hname, hunk]

/-- A configured owner that is empty or does not fit `u32` makes `write_file` fail — AFTER the
file was opened, truncated and written (and without running the post hooks). -/
theorem bad_numeric_fails_after_write (env : Env) (proc : Proc) (s : Settings) (fs : Fs)
    (p : Path) (data : List UInt8) (str : List Char) (hs : s.pkUser = some str)
    (hd : allDigits str = true) (hbad : parseU32 str = none)
    (hpre : env.hookOk (preHook (get fs p).isNone) = true) :
    (writeFile .yes env proc s fs .privateKey p data).result = .err .parseUid ∧
    contentAt (writeFile .yes env proc s fs .privateKey p data).fs p = some data := by
  have hids : ownerIds env s .privateKey = .error .parseUid := by
    simp [ownerIds, ownerCfg, hs, resolve, hd, hbad]
  refine ⟨?_, ?_⟩
  · rw [writeFile_passed hpre, hids]
  · rw [writeFile_contentAt, writeFile_wrote, hpre]; simp [overwrite_nil]

/-- Account files are never re-owned: no `chown` event whatever is configured, and owner/group are
the previous ones (the process' for a new file) — even when `chown` would fail. -/
theorem account_never_chowned (trunc : Trunc) (env : Env) (proc : Proc) (s : Settings) (fs : Fs)
    (p : Path) (data : List UInt8) :
    (∀ u g, Event.chowned u g ∉ (writeFile trunc env proc s fs .account p data).events) ∧
    (env.hookOk (preHook (get fs p).isNone) = true →
      ∃ f, get (writeFile trunc env proc s fs .account p data).fs p = some f ∧
        f.uid = baseUid proc (get fs p) ∧ f.gid = baseGid proc (get fs p) ∧
        ((writeFile trunc env proc s fs .account p data).result = .ok ↔
          env.hookOk (postHook (get fs p).isNone) = true)) := by
  cases h : env.hookOk (preHook (get fs p).isNone) with
  | false =>
    rw [writeFile_pre_failed h]
    exact ⟨by simp, nofun⟩
  | true =>
    obtain ⟨hu, hg⟩ := finalFile_ids (trunc := trunc) (proc := proc) (old := get fs p) (data := data)
      (ownerIds_account (env := env) (s := s))
    rw [writeFile_passed h]
    refine ⟨fun u g => by simp [ownerIds_account, chownEvents],
      fun _ => ⟨_, get_set_same _ _ _, hu.trans baseFile_uid, hg.trans baseFile_gid, ?_⟩⟩
    cases env.hookOk (postHook (get fs p).isNone) <;> simp [ownerIds_account]

/-- `stat_meets_spec`/`owner_set` hypotheses are satisfiable with a named user and a numeric group
on an existing file owned by somebody else. -/
example :
    let env := Env.ofTables true true true true [("acme".toList, 1000)] [] true
    let fs : Fs := [("k.pem".toList, { content := [9], mode := 0o640, uid := 5, gid := 6 })]
    let out := writeFile .yes env { umask := 0o022, uid := 0, gid := 0 }
      { pkUser := some "acme".toList, pkGroup := some "2000".toList } fs .privateKey "k.pem".toList [1]
    out.result = .ok ∧
    get out.fs "k.pem".toList = some { content := [1], mode := 0o640, uid := 1000, gid := 2000 } := by
  decide

/-- `bad_numeric_fails_after_write` is not vacuous: the empty string. -/
example : allDigits [] = true ∧ parseU32 [] = none ∧
    allDigits "4294967296".toList = true ∧ parseU32 "4294967296".toList = none ∧
    parseU32 "0042".toList = some 42 := by
  decide

end AcmedVerif.Props.C13
