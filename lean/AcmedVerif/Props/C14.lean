/-
C14 — the most specific setting wins; included files merge as documented; unresolved references
and duplicate certificate ids are rejected at start-up.

Model: Model/Config.lean (`readCnf`, `effective*`, `expandHook`, `build`); vocabulary and judge:
Spec/C14.lean; helper lemmas: Lemmas/Config.lean.  Every theorem is for ALL trees / sections /
values; the fuel arguments of the model are shown never to run out.
-/
import AcmedVerif.Lemmas.Config

namespace AcmedVerif.Props.C14
open AcmedVerif.Config AcmedVerif.Spec.C14

/-! ## Clause 1: the most specific value given wins -/

/-- renew_delay, random_early_renew, file_name_format: for every certificate whose endpoint exists,
every presence pattern and all values, the getter returns the most specific value given
(certificate ▸ endpoint ▸ global ▸ built-in default); the directory: certificate ▸ global ▸
built-in default (and its getter cannot fail). -/
theorem precedence (cfg : Config) (c : Certificate) (ep : Endpoint)
    (hep : findEndpoint cfg c.endpoint = some ep) :
    effectiveRenewDelay cfg c =
      .ok (mostSpecific [c.renewDelay, ep.renewDelay, optGet .renew_delay cfg.global]) ∧
    effectiveRandomEarlyRenew cfg c =
      .ok (mostSpecific [c.randomEarlyRenew, ep.randomEarlyRenew,
        optGet .random_early_renew cfg.global]) ∧
    effectiveFileNameFormat cfg c =
      .ok (mostSpecific [c.fileNameFormat, ep.fileNameFormat,
        optGet .file_name_format cfg.global]) ∧
    effectiveDirectory cfg c =
      mostSpecific [c.directory, optGet .certificates_directory cfg.global] :=
  ⟨certLevel_found cfg c _ _ _ ep hep, certLevel_found cfg c _ _ _ ep hep,
   certLevel_found cfg c _ _ _ ep hep, effectiveDirectory_eq cfg c⟩

/-- A value set on the certificate wins whatever else is (or is not) configured — even when the
certificate's endpoint does not exist. -/
theorem precedence_certificate (cfg : Config) (c : Certificate) :
    (∀ v, c.renewDelay = some v → effectiveRenewDelay cfg c = .ok (.given v)) ∧
    (∀ v, c.randomEarlyRenew = some v → effectiveRandomEarlyRenew cfg c = .ok (.given v)) ∧
    (∀ v, c.fileNameFormat = some v → effectiveFileNameFormat cfg c = .ok (.given v)) ∧
    (∀ v, c.directory = some v → effectiveDirectory cfg c = .given v) := by
  refine ⟨?_, ?_, ?_, ?_⟩ <;> intro v hv
  · simp [effectiveRenewDelay, hv, certLevel_given]
  · simp [effectiveRandomEarlyRenew, hv, certLevel_given]
  · simp [effectiveFileNameFormat, hv, certLevel_given]
  · simp [effectiveDirectory, hv]

/-- The guard the real getters have: when the certificate does not set the value and its endpoint
does not exist, the getter fails ("unknown endpoint") instead of falling through to the global
level. -/
theorem precedence_unknown_endpoint (cfg : Config) (c : Certificate)
    (hep : findEndpoint cfg c.endpoint = none) :
    (c.renewDelay = none → effectiveRenewDelay cfg c = .error (.unknownEndpoint c.endpoint)) ∧
    (c.randomEarlyRenew = none →
      effectiveRandomEarlyRenew cfg c = .error (.unknownEndpoint c.endpoint)) ∧
    (c.fileNameFormat = none →
      effectiveFileNameFormat cfg c = .error (.unknownEndpoint c.endpoint)) := by
  refine ⟨?_, ?_, ?_⟩ <;> intro hv
  · simp [effectiveRenewDelay, hv, certLevel_unknown _ _ _ _ hep]
  · simp [effectiveRandomEarlyRenew, hv, certLevel_unknown _ _ _ _ hep]
  · simp [effectiveFileNameFormat, hv, certLevel_unknown _ _ _ _ hep]

theorem mostSpecific_spec (ls : List (Option Val)) :
    (∀ v, mostSpecific ls = .given v ↔
      ∃ before after, ls = before ++ some v :: after ∧ ∀ x, x ∈ before → x = none) ∧
    (mostSpecific ls = .builtin ↔ ∀ x, x ∈ ls → x = none) := by
  have hfind : mostSpecific ls = Setting.ofOption (ls.findSome? id) := by
    induction ls with
    | nil => rfl
    | cons a ls ih =>
      cases a with
      | none => rw [mostSpecific, ih]; rfl
      | some v => rfl
  rw [hfind]
  refine ⟨fun v => ?_, ?_⟩
  · have : Setting.ofOption (ls.findSome? id) = .given v ↔ ls.findSome? id = some v := by
      cases ls.findSome? id <;> simp [Setting.ofOption]
    rw [this, List.findSome?_eq_some_iff]
    exact ⟨fun ⟨l₁, _, l₂, h, ha, hn⟩ => ⟨l₁, l₂, ha ▸ h, hn⟩, fun ⟨l₁, l₂, h, hn⟩ => ⟨l₁, _, l₂, h, rfl, hn⟩⟩
  · have : Setting.ofOption (ls.findSome? id) = .builtin ↔ ls.findSome? id = none := by
      cases ls.findSome? id <;> simp [Setting.ofOption]
    rw [this, List.findSome?_eq_none_iff]
    rfl

/-! ## Clause 2: sections from all files are merged, each file is read once -/

/-- For every include graph — cycles, repeats, missing files — loading with fuel
`number of files + 1` never runs out of fuel (invariant `fuel + |loaded| ≥ |files| + 1`), at
whatever nesting level `depth` the call is made (`from_file` calls with 0). -/
theorem include_terminates {π : Type} (files : Files π) (resolve : Path → π → List Path)
    (main : Path) (depth : Nat) :
    readCnf files resolve (loadFuel files) depth main [] ≠ .error .outOfFuel :=
  readCnf_fuel files resolve _ depth main [] (LoadInv.init files)

/-- The fuel is a proof device, not a bound on behaviour: any larger fuel gives the same answer. -/
theorem include_fuel_irrelevant {π : Type} (files : Files π) (resolve : Path → π → List Path)
    (main : Path) (depth extra : Nat) :
    readCnf files resolve (loadFuel files + extra) depth main [] =
      readCnf files resolve (loadFuel files) depth main [] :=
  readCnf_more_fuel files resolve _ extra depth main [] (include_terminates files resolve main depth)

/-- Hence loading answers with a configuration, a missing-file error or an "includes are nested too
deeply" error (the depth test of 537f12e), nothing else. -/
theorem load_total {π : Type} (files : Files π) (resolve : Path → π → List Path) (main : Path) :
    (∃ cfg, fromFile files resolve main = .ok cfg) ∨
    (∃ p, fromFile files resolve main = .error (.fileNotFound p)) ∨
    (∃ p, fromFile files resolve main = .error (.includeTooDeep p)) := by
  unfold fromFile
  cases h : readCnf files resolve (loadFuel files) 0 main [] with
  | ok r => exact .inl ⟨_, rfl⟩
  | error e =>
    rcases readCnf_error_class files resolve _ _ _ _ _ h with hk | ⟨q, hq⟩ | ⟨q, hq⟩
    · subst hk; exact absurd h (include_terminates files resolve main 0)
    · subst hq; exact .inr (.inl ⟨q, rfl⟩)
    · subst hq; exact .inr (.inr ⟨q, rfl⟩)

/-- Each file is read once: the files read are pairwise different; all of them exist; a file that
is already loaded contributes nothing and changes nothing when it is met again within the depth
limit — and met again deeper than the limit it is an error like any other file there (the depth
test of `read_cnf` comes before its "already loaded" test). -/
theorem each_file_once {π : Type} (files : Files π) (resolve : Path → π → List Path) :
    (∀ fuel depth main cfg order, readCnf files resolve fuel depth main [] = .ok (cfg, order) →
      order.Nodup ∧ ∀ p, p ∈ order → (lookupFile files p).isSome = true) ∧
    (∀ fuel depth path loaded fc, lookupFile files path = some fc → depth ≤ maxIncludeDepth →
      path ∈ loaded → readCnf files resolve fuel depth path loaded = .ok (Config.empty, loaded)) ∧
    (∀ fuel depth path loaded fc, lookupFile files path = some fc → depth > maxIncludeDepth →
      readCnf files resolve fuel depth path loaded = .error (.includeTooDeep path)) := by
  refine ⟨?_, ?_, ?_⟩
  · intro fuel depth main cfg order h
    obtain ⟨new, rfl, hd, _⟩ := readCnf_spec files resolve fuel depth main [] cfg order h
    exact ⟨hd.nodup_fresh_exists.1, hd.nodup_fresh_exists.2.2⟩
  · intro fuel depth path loaded fc hf hd hm
    rw [readCnf_eq, hf]
    exact (if_neg (Nat.not_lt.mpr hd)).trans (if_pos hm)
  · intro fuel depth path loaded fc hf hd
    rw [readCnf_eq, hf]
    exact if_pos hd

/-- Sections from all files are merged: the files read are exactly the depth-first first-visit
order `order` of the include graph from the main file (which is determined by the tree, contains
the main file and is closed under "includes"), and each of the six section lists of the result is
the concatenation, over `order`, of what each file itself contains. -/
theorem sections_merged {π : Type} (files : Files π) (resolve : Path → π → List Path)
    (fuel depth : Nat) (main : Path) (cfg : Config) (order : List Path)
    (h : readCnf files resolve fuel depth main [] = .ok (cfg, order)) :
    DfsList files resolve [main] [] order ∧
    (∀ order', DfsList files resolve [main] [] order' → order' = order) ∧
    main ∈ order ∧
    (∀ p, p ∈ order → ∀ fc, lookupFile files p = some fc →
      ∀ q, q ∈ includePaths resolve p fc → q ∈ order) ∧
    cfg.endpoints = order.flatMap (fun p => (ownOf files p).endpoints) ∧
    cfg.rateLimits = order.flatMap (fun p => (ownOf files p).rateLimits) ∧
    cfg.hooks = order.flatMap (fun p => (ownOf files p).hooks) ∧
    cfg.groups = order.flatMap (fun p => (ownOf files p).groups) ∧
    cfg.accounts = order.flatMap (fun p => (ownOf files p).accounts) ∧
    cfg.certificates = order.flatMap (fun p => (ownOf files p).certificates) := by
  obtain ⟨new, rfl, hd, he⟩ := readCnf_spec files resolve fuel depth main [] cfg order h
  have hc := hd.closed
  simp only [List.nil_append, List.mem_singleton, forall_eq] at hc
  refine ⟨hd, fun o ho => ho.unique hd, hc.1, hc.2, ?_, ?_, ?_, ?_, ?_, ?_⟩
  · simpa [Config.empty] using he.endpoints
  · simpa [Config.empty] using he.rateLimits
  · simpa [Config.empty] using he.hooks
  · simpa [Config.empty] using he.groups
  · simpa [Config.empty] using he.accounts
  · simpa [Config.empty] using he.certificates

/-! ## Clause 3: a global option set in a later-included file overrides earlier ones -/

/-- Every field of `struct GlobalOptions` is assigned in the merge block of `read_cnf`: a membership fact about
the two lists extracted from the source text on every run (the merge semantics is `later_global_wins`). -/
theorem later_global_wins_full : ∀ o, o ∈ Gen.globalOptions → o ∈ Gen.mergedOptions := by decide +kernel

theorem globalMerge_complete : globalMergeComplete = true ∧ globalMergeMissing = [] := by
  have h := later_global_wins_full
  exact ⟨by simpa [globalMergeComplete] using h, by simpa [globalMergeMissing] using h⟩

/-- Every option the model enumerates is a field of the struct, in the struct's order (nothing
invented, nothing the code dropped) … -/
theorem model_options_match_source :
    (GlobalOpt.all.map GlobalOpt.name).Sublist Gen.globalOptions := by
  decide +kernel

/-- … and the fields the model does NOT know — options added to the code after the model was written;
none on the tree the model was written for (not stated as a theorem, so that a new option does not
break the proofs).  For such an option the model says nothing; `later_global_wins_full` (from the
regenerated lists alone) still shows it is merged. -/
def unmodelledOptions : List String :=
  Gen.globalOptions.filter fun o => !(GlobalOpt.all.map GlobalOpt.name).contains o

/-- Every field of the struct is either modelled or listed as unmodelled (which is how the list is
defined) — and merged in both cases. -/
theorem every_source_option_accounted_for :
    ∀ o, o ∈ Gen.globalOptions →
      (o ∈ GlobalOpt.all.map GlobalOpt.name ∨ o ∈ unmodelledOptions) ∧ o ∈ Gen.mergedOptions := by
  intro o ho
  refine ⟨?_, later_global_wins_full o ho⟩
  by_cases hm : o ∈ GlobalOpt.all.map GlobalOpt.name
  · exact .inl hm
  · exact .inr (List.mem_filter.mpr ⟨ho, by simpa using hm⟩)

theorem model_merges_every_option : ∀ o : GlobalOpt, o ∈ mergedOptions := by
  have h : ∀ o, o ∈ GlobalOpt.all → o ∈ mergedOptions := by decide +kernel
  intro o
  exact h o (by cases o <;> decide)

/-- Semantics of the merge, for every option the merge block assigns: after loading, the option
holds the value of the LAST file in depth-first include order that sets it (the including file
counts as earliest); unset if no file sets it. -/
theorem later_global_wins {π : Type} (files : Files π) (resolve : Path → π → List Path)
    (fuel depth : Nat) (main : Path) (cfg : Config) (order : List Path)
    (h : readCnf files resolve fuel depth main [] = .ok (cfg, order))
    (o : GlobalOpt) (hm : o ∈ mergedOptions) (ho : o ≠ .env) :
    optGet o cfg.global = lastSome (order.map fun p => optGet o (ownOf files p).global) := by
  obtain ⟨new, rfl, _, he⟩ := readCnf_spec files resolve fuel depth main [] cfg order h
  simpa [Config.empty, optGet] using he.opt o hm ho

/-- Same for the `env` map, key by key: the value of the last file that binds the key. -/
theorem later_global_wins_env {π : Type} (files : Files π) (resolve : Path → π → List Path)
    (fuel depth : Nat) (main : Path) (cfg : Config) (order : List Path)
    (h : readCnf files resolve fuel depth main [] = .ok (cfg, order))
    (hm : GlobalOpt.env ∈ mergedOptions) (k : String) :
    envLookup k (envOf cfg.global) =
      envLookup k (order.flatMap fun p => envOf (ownOf files p).global) := by
  obtain ⟨new, rfl, _, he⟩ := readCnf_spec files resolve fuel depth main [] cfg order h
  simpa [Config.empty, envOf, envLookup_nil] using he.env hm k

/-- All 15 options being merged (`model_merges_every_option`): every option, no side condition. -/
theorem later_global_wins_all {π : Type} (files : Files π) (resolve : Path → π → List Path)
    (fuel depth : Nat) (main : Path) (cfg : Config) (order : List Path)
    (h : readCnf files resolve fuel depth main [] = .ok (cfg, order)) :
    (∀ o : GlobalOpt, o ≠ .env →
      optGet o cfg.global = lastSome (order.map fun p => optGet o (ownOf files p).global)) ∧
    (∀ k, envLookup k (envOf cfg.global) =
      envLookup k (order.flatMap fun p => envOf (ownOf files p).global)) :=
  ⟨fun o ho => later_global_wins files resolve fuel depth main cfg order h o (model_merges_every_option o) ho,
   fun k => later_global_wins_env files resolve fuel depth main cfg order h (model_merges_every_option _) k⟩

theorem lastSome_spec {α : Type} (l : List (Option α)) :
    (∀ v, lastSome l = some v ↔
      ∃ before after, l = before ++ some v :: after ∧ ∀ x, x ∈ after → x = none) ∧
    (lastSome l = none ↔ ∀ x, x ∈ l → x = none) := by
  refine ⟨fun v => ?_, ?_⟩
  · unfold lastSome
    rw [List.findSome?_eq_some_iff]
    constructor
    · rintro ⟨l₁, _, l₂, hrev, rfl, hn⟩
      exact ⟨l₂.reverse, l₁.reverse, by rw [List.reverse_eq_iff.mp hrev]; simp,
        fun x hx => hn x (List.mem_reverse.mp hx)⟩
    · rintro ⟨before, after, rfl, hn⟩
      exact ⟨after.reverse, _, before.reverse, by simp, rfl, fun x hx => hn x (List.mem_reverse.mp hx)⟩
  · unfold lastSome
    rw [List.findSome?_eq_none_iff]
    simp

/-- `dispatch_global_env_vars`: a certificate's own binding of a key wins over the global one. -/
theorem env_dispatch (cfg : Config) (g : Global) (hg : cfg.global = some g) (k : String) :
    (dispatchGlobalEnv cfg).certificates.map (fun c => envLookup k c.env) =
      cfg.certificates.map (fun c => (envLookup k c.env).or (envLookup k g.env)) := by
  simp [dispatchGlobalEnv, hg, envLookup_append, Function.comp_def]

/-! ## Clause 4: unresolved references and duplicate certificate ids are rejected -/

/-- If start-up succeeds then every certificate's endpoint, every rate limit of that endpoint, its
account and every hook or group it names (transitively through groups) resolve, the same for the
hooks of every account, and certificate ids are pairwise distinct.  Contrapositive: any such
unresolved reference, or a duplicate id, makes `build` fail. -/
theorem refs_checked (cfg : Config) (b : Built) (h : build cfg = .ok b) :
    (∀ c, c ∈ cfg.certificates → CertRefsOk cfg c) ∧
    (∀ a, a ∈ cfg.accounts → ∀ hk, hk ∈ a.hooks → Resolves cfg hk) ∧
    (cfg.certificates.map (·.crtId)).Nodup := by
  obtain ⟨ha, hc⟩ := build_ok h
  obtain ⟨hcs, hnd, _⟩ := (buildCerts_isOk _ _).mp ⟨_, hc⟩
  refine ⟨fun c hcm => ?_, fun a ham hk hkm => ((buildAccounts_isOk _).mp ⟨_, ha⟩ a ham hk hkm).resolves, hnd⟩
  obtain ⟨hb, hacc⟩ := hcs c hcm
  obtain ⟨hep, hw⟩ := buildCert_isOk.mp hb
  exact ⟨hep, hacc, fun hk hkm => (hw hk hkm).resolves⟩

/-- Start-up also succeeds only if every hook or group a certificate or an account names stays within
the two limits of `get_hook_rec` (537f12e, a9033b3) (`WithinLimits`: no group entered under
MAX_HOOK_GROUP_DEPTH or more enclosing groups, at most MAX_HOOK_GROUP_MEMBERS members visited by the
expansion of one name). -/
theorem limits_checked (cfg : Config) (b : Built) (h : build cfg = .ok b) : WithinLimits cfg := by
  obtain ⟨ha, hc⟩ := build_ok h
  exact ⟨fun c hcm => (buildCert_isOk.mp (((buildCerts_isOk _ _).mp ⟨_, hc⟩).1 c hcm).1).2,
    (buildAccounts_isOk _).mp ⟨_, ha⟩⟩

/-- Converse: the model rejects ONLY for those reasons — so `build` errs exactly when a reference
a certificate or an account depends on does not resolve, a certificate id is repeated, or a hook group
is nested or visited beyond the limits of 537f12e / a9033b3.  (Without the last conjunct the equivalence is
false: `Props.C19Depth.chain_rejected_above_limit` is a configuration in which everything resolves and
`build` errs.) -/
theorem rejects_exactly (cfg : Config) :
    (∃ b, build cfg = .ok b) ↔
      ((∀ c, c ∈ cfg.certificates → CertRefsOk cfg c) ∧
       (∀ a, a ∈ cfg.accounts → ∀ hk, hk ∈ a.hooks → Resolves cfg hk) ∧
       (cfg.certificates.map (·.crtId)).Nodup ∧
       WithinLimits cfg) := by
  constructor
  · rintro ⟨b, h⟩
    obtain ⟨h₁, h₂, h₃⟩ := refs_checked cfg b h
    exact ⟨h₁, h₂, h₃, limits_checked cfg b h⟩
  · rintro ⟨hc, _, hnd, hwc, hwa⟩
    obtain ⟨accs, haccs⟩ := (buildAccounts_isOk _).mpr hwa
    obtain ⟨certs, hcerts⟩ := (buildCerts_isOk cfg.certificates []).mpr
      ⟨fun c hcm => ⟨buildCert_isOk.mpr ⟨(hc c hcm).1, hwc c hcm⟩, (hc c hcm).2.1⟩, hnd,
        fun _ _ => List.not_mem_nil⟩
    exact ⟨{ accounts := accs, certificates := certs }, by simp [build, haccs, hcerts]⟩

theorem mustReject_iff (cfg : Config) :
    mustReject cfg = true ↔
      ¬ ((∀ c, c ∈ cfg.certificates → CertRefsOk cfg c) ∧
         (∀ a, a ∈ cfg.accounts → ∀ hk, hk ∈ a.hooks → Resolves cfg hk) ∧
         (cfg.certificates.map (·.crtId)).Nodup ∧
         WithinLimits cfg) := by
  rw [← rejects_exactly]
  unfold mustReject
  cases h : build cfg with
  | ok b => simp [Except.isOk, Except.toBool]
  | error e => simp [Except.isOk, Except.toBool]

/-- `get_hook_rec` never answers "out of fuel" on any repetition-free path of group names, with fuel covering
the groups not yet on the path (a path without repetition is at most `#groups` long), whatever the budget. -/
theorem expand_total_path (cfg : Config) (fuel : Nat) (parents : List String) (budget : Nat) (name : String)
    (hnd : parents.Nodup) (hsub : ∀ p, p ∈ parents → p ∈ cfg.groups.map (·.name))
    (hfuel : cfg.groups.length + 1 ≤ fuel + parents.length) :
    expandHook cfg fuel parents budget name ≠ .error .outOfFuel :=
  expandHook_fuel cfg fuel parents budget name ⟨hnd, hsub, hfuel⟩

/-- `Config::get_hook` never answers "out of fuel": the fuel of the model is enough for any group graph. -/
theorem expand_total (cfg : Config) (name : String) :
    getHook cfg name ≠ .error .outOfFuel := by
  intro h
  exact expandHook_fuel cfg _ [] _ name (PathInv.init cfg) (getHook_error h)

/-- A group met again on its own expansion path is an error ("hook group contains itself" — unless
the budget of visits is already used up, which is tested first and is an error too); a group that
reaches itself through memberships — and any name that reaches such a group — never expands, for
any fuel, any starting path and any budget; with the standard fuel the answer is an error other
than "out of fuel": rejection, never divergence. -/
theorem expand_rejects_cycles (cfg : Config) :
    (∀ fuel parents budget name g, findHook cfg name = none → findGroup cfg name = some g →
      name ∈ parents → expandHook cfg fuel parents (budget + 1) name = .error (.groupCycle name)) ∧
    (∀ g, Reach cfg g g → ∀ fuel parents budget res, expandHook cfg fuel parents budget g ≠ .ok res) ∧
    (∀ a g, Reach cfg a g → Reach cfg g g →
      ∀ fuel parents budget res, expandHook cfg fuel parents budget a ≠ .ok res) ∧
    (∀ g, Reach cfg g g → ∃ e, getHook cfg g = .error e ∧ e ≠ .outOfFuel) := by
  refine ⟨fun fuel parents budget name g hh hg hm => expandHook_on_path hh hg hm fuel budget,
    fun g hc fuel parents budget res h => (expandHook_ok_resolves h).acyclic g hc rfl,
    fun a g ha hc fuel parents budget res h => ((expandHook_ok_resolves h).of_reach ha).acyclic g hc rfl, ?_⟩
  intro g hc
  cases h : getHook cfg g with
  | ok r =>
    obtain ⟨b, hb⟩ := getHook_ok h
    exact ((expandHook_ok_resolves hb).acyclic g hc rfl).elim
  | error e =>
    refine ⟨e, rfl, ?_⟩
    intro he; subst he
    exact expand_total cfg g h

/-- What a successful expansion is: each name in declaration order, a hook name denotes that hook
(hooks shadow groups of the same name), a group name denotes the concatenation of what its members
denote; the denotation is unique, so it depends neither on the fuel, nor on the path, nor on the
budget (which only decides WHETHER the expansion succeeds). -/
theorem expand_order (cfg : Config) :
    (∀ names r, getHooks cfg names = .ok r → ExpandsList cfg names r) ∧
    (∀ fuel parents budget n r b, expandHook cfg fuel parents budget n = .ok (r, b) → ExpandsList cfg [n] r) ∧
    (∀ names r r', ExpandsList cfg names r → ExpandsList cfg names r' → r = r') ∧
    (∀ fuel parents budget n h, findHook cfg n = some h →
      expandHook cfg fuel parents (budget + 1) n = .ok ([h], budget)) ∧
    (∀ (rec : String → Except Err (List Hook)) ns r, expandNames rec ns = .ok r ↔
      ∃ rs : List (List Hook), ns.map rec = rs.map .ok ∧ r = rs.flatten) := by
  refine ⟨fun names r h => getHooks_denotes h, expandHook_denotes cfg,
    fun names r r' h h' => h.unique h', ?_, expandNames_ok⟩
  intro fuel parents budget n h hh
  exact expandHook_hook hh fuel parents budget

/-- If the model starts, the dump it predicts passes the judge; if it rejects, "rejected" passes. -/
theorem model_satisfies_judge (d : Defaults) (cfg : Config) :
    (∀ b, build cfg = .ok b → holds d cfg (.started (b.certificates.map (CertObs.ofBuilt d))) = true) ∧
    (∀ e, build cfg = .error e → holds d cfg .rejected = true) := by
  refine ⟨?_, ?_⟩
  · intro b h
    have hnd := (refs_checked cfg b h).2.2
    simp only [holds, startsIff, mustReject, h, Except.isOk, Except.toBool, Bool.not_true,
      beq_self_eq_true, Bool.true_and]
    rw [buildCerts_obs d _ _ _ (build_ok h).2]
    exact holdsSettings_expected d cfg hnd
  · intro e h
    simp [holds, startsIff, mustReject, h, Except.isOk, Except.toBool]

/-- The judge's first clause is exactly the model's getters on any configuration that starts. -/
theorem judge_expected_is_effective (d : Defaults) (cfg : Config) (b : Built)
    (h : build cfg = .ok b) :
    b.certificates.map (CertObs.ofBuilt d) = cfg.certificates.map (expectedCert d cfg) :=
  buildCerts_obs d _ _ _ (build_ok h).2

section Examples

private def ep : Endpoint := { name := "le", renewDelay := some "10d", rateLimits := ["r1"] }
private def c1 : Certificate :=
  { crtId := "a_rsa2048", account := "acc", endpoint := "le", hooks := ["g"], renewDelay := some "1d" }
private def c2 : Certificate := { crtId := "b_rsa2048", account := "acc", endpoint := "le", hooks := ["h1"] }

/-- main (0) includes 1 and 2, then 1 again; 1 includes 0 (cycle) and 2; `[global]` is split over
the three files. -/
private def tree : List (Nat × FileContent (List Nat)) := [
  (0, { global := some { renew_delay := some "20d", env := [("A", "0")] },
        includes := [[1, 2], [1]], certificates := [c1] }),
  (1, { global := some { renew_delay := some "21d", cert_file_ext := some "pem",
                         env := [("A", "1"), ("B", "1")] },
        endpoints := [ep], includes := [[0, 2]], hooks := [{ name := "h1" }] }),
  (2, { global := some { file_name_format := some "ff", env := [("B", "2")] },
        accounts := [{ name := "acc" }],
        rateLimits := [{ name := "r1", number := 1, period := "1s" }],
        groups := [{ name := "g", hooks := ["h1", "g2"] }, { name := "g2", hooks := ["h1"] }],
        certificates := [c2] })]

/-- What the tree loads to: `[global]` merged (the later file wins, `env` entries accumulate), the
sections appended in first-read order 0, 1, 2, the global `env` handed to every certificate.  Evaluated
once here, so that the examples below do not each run the merge block again. -/
private def merged : Config :=
  { global := some { renew_delay := some "21d", cert_file_ext := some "pem", file_name_format := some "ff",
                     env := [("A", "0"), ("A", "1"), ("B", "1"), ("B", "2")] },
    endpoints := [ep], rateLimits := [{ name := "r1", number := 1, period := "1s" }],
    hooks := [{ name := "h1" }],
    groups := [{ name := "g", hooks := ["h1", "g2"] }, { name := "g2", hooks := ["h1"] }],
    accounts := [{ name := "acc" }],
    certificates := [{ c1 with env := [("A", "0"), ("A", "1"), ("B", "1"), ("B", "2")] },
                     { c2 with env := [("A", "0"), ("A", "1"), ("B", "1"), ("B", "2")] }] }

theorem loadTreeOrder_tree : loadTreeOrder tree 0 = .ok (merged, [0, 1, 2]) := by
  -- `Except` has no `DecidableEq`: evaluated as an `Option`
  have h : (loadTreeOrder tree 0).toOption = some (merged, [0, 1, 2]) := by decide +kernel
  cases hl : loadTreeOrder tree 0 with
  | error e => rw [hl] at h; cases h
  | ok r => rw [hl] at h; cases h; rfl

theorem loadTree_tree : loadTree tree 0 = .ok merged := loadTree_of_order loadTreeOrder_tree

example : (loadTreeOrder tree 0).toOption.map (·.2) = some [0, 1, 2] := by rw [loadTreeOrder_tree]; rfl
example : (loadTree tree 0).toOption.map (·.certificates.map (·.crtId)) =
    some ["a_rsa2048", "b_rsa2048"] := by rw [loadTree_tree]; rfl
example : (loadTree tree 0).toOption.map (fun c => optGet .renew_delay c.global) =
    some (some "21d") := by rw [loadTree_tree]; rfl
example : (loadTree tree 0).toOption.map (fun c => envLookup "B" (envOf c.global)) =
    some (some "2") := by rw [loadTree_tree]; decide +kernel
example : (startUp tree 0).toOption.map (·.certificates.map (·.renewDelay)) =
    some [.given "1d", .given "10d"] := by rw [startUp, loadTree_tree]; decide +kernel
example : (startUp tree 0).toOption.map (·.certificates.map (·.fileNameFormat)) =
    some [.given "ff", .given "ff"] := by rw [startUp, loadTree_tree]; decide +kernel
example : (startUp tree 0).toOption.map (·.certificates.map (·.directory)) =
    some [.builtin, .builtin] := by rw [startUp, loadTree_tree]; decide +kernel
example : (startUp tree 0).toOption.map (·.certificates.map (·.hooks.length)) = some [2, 1] := by
  rw [startUp, loadTree_tree]; decide +kernel

/-- A missing include is an error; an empty glob is not. -/
example : loadTree [(0, { includes := [[7]] })] 0 = .error (.fileNotFound 7) := by rfl
example : (loadTree [(0, { includes := [[]] })] 0).isOk = true := by decide +kernel

/-- Reference errors of each class, and a duplicate id. -/
private def base : Config :=
  { endpoints := [ep], rateLimits := [{ name := "r1", number := 1, period := "1s" }],
    hooks := [{ name := "h1" }], accounts := [{ name := "acc" }], certificates := [c2] }
example : (build base).isOk = true := by decide +kernel
example : build { base with endpoints := [] } = .error (.unknownEndpoint "le") := by rfl
example : build { base with rateLimits := [] } = .error (.rateLimitNotFound "r1") := by rfl
example : build { base with hooks := [] } = .error (.hookNotFound "h1") := by rfl
example : build { base with accounts := [] } = .error (.accountNotFound "acc") := by rfl
example : build { base with certificates := [c2, c2] } = .error (.duplicateCertId "b_rsa2048") := by
  rfl
example : build { base with accounts := [{ name := "acc", hooks := ["nope"] }] } =
    .error (.hookNotFound "nope") := by rfl

/-- Group cycles of length 1 and 2 are rejected; a hook shadows a group of the same name. -/
example : getHook { groups := [{ name := "g", hooks := ["g"] }] } "g" = .error (.groupCycle "g") := by
  rfl
example : getHook { groups := [{ name := "a", hooks := ["b"] }, { name := "b", hooks := ["a"] }] } "a" =
    .error (.groupCycle "a") := by rfl
example : getHook { hooks := [{ name := "x", cmd := "hook" }], groups := [{ name := "x", hooks := ["x"] }] }
    "x" = .ok [{ name := "x", cmd := "hook" }] := by rfl
example : Reach { groups := [{ name := "g", hooks := ["g"] }] } "g" "g" :=
  .step ⟨by decide, ⟨{ name := "g", hooks := ["g"] }, by decide, by decide⟩⟩

private def dflt : Defaults :=
  { renewDelay := "30d", randomEarlyRenew := "0s", fileNameFormat := "fmt", directory := "/certs" }
example : holdsTree dflt tree 0 (.started [
    { crtId := "b_rsa2048", renewDelay := "10d", randomEarlyRenew := "0s", fileNameFormat := "ff",
      directory := "/certs" },
    { crtId := "a_rsa2048", renewDelay := "1d", randomEarlyRenew := "0s", fileNameFormat := "ff",
      directory := "/certs" }]) = true := by rw [holdsTree, loadTree_tree]; decide +kernel
example : holdsTree dflt tree 0 .rejected = false := by rw [holdsTree, loadTree_tree]; decide +kernel
example : holdsTree dflt tree 0 (.started [
    { crtId := "b_rsa2048", renewDelay := "21d", randomEarlyRenew := "0s", fileNameFormat := "ff",
      directory := "/certs" },
    { crtId := "a_rsa2048", renewDelay := "1d", randomEarlyRenew := "0s", fileNameFormat := "ff",
      directory := "/certs" }]) = false := by rw [holdsTree, loadTree_tree]; decide +kernel
example : globalMergeComplete = true ∧ globalMergeMissing = [] := globalMerge_complete

end Examples

end AcmedVerif.Props.C14
