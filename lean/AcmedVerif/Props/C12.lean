/-
C12 — "For any number of certificates sharing accounts and endpoints in any pattern, and any
interleaving of their renewals and of the server's response delays, every renewal attempt
terminates, a shared account is registered once per endpoint (again only when the CA reports it
unknown), and no request on a shared endpoint re-uses a nonce consumed by another certificate's
request."

Theorems about `Model/Locks.lean`; helper lemmas in `Lemmas/Locks.lean` (register-once counters:
`Lemmas/LocksReg.lean`); judge in `Spec/C12.lean`.

Grant rules: every theorem is stated for an ARBITRARY grant rule `G`, constrained only from the
side that matters: progress needs `canGrant ⊆ G` (the lock grants at least what the most-refusing
rule grants), exclusion needs `G ⊆ safeGrant` (the lock is a reader/writer lock).  async-lock's
writer-preferring `RwLock` satisfies both (trusted, DESIGN §9); so does `canGrant` itself
(`canGrant_between`), which makes the hypotheses satisfiable.

FINDING formalised here: the tree as pinned (0.25.0) violates the first clause — see
`attempt_locks_old_full_is_false` and `self_deadlock_old`.
-/
import AcmedVerif.Lemmas.Locks
import AcmedVerif.Props.C12Reg

namespace AcmedVerif.Props.C12
open AcmedVerif.Locks
open AcmedVerif.Spec.C12

/-- The Boolean checker the harness runs on recorded traces decides exactly `WellOrdered`. -/
theorem wellOrdered_iff (rank : Nat → Nat) (p : List Op) :
    is_wellOrdered rank p = true ↔ WellOrdered rank p :=
  woB_iff rank p []

/-- `traceOk` is the hypothesis of `deadlock_free`, for acmed's ranks. -/
theorem traceOk_iff (p : List Op) : traceOk p = true ↔ WellOrdered acmedRank p :=
  wellOrdered_iff acmedRank p

/-- The traced lock does not record `io`; nothing is lost. -/
theorem wellOrdered_stripIo (rank : Nat → Nat) (p : List Op) :
    is_wellOrdered rank (stripIo p) = is_wellOrdered rank p :=
  woB_stripIo rank p []

/-- The most-refusing rule is itself an admissible lock: both side conditions are satisfiable. -/
theorem canGrant_between :
    (∀ s l m, canGrant s l m → canGrant s l m) ∧ (∀ s l m, canGrant s l m → safeGrant s l m) :=
  ⟨fun _ _ _ h => h, fun | _, _, .w, h => h | _, _, .r, h => h.1⟩

/-- One step keeps every task on its discipline, whatever the grant rule (`Inv` written out). -/
theorem step_preserves_wellOrdered (rank : Nat → Nat) (G : Grant) (s s' : Sys) (t : Nat)
    (hinv : ∀ u, WO rank (s u).held (s u).rest) (hstep : Step G s t s') :
    ∀ u, WO rank (s' u).held (s' u).rest :=
  fun u => Run.task_inv (fun _ _ => wo_exec) (Run.snoc Run.nil hstep) (hinv u)

/-- **Mutual exclusion.** From the initial state with nothing held, under any reader/writer lock,
in every reachable state: if some task holds `l` for writing then no other task holds `l` in any
mode and the writer itself holds it only as a writer.  No hypothesis on the programs. -/
theorem mutual_exclusion (G : Grant) (hG : ∀ s l m, G s l m → safeGrant s l m)
    (progs : Nat → List Op) (s : Sys) (hr : Reachable G (init progs) s)
    (t u l : Nat) (m : Mode) (hw : (l, Mode.w) ∈ (s t).held) (hh : (l, m) ∈ (s u).held) :
    u = t ∧ m = Mode.w := by
  obtain ⟨k, hk⟩ := hr
  exact mutex_run hG (mutex_init progs) hk t u l m hw hh

/-- **At most one lock per rank.** In every reachable state of a system of `WellOrdered` tasks the
locks a task holds have, from the most recent to the oldest, strictly decreasing ranks; so a task
never holds two locks of the same rank (for acmed: never two accounts, never two endpoints) and
never holds one lock twice. -/
theorem one_lock_per_rank (rank : Nat → Nat) (G : Grant)
    (progs : Nat → List Op) (hwo : ∀ t, WellOrdered rank (progs t))
    (s : Sys) (hr : Reachable G (init progs) s) (t : Nat) :
    (s t).held.Pairwise fun x y => rank y.1 < rank x.1 := by
  obtain ⟨k, hk⟩ := hr
  exact sorted_of_init hwo hk t

/-- **Deadlock freedom.** Any number of tasks (`Nat → List Op`, no finiteness assumption), any
number of locks, any rank function bounded by any `B`, any lock that grants at least what the
most-refusing writer-preferring rule grants: in every reachable state of a system whose tasks all
started `WellOrdered` with nothing held, if some task is unfinished then some task can step. -/
theorem deadlock_free (rank : Nat → Nat) (B : Nat) (hB : ∀ l, rank l < B)
    (G : Grant) (hG : ∀ s l m, canGrant s l m → G s l m)
    (progs : Nat → List Op) (hwo : ∀ t, WellOrdered rank (progs t))
    (s : Sys) (hr : Reachable G (init progs) s) (t : Nat) (ht : (s t).rest ≠ []) :
    ∃ u s', Step G s u s' := by
  obtain ⟨k, hk⟩ := hr
  exact progress hB hG (inv_of_init hwo hk) ht

/-- **Termination.** Finitely many tasks with finite programs (a list), all `WellOrdered`: along
every run each step consumes exactly one operation (`remaining + steps = total`, so no run is longer
than the total number of operations: no infinite runs), and a run that cannot be extended has
finished every task after exactly `totalOps ps` steps.  By `deadlock_free` a run can be extended as
long as `remaining ≠ 0`. -/
theorem terminates (rank : Nat → Nat) (B : Nat) (hB : ∀ l, rank l < B)
    (G : Grant) (hG : ∀ s l m, canGrant s l m → G s l m)
    (ps : List (List Op)) (hwo : ∀ p ∈ ps, WellOrdered rank p)
    (k : Nat) (s : Sys) (hr : Run G (toSys (initL ps)) k s) :
    remaining ps.length s + k = totalOps ps ∧
    ((∀ u s', ¬ Step G s u s') → (∀ t, (s t).rest = []) ∧ k = totalOps ps) := by
  rw [toSys_initL] at hr
  have hm := run_measure (n := ps.length) (fun u hu => by simp [init, hu]) hr
  rw [remaining_init_list] at hm
  refine ⟨hm, fun hst => ?_⟩
  have hall : ∀ t, (s t).rest = [] := fun t =>
    Classical.byContradiction fun hne =>
      let ⟨u, s', hs⟩ := progress hB hG (inv_of_init (wo_getD hwo) hr) hne
      hst u s' hs
  rw [remaining_eq_zero hall] at hm
  exact ⟨hall, by omega⟩

/-- The judge's global checker accepts every trace the model can emit: for well-ordered programs
and any reader/writer lock, `mutexRespected` holds of the trace of every run, and each task's part
of the trace followed by what it has left is its program (so the recorded per-task sequence of a
finished task IS its program). -/
theorem model_traces_pass_judge (rank : Nat → Nat) (G : Grant)
    (hG : ∀ s l m, G s l m → safeGrant s l m)
    (progs : Nat → List Op) (hwo : ∀ t, WellOrdered rank (progs t))
    (evs : List (Nat × Op)) (s : Sys) (hr : RunT G (init progs) evs s) :
    mutexRespected evs = true ∧ ∀ t, perTask evs t ++ (s t).rest = progs t := by
  obtain ⟨hs, hm, _⟩ := corr_run hG hwo hr
  exact ⟨by simp [mutexRespected, hm], perTask_run hr⟩

/-! ## The instance: `request_certificate` -/

theorem acmedRank_bounded : ∀ l, acmedRank l < rankBound := fun l => by
  unfold acmedRank rankBound; omega

/-- **Every path of `request_certificate` (repaired tree) obeys the discipline**: any number of
newOrder rounds (1 or 2, with the re-registration in between), any number of authorizations, each
already valid or pending with any number of matching challenges, any numbers of transmissions,
polls and hooks, failing anywhere or not at all; any account, any endpoint. -/
theorem attempt_locks_wellOrdered (sh : AttemptShape) :
    WellOrdered acmedRank (attemptLocks sh) := by
  have hr := acmedRank_account_lt_endpoint sh.account sh.endpoint
  apply wo_flatten
  intro seg hs
  exact wo_segmentsWith orderSegs sh hr (wo_orderSegs hr _ _) seg (mem_cut hs)

/-- A path on which the first newOrder is answered `accountDoesNotExist`. -/
def oldWitness : AttemptShape :=
  { account := 0, endpoint := 0, dirIos := 1, syncIos := 1, order1Ios := 1, reReg := some (1, 1),
    authz := [], readyIos := 1, keyIos := 1, finalizeIos := 1, validIos := 1, downloadIos := 1,
    storeIos := 1, failAfter := none }

/-- The same for the tree as pinned is FALSE: one certificate whose first newOrder is answered
`accountDoesNotExist` takes the account lock while it holds the endpoint lock, then the endpoint
lock it already holds (acme_proto.rs:114 scrutinee temporary, :124-127). -/
theorem attempt_locks_old_full_is_false :
    ¬ ∀ sh : AttemptShape, WellOrdered acmedRank (attemptLocksOld sh) := by
  intro h
  have := (wellOrdered_iff acmedRank _).2 (h oldWitness)
  revert this
  decide

/-- The state the single task of `self_deadlock_old` is in after 15 steps. -/
def oldStuck : List TaskSt :=
  (runL (initL [attemptLocksOld oldWitness]) (List.replicate 15 0)).getD []

/-- **Self-deadlock of the tree as pinned.** ONE certificate suffices: under every reader/writer
lock that grants at least what the most-refusing rule grants, the single task running
`attemptLocksOld oldWitness` reaches, after 15 steps, a state in which it is unfinished, holds the
endpoint (write) and account (write) locks, and nobody can ever step again. -/
theorem self_deadlock_old (G : Grant) (hG1 : ∀ s l m, canGrant s l m → G s l m)
    (hG2 : ∀ s l m, G s l m → safeGrant s l m) :
    ∃ s, Run G (toSys (initL [attemptLocksOld oldWitness])) 15 s ∧
      (s 0).rest ≠ [] ∧ (endpointLock 0, Mode.w) ∈ (s 0).held ∧
      (accountLock 0, Mode.w) ∈ (s 0).held ∧ ∀ u s', ¬ Step G s u s' := by
  have hl : runL (initL [attemptLocksOld oldWitness]) (List.replicate 15 0) = some oldStuck := by
    decide
  have hrest : (toSys oldStuck 0).rest =
      .acq (endpointLock 0) .w :: (toSys oldStuck 0).rest.tail := by decide
  have hlen : oldStuck.length = 1 := by decide
  refine ⟨toSys oldStuck, Run.mono hG1 (runL_sound _ hl), ?_, by decide, by decide, ?_⟩
  · rw [hrest]; exact List.cons_ne_nil _ _
  · refine stuck_self_wait hG2 (t := 0) (m := Mode.w) hrest (by decide) fun u hu => ?_
    rw [toSys_of_le (by omega)]; rfl

/-- On the complement of the class `reRegisters` the tree as pinned and the repaired tree have
the same lock projection, hence the pinned tree obeys the discipline there. -/
theorem attempt_locks_old_partial (sh : AttemptShape) (h : sh.reRegisters = false) :
    attemptLocksOld sh = attemptLocks sh ∧ WellOrdered acmedRank (attemptLocksOld sh) := by
  have hn : sh.reReg = none := by
    cases hr : sh.reReg with
    | none => rfl
    | some x => simp [AttemptShape.reRegisters, hr] at h
  have heq : attemptLocksOld sh = attemptLocks sh := by
    simp [attemptLocksOld, attemptLocks, segmentsOld, segments, segmentsWith, hn, orderSegs,
      orderSegsOld]
  exact ⟨heq, heq ▸ attempt_locks_wellOrdered sh⟩

/-- **Clause 1 of C12 for the repaired tree, any number of certificates.** Task `t` renews a
certificate along ANY path `shapes t` (any sharing pattern: `shapes` is arbitrary, so any two
tasks may use the same account and/or endpoint); in every reachable state, under any interleaving
and any admissible lock, an unfinished renewal means somebody can move. -/
theorem renewals_deadlock_free (G : Grant) (hG : ∀ s l m, canGrant s l m → G s l m)
    (shapes : Nat → AttemptShape) (s : Sys)
    (hr : Reachable G (init fun t => attemptLocks (shapes t)) s) (t : Nat)
    (ht : (s t).rest ≠ []) : ∃ u s', Step G s u s' :=
  deadlock_free acmedRank rankBound acmedRank_bounded G hG _ (fun _ => attempt_locks_wellOrdered _) s hr t ht

/-- … and finitely many of them all return: every run has at most `totalOps` steps, and a run that
cannot be extended has finished every attempt. -/
theorem renewals_terminate (G : Grant) (hG : ∀ s l m, canGrant s l m → G s l m)
    (shapes : List AttemptShape) (k : Nat) (s : Sys)
    (hr : Run G (toSys (initL (shapes.map attemptLocks))) k s) :
    remaining shapes.length s + k = totalOps (shapes.map attemptLocks) ∧
    ((∀ u s', ¬ Step G s u s') →
      (∀ t, (s t).rest = []) ∧ k = totalOps (shapes.map attemptLocks)) := by
  simpa using terminates acmedRank rankBound acmedRank_bounded G hG (shapes.map attemptLocks)
    (List.forall_mem_map.2 fun sh _ => attempt_locks_wellOrdered sh) k s hr

/-- **Register once.** Over any interleaving of the atomic account operations of any tasks on one
(account, endpoint) pair — started with or without a stored URL, with or without a stale binding —
the number of successful newAccount exchanges is at most 1 + the number of `accountDoesNotExist`
answers + the number of binding changes.  (Atomicity of each event is what the exclusive
`&mut Account` under the account write guard gives: `mutual_exclusion`.) -/
theorem register_once (registered stale : Bool) (evs : List Reg.Ev) (s : Reg.St)
    (h : Reg.run (Reg.start registered stale) evs = some s) :
    s.newAccountOk ≤ 1 + s.dne + s.changes := by
  have := AcmedVerif.Props.C12Reg.register_once_from_start registered stale evs s h
  have := Reg.due_le_one (Reg.start registered stale)
  omega

/-- … and it is what the judge checks. -/
theorem register_once_judge (registered stale : Bool) (evs : List Reg.Ev) (s : Reg.St)
    (h : Reg.run (Reg.start registered stale) evs = some s) :
    registerOnceOk s.newAccountOk s.dne s.changes = true := by
  simpa [registerOnceOk] using register_once registered stale evs s h

/-- **Nonces are not shared.** In the merged sequence of GETs and POSTs of ALL certificates on one
endpoint (serial because each runs under the endpoint write guard), the nonces carried by the
POSTs form, in order, a sublist of the nonces the server handed out: each issued nonce is used by
at most one request, whichever certificate sends it. -/
theorem nonce_ledger (slot : Option Nat) (evs : List Nonce.Ev) :
    ((Nonce.used slot evs).map Prod.snd).Sublist (slot.toList ++ Nonce.issued evs) := by
  induction evs generalizing slot with
  | nil => simp [Nonce.used]
  | cons e es ih =>
    cases e with
    | get t r =>
      simp only [Nonce.used, Nonce.issued]
      cases r with
      | none => simpa [Nonce.setReply] using ih slot
      | some n => exact (ih (some n)).trans (List.sublist_append_right _ _)
    | post t r =>
      cases slot with
      | none => exact (ih none).trans (List.sublist_append_right _ _)
      | some n =>
        simp only [Nonce.used, Nonce.issued, List.map_cons, Option.toList_some, List.singleton_append]
        refine List.Sublist.cons_cons _ ?_
        cases r with
        | none => simpa [Nonce.setReply] using ih none
        | some k => simpa [Nonce.setReply] using ih (some k)

/-- Hence, if the server never hands out the same nonce twice, no two requests — of the same or of
different certificates — carry the same nonce. -/
theorem nonce_not_shared (evs : List Nonce.Ev) (hfresh : (Nonce.issued evs).Nodup) :
    ((Nonce.used none evs).map Prod.snd).Nodup := by
  have := nonce_ledger none evs
  simp only [Option.toList_none, List.nil_append] at this
  exact this.nodup hfresh

/-- Three certificates, ONE account, two endpoints: tasks 0 and 1 share endpoint 0, task 2 uses
endpoint 1.  Task 0 takes the re-registration path, task 1 has a pending authorization with one
challenge, task 2 fails after the newOrder. -/
def demoShapes : List AttemptShape :=
  [ { account := 0, endpoint := 0, dirIos := 1, syncIos := 1, order1Ios := 1, reReg := some (1, 1),
      authz := [.valid 1], readyIos := 1, keyIos := 1, finalizeIos := 1, validIos := 1,
      downloadIos := 1, storeIos := 1, failAfter := none }
  , { account := 0, endpoint := 0, dirIos := 1, syncIos := 0, order1Ios := 1, reReg := none,
      authz := [.pending 1 [⟨1, 1⟩] 2 1], readyIos := 1, keyIos := 1, finalizeIos := 1,
      validIos := 1, downloadIos := 1, storeIos := 1, failAfter := none }
  , { account := 0, endpoint := 1, dirIos := 1, syncIos := 1, order1Ios := 2, reReg := none,
      authz := [], readyIos := 1, keyIos := 1, finalizeIos := 1, validIos := 1, downloadIos := 1,
      storeIos := 1, failAfter := some 4 } ]

def demo : List TaskSt := initL (demoShapes.map attemptLocks)

/-- Round-robin scheduler: starting at task `i`, run the first task that can step. -/
def roundRobin : Nat → List TaskSt → Nat → List Nat × List TaskSt
  | 0, ls, _ => ([], ls)
  | fuel + 1, ls, i =>
    let n := ls.length
    match (List.range n).findSome? fun d => (stepL ls ((i + d) % n)).map fun ls' => ((i + d) % n, ls') with
    | some (t, ls') =>
      let r := roundRobin fuel ls' (t + 1)
      (t :: r.1, r.2)
    | none => ([], ls)

/-- The hypotheses of `renewals_terminate` are met by the demo, and a real interleaving (round
robin) finishes all three attempts in exactly `totalOps` steps. -/
example :
    let r := roundRobin 1000 demo 0
    allDone r.2 = true ∧ r.1.length = totalOps (demoShapes.map attemptLocks) ∧
    runL demo r.1 = some r.2 := by
  decide +kernel

/-- It really blocks and unblocks.  After task 0 has taken the endpoint-0 write lock (3 steps),
task 1 — whose first operation is a read of endpoint 0 — is refused, task 2 (other endpoint) is
not; once task 0 has released it (2 more steps) task 1 is enabled. -/
example :
    ∃ ls1 ls2, runL demo [0, 0, 0] = some ls1 ∧
      ¬ Enabled canGrant (toSys ls1) 1 ∧ Enabled canGrant (toSys ls1) 2 ∧
      runL ls1 [0, 0] = some ls2 ∧ Enabled canGrant (toSys ls2) 1 := by
  refine ⟨_, _, rfl, ?_, ?_, rfl, ?_⟩ <;> (rw [← enabledL_iff]; decide)

/-- A state of the demo in which writer preference shows. -/
def demoWP : List TaskSt :=
  (runL demo (List.replicate 9 1 ++ List.replicate 12 2 ++ List.replicate 5 0)).getD []

/-- Writer preference is exercised: task 1 gets past its `synchronize` (9 steps), task 2 then
holds the shared ACCOUNT for reading inside its newOrder (12 steps), task 0 arrives at its
`synchronize` and waits to write the account (5 steps); task 1's account READ is now refused
although only a reader holds the lock, and task 2 can go on. -/
example :
    runL demo (List.replicate 9 1 ++ List.replicate 12 2 ++ List.replicate 5 0)
        = some demoWP ∧
      (accountLock 0, Mode.r) ∈ (toSys demoWP 2).held ∧
      (toSys demoWP 0).rest.head? = some (.acq (accountLock 0) .w) ∧
      (toSys demoWP 1).rest.head? = some (.acq (accountLock 0) .r) ∧
      ¬ Enabled canGrant (toSys demoWP) 0 ∧ ¬ Enabled canGrant (toSys demoWP) 1 ∧
      Enabled canGrant (toSys demoWP) 2 := by
  simp only [← enabledL_iff]
  decide

/-- Hypotheses of `register_once` are satisfiable by a run that really re-registers: two
certificates both see `accountDoesNotExist` and both register again (2 + 1 successes, bound 3). -/
example :
    ∃ s, Reg.run (Reg.start false false)
        [.sync true, .sync true, .orderDne 0, .orderDne 1, .reRegister 0 true, .sync true,
         .reRegister 1 true] = some s ∧ s.newAccountOk = 3 ∧ s.dne = 2 ∧ s.changes = 0 := by
  exact ⟨_, rfl, rfl, rfl, rfl⟩

/-- A re-registration nobody asked for is not a behaviour of the code (and not of the model). -/
example : Reg.run (Reg.start true false) [.reRegister 0 true] = none := rfl

/-- Hypothesis of `nonce_not_shared` satisfiable; two certificates alternate on one endpoint. -/
example :
    Nonce.used none [.get 0 (some 10), .post 0 (some 11), .post 1 (some 12), .post 1 none,
        .post 0 none, .get 0 (some 13), .post 0 (some 14)]
      = [(0, 10), (1, 11), (1, 12), (0, 13)] := by
  decide

/-- The judge accepts a small correct observation and rejects a writer overlapping a reader. -/
example :
    holds [0, 1] [(0, .acq 0 .r), (1, .acq 0 .r), (0, .acq 1 .w), (0, .rel 1), (0, .rel 0),
        (1, .acq 1 .w), (1, .rel 1), (1, .rel 0)] true [(1, 0, 0)] [["a", "b"]] = true ∧
    mutexRespected [(0, .acq 1 .r), (1, .acq 1 .w)] = false ∧
    traceOk [.acq 1 .w, .acq 0 .w, .rel 0, .rel 1] = false := by
  decide

end AcmedVerif.Props.C12
