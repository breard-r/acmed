/-
C05, lookup and reverse-name clauses — "…runs the challenge hooks of the type configured for the
identifier that authorization is for (the wildcard entry for a wildcard authorization) … plus the
reverse-DNS form of IP identifiers".
Theorems about `Model/Ident.lean` (`lookup` = `Certificate::get_identifier_from_str` of the CURRENT
tree, `lookupOld` = the same function before commit 8d0daa7, `reverseName` =
`Identifier::get_tls_alpn_name`).
-/
import AcmedVerif.Lemmas.Ident

namespace AcmedVerif.Props.C05Lookup
open AcmedVerif.Idna AcmedVerif.Ident

/-- **`lookup_exact`.** For every identifier list, authorization value `v` and wildcard flag: if
the certificate has an entry whose value is exactly the wanted name (`"*." ++ v` for a wildcard
authorization, `v` otherwise), the lookup returns the FIRST such entry — an element of the
configured list, so the challenge type (and `env`) used are the ones configured for that name. -/
theorem lookup_exact (ids : List Identifier) (v : List Char) (wildcard : Bool)
    (h : ∃ d ∈ ids, d.value = wanted v wildcard) :
    ∃ pre d post, ids = pre ++ d :: post ∧ d.value = wanted v wildcard ∧
      (∀ x ∈ pre, x.value ≠ wanted v wildcard) ∧ lookup ids v wildcard = some d := by
  obtain ⟨pre, d, post, hl, hd, hpre, hf⟩ :=
    find_first (fun d : Identifier => decide (d.value = wanted v wildcard)) ids
      (by obtain ⟨d, hd, he⟩ := h; exact ⟨d, hd, by simpa using he⟩)
  refine ⟨pre, d, post, hl, by simpa using hd, fun x hx => by simpa using hpre x hx, ?_⟩
  unfold lookup
  rw [hf]

/-- **`lookup_fallback`.** Otherwise (no entry has exactly the wanted value) the code falls back to
the comparison that ignores wildcards: the first entry whose value — with EVERY leading `*.`
removed for `dns` entries, verbatim for `ip` entries — equals `v`; if there is none the lookup
fails ("identifier not found"). The `wildcard` flag plays no role in the fallback. -/
theorem lookup_fallback (ids : List Identifier) (v : List Char) (wildcard : Bool)
    (h : ∀ d ∈ ids, d.value ≠ wanted v wildcard) :
    lookup ids v wildcard = lookupOld ids v ∧
    ((∃ pre d post, ids = pre ++ d :: post ∧ matchValue d = v ∧
        (∀ x ∈ pre, matchValue x ≠ v) ∧ lookup ids v wildcard = some d) ∨
     ((∀ d ∈ ids, matchValue d ≠ v) ∧ lookup ids v wildcard = none)) := by
  have h0 : lookup ids v wildcard = lookupOld ids v := by
    unfold lookup
    have : ids.find? (fun d => decide (d.value = wanted v wildcard)) = none :=
      List.find?_eq_none.2 (fun x hx => by simpa using h x hx)
    rw [this]
  refine ⟨h0, ?_⟩
  rw [h0]
  by_cases he : ∃ d ∈ ids, matchValue d = v
  · left
    obtain ⟨pre, d, post, hl, hd, hpre, hf⟩ :=
      find_first (fun d : Identifier => decide (v = matchValue d)) ids
        (by obtain ⟨d, hd, he⟩ := he; exact ⟨d, hd, by simpa using he.symm⟩)
    refine ⟨pre, d, post, hl, ?_, ?_, hf⟩
    · have : v = matchValue d := by simpa using hd
      exact this.symm
    · intro x hx e
      have := hpre x hx
      simp [e] at this
  · right
    refine ⟨fun d hd e => he ⟨d, hd, e⟩, ?_⟩
    unfold lookupOld
    exact List.find?_eq_none.2 (fun x hx => by
      have : matchValue x ≠ v := fun e => he ⟨x, hx, e⟩
      simpa using fun e => this e.symm)

/-- The full C05 demand on the lookup, for certificates whose names are pairwise distinct: a
wildcard authorization for `v` is solved with the entry configured for `*.v`, a plain one with the
entry configured for `v`, whenever such an entry exists. -/
theorem lookup_configured (ids : List Identifier) (v : List Char) (wildcard : Bool)
    (d : Identifier) (hd : d ∈ ids) (hv : d.value = wanted v wildcard)
    (huniq : ∀ x ∈ ids, x.value = d.value → x = d) : lookup ids v wildcard = some d := by
  obtain ⟨pre, d', post, hl, hd', _, hf⟩ := lookup_exact ids v wildcard ⟨d, hd, hv⟩
  have : d' = d := huniq d' (by rw [hl]; simp) (by rw [hd', hv])
  rw [hf, this]

def exampleCom : List Char := "example.com".toList
def starExampleCom : List Char := "*.example.com".toList

/-- The witness certificate of DESIGN §1 observation (j). -/
def witnessIds : List Identifier :=
  [ { idType := .dns, value := exampleCom, challenge := .http01, env := [] },
    { idType := .dns, value := starExampleCom, challenge := .dns01, env := [] } ]

/-- **`lookup_old_is_false`.** Before the repair the lookup had no `wildcard` argument: for the
certificate `[example.com/http-01, *.example.com/dns-01]` the authorization for `example.com` —
which is what RFC 8555 puts in the WILDCARD authorization too — got the http-01 entry. So the
statement "a wildcard authorization is solved with the wildcard entry" was false of `lookupOld`;
the current `lookup` returns the dns-01 entry for the wildcard authorization and the http-01 entry
for the plain one. -/
theorem lookup_old_is_false :
    (lookupOld witnessIds exampleCom).map (·.challenge) = some .http01 ∧
    ¬ (∀ ids v d, d ∈ ids → d.value = wanted v true → (∀ x ∈ ids, x.value = d.value → x = d) →
        lookupOld ids v = some d) ∧
    (lookup witnessIds exampleCom true).map (·.challenge) = some .dns01 ∧
    (lookup witnessIds exampleCom false).map (·.challenge) = some .http01 := by
  -- the names as explicit character lists (the kernel decodes a literal's `toList` quadratically)
  have hE : exampleCom = _ := String.toList_ofList
  have hS : starExampleCom = _ := String.toList_ofList
  refine ⟨?_, fun hall => absurd (hall witnessIds exampleCom ⟨.dns, starExampleCom, .dns01, []⟩) ?_,
    ?_, ?_⟩ <;> rw [witnessIds, hE, hS] <;> decide +kernel

/-- What the fallback still does on the current tree (all are the code's behaviour, none is
demanded by C05): a WILDCARD authorization for `example.com` when only `example.com` is configured
is solved with that entry; a PLAIN authorization when only `*.example.com` is configured is solved
with the wildcard entry; `*.*.example.com` is stripped twice. -/
example :
    (lookup [witnessIds[0]] exampleCom true).map (·.challenge) = some .http01 ∧
    (lookup [witnessIds[1]] exampleCom false).map (·.challenge) = some .dns01 ∧
    stripStars "*.*.example.com".toList = exampleCom := by
  delta witnessIds starExampleCom exampleCom
  repeat rw [String.toList_ofList]
  decide +kernel

/-- **`reverse_v4`.** For all four octets `a.b.c.d`: `d.c.b.a.in-addr.arpa`, each octet in
decimal without padding. -/
theorem reverse_v4 (a b c d : UInt8) :
    reverseName [a, b, c, d] =
      some (dec d ++ '.' :: (dec c ++ '.' :: (dec b ++ '.' :: dec a)) ++ ".in-addr.arpa".toList) ∧
    ∀ x : UInt8, String.ofList (dec x) = toString x.toNat := by
  refine ⟨rfl, fun x => ?_⟩
  simp [dec, Nat.repr]

/-- Values of `hexNibble`: one lower-case hexadecimal digit. -/
theorem hexNibble_digits : (List.range 16).map hexNibble = "0123456789abcdef".toList := by
  rw [String.toList_ofList]
  decide +kernel

/-- **`reverse_v6`.** For all 16 octets: the 32 nibbles of the address, lowest-order nibble first,
one lower-case hexadecimal digit each, joined by '.', followed by `.ip6.arpa`; 72 characters. The
`i`-th nibble is digit `i` (base 16, from the least significant end) of the 128-bit address value
`leVal octets.reverse`. -/
theorem reverse_v6 (octets : List UInt8) (h : octets.length = 16) :
    ∃ nibs : List Nat,
      nibs.length = 32 ∧
      (∀ i, i < 32 → nibs[i]? = some (leVal octets.reverse / 16 ^ i % 16)) ∧
      reverseName octets =
        some (joinWith '.' (nibs.map fun n => [hexNibble n]) ++ ".ip6.arpa".toList) ∧
      ∀ out, reverseName octets = some out → out.length = 32 * 2 - 1 + 9 := by
  have hrev : octets.reverse.length = 16 := by simpa using h
  have hname : reverseName octets =
      some (joinWith '.' ((nibbleVals octets.reverse).map fun n => [hexNibble n]) ++
        ".ip6.arpa".toList) := by
    unfold reverseName
    rw [if_neg (by omega), if_pos h]
    unfold reverseV6
    rw [joinWith_nibbles, flatMap_nibbles_eq, List.map_map]
    rfl
  have hlen : (nibbleVals octets.reverse).length = 32 := by
    have := flatMap_nibbles_length octets.reverse
    rw [flatMap_nibbles_eq, List.length_map] at this
    omega
  refine ⟨nibbleVals octets.reverse, hlen, ?_, hname, ?_⟩
  · intro i hi
    exact nibbleVals_get octets.reverse i (by omega)
  · intro out ho
    rw [hname] at ho
    simp only [Option.some.injEq] at ho
    subst ho
    have h2 := joinWith_singletons_length ((nibbleVals octets.reverse).map hexNibble)
      (by intro e; have := congrArg List.length e; simp [hlen] at this)
    rw [List.map_map] at h2
    have h3 : (fun n => [hexNibble n]) = ((fun c => [c]) ∘ hexNibble) := rfl
    rw [List.length_append, h3, h2, List.length_map, hlen]
    rfl

/-- The two examples of `identifier.rs` (`test_ipv4_tls_alpn_name`, `test_ipv6_tls_alpn_name`). -/
example : reverseName [203, 0, 113, 1] = some "1.113.0.203.in-addr.arpa".toList := by
  rw [String.toList_ofList]
  decide +kernel
example : reverseName [0x20, 0x01, 0x0d, 0xb8, 0, 0, 0, 0, 0, 0, 0, 0, 0, 0, 0, 1] =
    some "1.0.0.0.0.0.0.0.0.0.0.0.0.0.0.0.0.0.0.0.0.0.0.0.8.b.d.0.1.0.0.2.ip6.arpa".toList := by
  rw [String.toList_ofList]
  decide +kernel

end AcmedVerif.Props.C05Lookup
