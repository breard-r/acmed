/-
C08 — recoverable errors are retried with the newest nonce, boundedly; others are not; polling is
bounded.  Section `Nonce`: the nonce clause of C04.  Section `Limiter`: the call-site clause of C09.
Theorems about `Model/Http.lean`.

Reading guide.  A call returns `Out = (res, st, evs)`.  `posts evs` are its POST transmissions in
order, `postAnswers evs` the answers they got (same order), `Answer.verdict` says what `post` does
with an answer (`retry` / `success` / `fail`; `verdict_*_iff` below spell the three out).
All statements are for every script (any length), every state, every `N`/`K`.
-/
import AcmedVerif.Lemmas.Http
import AcmedVerif.Gen.Tables

namespace AcmedVerif.Props.C08
open AcmedVerif.Http

/-! ## The tables (tie 4.1 / 4.2) -/

/-- The recoverable rows of the table generated from the compiled Rust code are exactly the seven
named in the property, and the model's `ErrType`/`recoverable` reproduce the whole table row by
row (URN suffix, Rust variant, `is_recoverable`). -/
theorem recoverable_exact :
    (Gen.acmeErrors.filter (·.2.2)).map (·.1) =
        ["badNonce", "connection", "dns", "malformed", "rateLimited", "serverInternal", "tls"] ∧
    ErrType.all.map (fun t => (t.suffix, t.rustName, recoverable t)) = Gen.acmeErrors :=
  ⟨rfl, rfl⟩

/-- `ErrType.all` misses no variant, so the row-by-row agreement covers every error type. -/
theorem errType_all_complete (t : ErrType) : t ∈ ErrType.all := by
  cases t <;> decide +kernel

theorem recoverable_iff (t : ErrType) :
    recoverable t = true ↔
      t = .badNonce ∨ t = .connection ∨ t = .dns ∨ t = .malformed ∨ t = .rateLimited ∨
      t = .serverInternal ∨ t = .tls := by
  cases t <;> simp [recoverable]

/-- `ErrType.ofType` (the model of `AcmeError::from(String)`) inverts the URN of every row, and
`about:blank` (absent `type` member) is `Unknown`. -/
theorem ofType_exact :
    (∀ t ∈ ErrType.all, ErrType.ofType (ErrType.urnPrefix ++ t.suffix) = t) ∧
    ErrType.ofType "about:blank" = .unknown := by
  -- Evaluating `urnPrefix ++ _` for every comparison is what is slow to check: the common prefix
  -- cancels (`String.append_right_inj`), and the table is searched by suffix.
  have table : ∀ t ∈ ErrType.all,
      (match ErrType.all.dropLast.find? (fun t' => t'.suffix == t.suffix) with
        | some t' => t'
        | none => .unknown) = t := by decide +kernel
  refine ⟨fun t ht => ?_, by decide +kernel⟩
  have cancel (t' : ErrType) :
      (ErrType.urnPrefix ++ t'.suffix == ErrType.urnPrefix ++ t.suffix) = (t'.suffix == t.suffix) := by
    simp only [BEq.beq, String.append_right_inj]
  simp only [ErrType.ofType, cancel]
  exact table t ht

theorem retry_bound_is_10 : Gen.DEFAULT_HTTP_FAIL_NB_RETRY = 10 := by decide +kernel
theorem poll_bound_is_20 : Gen.DEFAULT_POOL_NB_TRIES = 20 := by decide +kernel

/-! ## What `post` does with one answer -/

/-- Retry ⇔ delivered, non-2xx, nonce header valid or absent, body a problem document whose type is
recoverable. -/
theorem verdict_retry_iff (a : Answer) :
    a.verdict = .retry ↔
      a.delivered = true ∧ a.ok2xx = false ∧ a.nonce ≠ .invalid ∧
      ∃ ty, a.body = .problem ty ∧ recoverable ty = true := by
  unfold Answer.verdict
  by_cases hd : a.delivered = false
  · simp [hd]
  by_cases hn : a.nonce = .invalid
  · simp [hd, hn]
  by_cases ho : a.ok2xx = true
  · simp [hd, hn, ho]; split <;> simp
  cases hb : a.body <;> simp [hd, hn, ho]

/-- Success ⇔ delivered, 2xx, nonce header valid or absent, body readable. -/
theorem verdict_success_iff (a : Answer) :
    a.verdict = .success ↔
      a.delivered = true ∧ a.ok2xx = true ∧ a.nonce ≠ .invalid ∧ a.body ≠ .unreadable := by
  unfold Answer.verdict
  by_cases hd : a.delivered = false
  · simp [hd]
  by_cases hn : a.nonce = .invalid
  · simp [hd, hn]
  by_cases ho : a.ok2xx = true
  · simp [hd, hn, ho]
  cases hb : a.body <;> simp [hd, hn, ho]
  split <;> simp

/-- The failing answers named in the property: transport failure, invalid nonce header, and for a
non-2xx answer a non-recoverable type, an untyped problem document, a body that is no problem
document. -/
theorem verdict_fail_of (a : Answer)
    (h : a.delivered = false ∨ a.nonce = .invalid ∨
      (a.ok2xx = false ∧
        ((∃ ty, a.body = .problem ty ∧ recoverable ty = false) ∨ a.body = .jsonOther ∨
          a.body = .notJson ∨ ∃ p, a.body = .payload p))) :
    a.verdict = .fail := by
  unfold Answer.verdict
  rcases h with hd | hn | ⟨ho, ⟨ty, hb, hr⟩ | hb | hb | ⟨p, hb⟩⟩
  · rw [if_pos hd]
  · split <;> rfl
  · simp [ho, hb, hr]
  all_goals simp [ho, hb]

/-! ## C08: the retry loop -/

/-- At most `N` POST transmissions per call, whatever the answers, the mode, the inputs. -/
theorem post_at_most_N (N : Nat) (mode : NonceMode) (st : State) (clientOk builderOk : Bool)
    (url : Nat) : (posts (post N mode st clientOk builderOk url).evs).length ≤ N :=
  post_length_le N mode st clientOk builderOk url

/-- With the constant of `main.rs`: at most 10. -/
theorem post_at_most_10 (mode : NonceMode) (st : State) (clientOk builderOk : Bool) (url : Nat) :
    (posts (post Gen.DEFAULT_HTTP_FAIL_NB_RETRY mode st clientOk builderOk url).evs).length ≤ 10 :=
  post_length_le 10 mode st clientOk builderOk url

/-- Exact count when a nonce is always at hand (one is stored, and in mode `take` every retryable
answer of the prefix brings a new one): `min N (1 + length of the retryable prefix of the script)`.
Holds also when the script runs out (the last transmission then has no answer). -/
theorem post_exact_count (N : Nat) (mode : NonceMode) (n0 : Nat) (script : List Answer)
    (nonceUrl url : Nat)
    (hn : mode = .take → ∀ a ∈ script.takeWhile Answer.isRetry, a.issued ≠ none) :
    (posts (post N mode ⟨some n0, script, nonceUrl⟩ true true url).evs).length =
      min N (1 + (script.takeWhile Answer.isRetry).length) := by
  rw [post_eq_postLoop N mode _ true url (.inr (Option.some_ne_none n0))]
  exact (postLoop_supplied mode true true url N 0 _ fun hm => ⟨Option.some_ne_none n0, hn hm⟩).1 rfl

/-- Transmission `k+1` of the request.  Round `k+1` is entered iff answer `k` was retryable and
`k+1 < N`; an entered round transmits unless it cannot obtain a nonce (mode `take` only: the
`newNonce` GET — another request — fails or brings none), in which case the call ends there with
that failure.  Hypothesis: the script did not run out. -/
theorem retry_iff_recoverable (N : Nat) (mode : NonceMode) (st : State) (url k : Nat)
    (hs : (post N mode st true true url).res ≠ .stuck) :
    (k + 1 < (posts (post N mode st true true url).evs).length ∨
      ((posts (post N mode st true true url).evs).length = k + 1 ∧
        (post N mode st true true url).res.nonceFailure = true)) ↔
    ∃ a, (postAnswers (post N mode st true true url).evs)[k]? = some a ∧ a.verdict = .retry ∧
      k + 1 < N :=
  (post_run N mode st true url).retry_iff rfl hs k

/-- When the call does not fail for want of a nonce — never in mode `cloneOld`
(`post_clone_nf`), and in mode `take` whenever one is stored and every retryable answer brings a
new one (`postLoop_supplied`) — this is the plain statement: transmission `k+1` happens iff answer
`k` was delivered, non-2xx, carried a valid or no nonce header, decoded as a problem document of
recoverable type (`verdict_retry_iff`), and `k+1 < N`. -/
theorem retry_iff_recoverable_plain (N : Nat) (mode : NonceMode) (st : State) (url k : Nat)
    (hs : (post N mode st true true url).res ≠ .stuck)
    (hnf : (post N mode st true true url).res.nonceFailure = false) :
    k + 1 < (posts (post N mode st true true url).evs).length ↔
    ∃ a, (postAnswers (post N mode st true true url).evs)[k]? = some a ∧ a.verdict = .retry ∧
      k + 1 < N := by
  rw [← retry_iff_recoverable N mode st url k hs, hnf]
  simp

theorem retry_iff_recoverable_old (N : Nat) (st : State) (url k : Nat)
    (hs : (post N .cloneOld st true true url).res ≠ .stuck) :
    k + 1 < (posts (post N .cloneOld st true true url).evs).length ↔
    ∃ a, (postAnswers (post N .cloneOld st true true url).evs)[k]? = some a ∧ a.verdict = .retry ∧
      k + 1 < N :=
  retry_iff_recoverable_plain N .cloneOld st url k hs (post_clone_nf N st true true url)

theorem retry_iff_recoverable_supplied (N : Nat) (n0 : Nat) (script : List Answer)
    (nonceUrl url k : Nat)
    (hn : ∀ a ∈ script.takeWhile Answer.isRetry, a.issued ≠ none)
    (hs : (post N .take ⟨some n0, script, nonceUrl⟩ true true url).res ≠ .stuck) :
    k + 1 < (posts (post N .take ⟨some n0, script, nonceUrl⟩ true true url).evs).length ↔
    ∃ a, (postAnswers (post N .take ⟨some n0, script, nonceUrl⟩ true true url).evs)[k]? = some a ∧
      a.verdict = .retry ∧ k + 1 < N := by
  apply retry_iff_recoverable_plain N .take _ url k hs
  rw [post_eq_postLoop N .take _ true url (.inl rfl)]
  exact (postLoop_supplied .take true true url N 0 _ fun _ => ⟨Option.some_ne_none n0, hn⟩).2

/-- Without that proviso the plain statement is false of the current code (mode `take`): answer 0
is `serverInternal` without `Replay-Nonce`, the `newNonce` GET that must precede the retry is cut,
and the request is not sent again although `1 < 10` (the call fails with the GET's error).  The old
code would have retried with the stale nonce. -/
theorem retry_plain_full_is_false :
    ∃ (st : State) (url k : Nat),
      (post 10 .take st true true url).res ≠ .stuck ∧
      (∃ a, (postAnswers (post 10 .take st true true url).evs)[k]? = some a ∧ a.verdict = .retry ∧
        k + 1 < 10) ∧
      ¬ (k + 1 < (posts (post 10 .take st true true url).evs).length) := by
  refine ⟨⟨some 0, [⟨true, false, .absent, .problem .serverInternal, .no⟩,
    ⟨false, false, .absent, .notJson, .no⟩], 9⟩, 5, 0, by decide +kernel, ?_, by decide +kernel⟩
  exact ⟨⟨true, false, .absent, .problem .serverInternal, .no⟩, by decide +kernel, by decide +kernel,
    by decide +kernel⟩

/-- The "only if" half needs no hypothesis at all (any inputs, script may run out): a further
transmission happens only after a retryable answer, and only below the bound. -/
theorem retry_only_if_recoverable (N : Nat) (mode : NonceMode) (st : State)
    (clientOk builderOk : Bool) (url k : Nat)
    (h : k + 1 < (posts (post N mode st clientOk builderOk url).evs).length) :
    ∃ a, (postAnswers (post N mode st clientOk builderOk url).evs)[k]? = some a ∧
      a.verdict = .retry ∧ k + 1 < N := by
  cases clientOk
  · simp [post_clientFail] at h
  · exact (post_run N mode st builderOk url).retry_only_if k h

/-- `Ok` only on a 2xx answer: the last answer was delivered, 2xx, and the returned body is its
body; every transmission had an answer. -/
theorem success_only_on_2xx (N : Nat) (mode : NonceMode) (st : State) (clientOk builderOk : Bool)
    (url : Nat) (body : Body) (h : (post N mode st clientOk builderOk url).res = .ok body) :
    ∃ a, (postAnswers (post N mode st clientOk builderOk url).evs).getLast? = some a ∧
      a.verdict = .success ∧ a.ok2xx = true ∧ a.delivered = true ∧ a.body = body ∧
      (postAnswers (post N mode st clientOk builderOk url).evs).length =
        (posts (post N mode st clientOk builderOk url).evs).length := by
  cases clientOk
  · simp [post_clientFail] at h
  · exact (post_run N mode st builderOk url).success_last body h

/-- After a failing answer (see `verdict_fail_of`: non-recoverable type, untyped problem, non-JSON
body, transport failure, invalid nonce header) that request is not sent again and the call
returns an error. -/
theorem no_resend_after_other_error (N : Nat) (mode : NonceMode) (st : State)
    (clientOk builderOk : Bool) (url k : Nat) (a : Answer)
    (hk : (postAnswers (post N mode st clientOk builderOk url).evs)[k]? = some a)
    (hv : a.verdict = .fail) :
    (posts (post N mode st clientOk builderOk url).evs).length = k + 1 ∧
    (postAnswers (post N mode st clientOk builderOk url).evs).length = k + 1 ∧
    ∃ e, (post N mode st clientOk builderOk url).res = .err e := by
  cases clientOk
  · simp [post_clientFail] at hk
  · have := (post_run N mode st builderOk url).last_word k a hk (by simp [hv])
    exact ⟨this.1, this.2.1, this.2.2.2 hv⟩

/-- Nor after a success: the call returns that answer's body at once. -/
theorem no_resend_after_success (N : Nat) (mode : NonceMode) (st : State)
    (clientOk builderOk : Bool) (url k : Nat) (a : Answer)
    (hk : (postAnswers (post N mode st clientOk builderOk url).evs)[k]? = some a)
    (hv : a.verdict = .success) :
    (posts (post N mode st clientOk builderOk url).evs).length = k + 1 ∧
    (post N mode st clientOk builderOk url).res = .ok a.body := by
  cases clientOk
  · simp [post_clientFail] at hk
  · have := (post_run N mode st builderOk url).last_word k a hk (by simp [hv])
    exact ⟨this.1, this.2.2.1 hv⟩

/-- All transmissions of one call go to the call's URL and are rounds `0, 1, 2, …`: the builder
gets `(nonce, url)` each time, so its inputs differ only in the nonce (which one: `nonce_newest`). -/
theorem retry_identical_but_nonce (N : Nat) (mode : NonceMode) (st : State)
    (clientOk builderOk : Bool) (url : Nat) :
    (∀ p ∈ posts (post N mode st clientOk builderOk url).evs, p.url = url) ∧
    (posts (post N mode st clientOk builderOk url).evs).map PostTx.round =
      List.range (posts (post N mode st clientOk builderOk url).evs).length := by
  cases clientOk
  · simp [post_clientFail]
  · have h := post_run N mode st builderOk url
    exact ⟨h.urls, by rw [h.rounds, List.range_eq_range']⟩

/-! ## C08: polling -/

/-- A poll makes at most `K` calls of `post` (one `pollWait` each), hence at most `K·N`
transmissions. -/
theorem poll_at_most_K (K N : Nat) (mode : NonceMode) (st : State) (clientOk builderOk : Bool)
    (url : Nat) (dec mat : Body → Bool) :
    pollWaits (poll K N mode st clientOk builderOk url dec mat).evs ≤ K ∧
    (posts (poll K N mode st clientOk builderOk url dec mat).evs).length ≤ K * N :=
  (pollLoop_counts N mode clientOk builderOk url dec mat K 0 st).2

theorem poll_at_most_20 (mode : NonceMode) (st : State) (clientOk builderOk : Bool)
    (url : Nat) (dec mat : Body → Bool) :
    pollWaits (poll Gen.DEFAULT_POOL_NB_TRIES Gen.DEFAULT_HTTP_FAIL_NB_RETRY mode st clientOk
      builderOk url dec mat).evs ≤ 20 :=
  (pollLoop_counts 10 mode clientOk builderOk url dec mat 20 0 st).2.1

/-- `okBodies evs` = the bodies the `post` calls of the poll returned.  Every one but the last
decoded and did not match (so: no call after the first match, none after an undecodable body);
and if the poll returns `Ok b`, `b` is the last of them, it decodes and matches, and the number of
calls is exactly the number of bodies. -/
theorem poll_stops_at_first_match (K N : Nat) (mode : NonceMode) (st : State)
    (clientOk builderOk : Bool) (url : Nat) (dec mat : Body → Bool) :
    (∀ pre x suf, okBodies (poll K N mode st clientOk builderOk url dec mat).evs = pre ++ x :: suf →
      suf ≠ [] → dec x = true ∧ mat x = false) ∧
    (∀ b, (poll K N mode st clientOk builderOk url dec mat).res = .ok b →
      ∃ pre, okBodies (poll K N mode st clientOk builderOk url dec mat).evs = pre ++ [b] ∧
        dec b = true ∧ mat b = true ∧
        pollWaits (poll K N mode st clientOk builderOk url dec mat).evs = pre.length + 1) := by
  obtain ⟨h1, h2⟩ := pollLoop_shape N mode clientOk builderOk url dec mat K 0 st
  unfold poll
  refine ⟨fun pre x suf hs hsuf => h1 x ?_, fun b hb => ?_⟩
  · rw [hs, List.dropLast_append_of_ne_nil (List.cons_ne_nil _ _), List.dropLast_cons_of_ne_nil hsuf]
    exact List.mem_append_right _ List.mem_cons_self
  · obtain ⟨e1, e2, e3, e4⟩ := h2 b hb
    have hne : okBodies (pollLoop N mode clientOk builderOk url dec mat K 0 st).evs ≠ [] :=
      fun h => by rw [h] at e1; cases e1
    have hl := List.dropLast_concat_getLast hne
    rw [List.getLast_eq_iff_getLast?_eq_some hne |>.mpr e1] at hl
    exact ⟨_, hl.symm, e2, e3, by rw [e4, ← congrArg List.length hl, List.length_append]; rfl⟩

/-! ## The model passes the judge (`Spec.C08.holds` asks no more than the code does) -/

/-- For every script and state: what the mock CA would log for one call of the current `post`
(`observe`) passes `Spec.C08.holds` with the same bound `N`. -/
theorem post_meets_judge (N : Nat) (st : State) (url : Nat)
    (hs : (post N .take st true true url).res ≠ .stuck) :
    Spec.C08.holds N (observe st.nonce (post N .take st true true url).evs)
      (outcomeOf (post N .take st true true url).res) = true := by
  have hrun := post_run N .take st true url
  obtain ⟨c', hw, -⟩ := (post_piece N .take st true true url).walk st.nonce (Or.inl rfl)
  have hnew := (walk_tracks .take _ st.nonce st.nonce c' (Or.inl rfl) hw).2
  have hsome := walk_take_some _ _ _ hw
  have hall := mkLog_all _ (postAnswers (post N .take st true true url).evs) url hsome hrun.urls
  obtain ⟨j2, j3, j4⟩ := hrun.answers_pass hs
  have hlen := Nat.le_trans (mkLog_length_le (posts (post N .take st true true url).evs)
    (postAnswers (post N .take st true true url).evs)
    ((posts (post N .take st true true url).evs).map PostTx.nonce)) hrun.length_le
  simp only [observe, hnew]
  generalize mkLog _ _ _ = log at hall j2 j3 j4 hlen ⊢
  simp only [Spec.C08.holds, j2, j3, j4, Bool.and_true, Bool.and_eq_true]
  refine ⟨⟨by simpa [Spec.C08.countOk] using hlen, ?_⟩, ?_⟩
  · simp only [Spec.C08.newestNonce, List.all_eq_true]
    intro t ht
    exact (hall t (List.mem_of_mem_drop ht)).1
  · cases log with
    | nil => rfl
    | cons t ts =>
      simp only [Spec.C08.sameContent, List.all_eq_true, beq_iff_eq]
      intro x hx
      rw [(hall x (by simp [hx])).2, (hall t (by simp)).2]

theorem poll_meets_judge (K N : Nat) (mode : NonceMode) (st : State) (clientOk builderOk : Bool)
    (url : Nat) (dec mat : Body → Bool) :
    Spec.C08.pollHolds K
      ((okBodies (poll K N mode st clientOk builderOk url dec mat).evs).map mat) = true := by
  obtain ⟨c1, c2, -⟩ := pollLoop_counts N mode clientOk builderOk url dec mat K 0 st
  simp only [poll, Spec.C08.pollHolds, Bool.and_eq_true, decide_eq_true_eq, List.length_map,
    List.all_eq_true, Bool.not_eq_true', ← List.map_dropLast]
  refine ⟨Nat.le_trans c1 c2, fun m hm => ?_⟩
  obtain ⟨x, hx, rfl⟩ := List.mem_map.mp hm
  exact ((pollLoop_shape N mode clientOk builderOk url dec mat K 0 st).1 x hx).2

/-- The judge is not vacuous: it rejects the old code's retry with the empty nonce … -/
example :
    Spec.C08.holds 10
      (observe none (post 10 .cloneOld ⟨none,
        [⟨false, false, .absent, .notJson, .no⟩,
         ⟨true, false, .absent, .problem .badNonce, .no⟩,
         ⟨true, true, .valid 3, .payload 2, .no⟩], 0⟩ true true 5).evs) .ok = false := by decide +kernel

/-- … an eleventh transmission, a retry after `unauthorized`, and a success on a 403. -/
example : Spec.C08.holds 10 (List.replicate 11
    (⟨.recoverableProblem, some 1, some 1, 0⟩ : Spec.C08.ObsTx Nat Nat)) .failed = false := by decide +kernel
example : Spec.C08.holds 10
    [(⟨.otherProblem, some 1, some 1, 0⟩ : Spec.C08.ObsTx Nat Nat), ⟨.ok2xx, some 2, some 2, 0⟩]
    .ok = false := by decide +kernel
example : Spec.C08.holds 10
    [(⟨.otherProblem, some 1, some 1, 0⟩ : Spec.C08.ObsTx Nat Nat)] .ok = false := by decide +kernel

/-! ## C04, nonce clause -/
section Nonce

/-- Over any sequence of `get`/`post`/poll calls, in both modes: each POST carries the newest nonce
handed out before it (`lastIssued`: by the most recent answer that had a valid `Replay-Nonce`;
the initially stored one if there was none yet). -/
theorem nonce_newest (K N : Nat) (mode : NonceMode) (st : State) (calls : List Call)
    (pre suf : List Ev) (u r : Nat) (n : Option Nat)
    (h : (runCalls K N mode st calls).2.2 = pre ++ .postSend u n r :: suf) :
    n = lastIssued st.nonce pre := by
  obtain ⟨c', hw, -⟩ := (runCalls_good K N mode calls st).walk st.nonce (Or.inl rfl)
  exact walk_newest mode _ st.nonce st.nonce c' (Or.inl rfl) hw pre suf u r n h

/-- Mode `take`: a POST is never transmitted without a nonce (the old code sent `""`). -/
theorem no_post_without_nonce (K N : Nat) (st : State) (calls : List Call) :
    ∀ p ∈ posts (runCalls K N .take st calls).2.2, p.nonce ≠ none := by
  obtain ⟨c', hw, -⟩ := (runCalls_good K N .take calls st).walk st.nonce (Or.inl rfl)
  exact walk_take_some _ _ _ hw

/-- Mode `take`: after a POST transmission the stored nonce is `none` until an answer provides
one. -/
theorem nonce_consumed (K N : Nat) (st : State) (calls : List Call)
    (pre suf : List Ev) (u r : Nat) (n : Option Nat)
    (h : (runCalls K N .take st calls).2.2 = pre ++ .postSend u n r :: suf)
    (hi : issuedBy suf = []) :
    (runCalls K N .take st calls).2.1.nonce = none := by
  obtain ⟨c', hw, hinv⟩ := (runCalls_good K N .take calls st).walk st.nonce (Or.inl rfl)
  rw [h] at hw
  obtain ⟨c1, -, hw⟩ := walk_append_some hw
  have := walk_take_consumed suf c' (walk_take_post hw).2.2 hi
  rcases hinv with h2 | ⟨-, h2⟩
  · rw [h2, this]
  · exact h2

/-- Mode `take`, freshness.  If the server never issues the same nonce twice (valid nonce values
of the script pairwise distinct and distinct from the one stored initially), then over ANY
sequence of calls no two POST transmissions carry the same nonce, every POST carries one, and it
was issued by an earlier answer of the trace or was the initially stored one. -/
theorem nonce_fresh (K N : Nat) (st : State) (calls : List Call)
    (hd : (st.nonce.toList ++ st.script.filterMap Answer.issued).Nodup) :
    (postNonces (runCalls K N .take st calls).2.2).Nodup ∧
    (∀ p ∈ posts (runCalls K N .take st calls).2.2, p.nonce ≠ none) ∧
    ∀ pre suf u n r, (runCalls K N .take st calls).2.2 = pre ++ .postSend u n r :: suf →
      ∃ m, n = some m ∧ m ∈ st.nonce.toList ++ issuedBy pre := by
  have hg := runCalls_good K N .take calls st
  obtain ⟨c', hw, -⟩ := hg.walk st.nonce (Or.inl rfl)
  refine ⟨?_, walk_take_some _ _ _ hw, ?_⟩
  · have hsub := walk_take_sublist _ _ _ hw
    have hpre : (issuedBy (runCalls K N .take st calls).2.2).Sublist
        (st.script.filterMap Answer.issued) := by
      rw [← hg.script, List.filterMap_append]
      exact List.sublist_append_left _ _
    exact (hd.sublist ((List.Sublist.refl _).append hpre)).sublist hsub
  · intro pre suf u n r h
    have hn := walk_newest .take _ st.nonce st.nonce c' (Or.inl rfl) hw pre suf u r n h
    have hsome := walk_take_some _ _ _ hw ⟨u, n, r⟩ (by simp [h])
    cases n with
    | none => exact absurd rfl hsome
    | some m => exact ⟨m, rfl, lastIssued_mem pre st.nonce m hn.symm⟩

/-- Mode `take`: when no nonce is stored and the nonce fetch — the `newNonce` GET together with
every redirection it is led through — fails or ends without a stored nonce, nothing is POSTed and
the call fails. -/
theorem no_post_when_fetch_fails_gen (N : Nat) (st : State) (clientOk builderOk : Bool) (url : Nat)
    (hn : st.nonce = none)
    (hf : (newNonce st clientOk).res.isOk = false ∨ (newNonce st clientOk).st.nonce = none) :
    posts (post N .take st clientOk builderOk url).evs = [] ∧
    (post N .take st clientOk builderOk url).res.isOk = false := by
  cases clientOk
  · simp [post, Result.isOk]
  · cases N with
    | zero => simp [post, postLoop, Result.isOk]
    | succ N =>
      have hp := (newNonce_quiet .take st true).noPost
      simp only [post, if_true, postLoop, round, prepNonce, hn]
      cases hr : (newNonce st true).res with
      | ok bd =>
        have h2 : (newNonce st true).st.nonce = none := by
          rcases hf with h | h
          · simp [hr, Result.isOk] at h
          · exact h
        simp [transmit, pickNonce, h2, hp, Result.isOk]
      | err e => simp [hp, Result.isOk]
      | stuck => simp [hp, Result.isOk]

/-- The same read off the first answer, when that answer is not a redirection `get` follows (since
commit 1dd071b `get` follows a 3xx answer with a `Location` itself; the statement without the first
conjunct of `hf` is false of that code: `no_post_when_fetch_fails_unguarded_is_false`). -/
theorem no_post_when_fetch_fails (N : Nat) (st : State) (clientOk builderOk : Bool) (url : Nat)
    (hn : st.nonce = none)
    (hf : ∀ g rest, st.script = g :: rest →
      (∀ u' k, g.redir ≠ .to u' k) ∧
      (g.issued = none ∨ g.ok2xx = false ∨ g.body = .unreadable)) :
    posts (post N .take st clientOk builderOk url).evs = [] ∧
    (post N .take st clientOk builderOk url).res.isOk = false := by
  apply no_post_when_fetch_fails_gen N st clientOk builderOk url hn
  cases clientOk
  · left; simp [newNonce, Http.get, Result.isOk]
  · simpa [newNonce, get_true] using getLoop_first_fails _ st.nonceUrl st hn hf

/-- Without the guard: the `newNonce` GET is answered 302 (so `ok2xx = false`) with a `Location`
and a `Replay-Nonce`; `get` follows, the second answer is a 200, and the POST goes out with the
nonce of the 302 answer. -/
theorem no_post_when_fetch_fails_unguarded_is_false :
    ∃ (st : State) (url : Nat), st.nonce = none ∧
      (∀ g rest, st.script = g :: rest →
        g.issued = none ∨ g.ok2xx = false ∨ g.body = .unreadable) ∧
      posts (post 10 .take st true true url).evs ≠ [] := by
  refine ⟨⟨none, [⟨true, false, .valid 4, .notJson, .to 8 false⟩,
    ⟨true, true, .absent, .payload 0, .no⟩, ⟨true, true, .valid 5, .payload 2, .no⟩], 9⟩, 5,
    rfl, ?_, by decide +kernel⟩
  intro g rest h
  cases h
  decide

/-- The code before the repair (mode `cloneOld`): freshness is false.  The server issues every
nonce once (7 initially, then 9), answers the first POST with `serverInternal` and no
`Replay-Nonce`; the retry carries 7 again. -/
theorem nonce_fresh_old_is_false :
    ∃ (st : State) (calls : List Call),
      (st.nonce.toList ++ st.script.filterMap Answer.issued).Nodup ∧
      ¬ (postNonces (runCalls 20 10 .cloneOld st calls).2.2).Nodup := by
  refine ⟨⟨some 7, [⟨true, false, .absent, .problem .serverInternal, .no⟩,
    ⟨true, true, .valid 9, .payload 2, .no⟩], 0⟩, [.post true true 5], by decide +kernel,
    by decide +kernel⟩

/-- … and when its single `new_nonce` failed, it POSTed with the empty nonce. -/
theorem no_post_without_nonce_old_is_false :
    ∃ (st : State) (calls : List Call),
      ∃ p ∈ posts (runCalls 20 10 .cloneOld st calls).2.2, p.nonce = none := by
  refine ⟨⟨none, [⟨false, false, .absent, .notJson, .no⟩, ⟨true, true, .valid 9, .payload 2, .no⟩], 0⟩,
    [.post true true 5], ⟨5, none, 0⟩, by decide +kernel, rfl⟩

end Nonce

/-! ## C09, call-site clause -/
section Limiter

/-- In the trace of any call sequence (GETs, POSTs, nonce fetches, retries, polls; both modes)
every send event is immediately preceded by a pass through the limiter. -/
theorem every_path_limited (K N : Nat) (mode : NonceMode) (st : State) (calls : List Call)
    (pre suf : List Ev) (e : Ev) (he : e.isSend = true)
    (h : (runCalls K N mode st calls).2.2 = pre ++ e :: suf) :
    ∃ pre', pre = pre' ++ [.admit] :=
  (runCalls_good K N mode calls st).admit_before_send he h

theorem every_path_limited_bool (K N : Nat) (mode : NonceMode) (st : State) (calls : List Call) :
    limited (runCalls K N mode st calls).2.2 = true :=
  (runCalls_good K N mode calls st).lim

end Limiter

/-! ## Non-vacuity: concrete inputs satisfying the hypotheses used above -/
section Examples

private def rec500 (h : NonceHdr) : Answer := ⟨true, false, h, .problem .serverInternal, .no⟩
private def ok200 (h : NonceHdr) (p : Nat) : Answer := ⟨true, true, h, .payload p, .no⟩
private def exScript : List Answer := [rec500 (.valid 1), rec500 (.valid 2), ok200 (.valid 3) 2]

-- `post_exact_count`, `retry_iff_recoverable_supplied`: two retryable answers bringing nonces
example : ∀ a ∈ exScript.takeWhile Answer.isRetry, a.issued ≠ none := by decide +kernel
example : (posts (post 10 .take ⟨some 0, exScript, 9⟩ true true 5).evs).length = 3 := by decide +kernel
example : (post 10 .take ⟨some 0, exScript, 9⟩ true true 5).res = .ok (.payload 2) := by decide +kernel
-- `retry_iff_recoverable`: a run that is not stuck and does fail for want of a nonce
example : (post 10 .take ⟨some 0, [rec500 .absent, ⟨false, false, .absent, .notJson, .no⟩], 9⟩
    true true 5).res = .err (.nonceFetch .transport) := by decide +kernel
-- the bound is reached: ten recoverable answers, ten transmissions, "too much errors"
example : (posts (post 10 .take ⟨some 0, List.replicate 12 (rec500 (.valid 4)), 9⟩
    true true 5).evs).length = 10 := by decide +kernel
example : (post 10 .take ⟨some 0, List.replicate 12 (rec500 (.valid 4)), 9⟩
    true true 5).res = .err .tooManyErrors := by decide +kernel

-- `nonce_fresh`: a GET, a POST with a retry and a nonce fetch, a poll of two rounds with a retry
private def exCalls : List Call := [.get true 1, .post true true 5, .poll true true 6 stdDec stdMat]
private def exSt : State :=
  ⟨none, [ok200 (.valid 10) 0, rec500 .absent, ok200 (.valid 11) 0, ok200 (.valid 12) 2,
    ok200 (.valid 13) 1, rec500 (.valid 14), ok200 .absent 2], 9⟩
example : (exSt.nonce.toList ++ exSt.script.filterMap Answer.issued).Nodup := by decide +kernel
example : postNonces (runCalls 20 10 .take exSt exCalls).2.2 = [10, 11, 12, 13, 14] := by decide +kernel
example : (runCalls 20 10 .take exSt exCalls).1 =
    [.ok (.payload 0), .ok (.payload 2), .ok (.payload 2)] := by decide +kernel

end Examples

end AcmedVerif.Props.C08
