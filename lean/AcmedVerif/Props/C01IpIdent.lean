/-
C01 — the identifier theorem of `Props/C01Ident` instantiated with the MODELLED canonical IP text
(`IpText.canonChars`, the model of `IpAddr::from_str(..)?.to_string()`; `Props/C01Ip` proves its round
trip and shape, the tie to std is by correspondence runs), so that the canonical form is not a parameter
of the statement.
-/
import AcmedVerif.Props.C01Ident
import AcmedVerif.Props.C01Ip

namespace AcmedVerif.Props.C01IpIdent
open AcmedVerif AcmedVerif.Idna AcmedVerif.Ident AcmedVerif.IpText
open AcmedVerif.Props.C01Ident AcmedVerif.Props.C01Ip

/-- The parameters of the identifier model with the IP canonicaliser fixed to the modelled one. -/
def withModelledIp (P : Params) : Params := { P with ipCanon := canonChars }

open AcmedVerif.Spec.C01Ident in
/-- For every configuration that loads — IP identifiers canonicalised by the MODEL of
`IpAddr::from_str` + `to_string`, not by an assumed function — the judge accepts the newOrder
identifiers and the CSR split. -/
theorem judge_accepts_model_ip (P : Params) (hA : LowerAscii P.lowerStr)
    (hU : LowerNoUpper P.lowerStr) (hD : LowerNoDot P.lowerStr)
    (raws : List RawId) (ids : List Identifier)
    (h : mkIdentifiers (withModelledIp P) raws = .ok ids) :
    holds (cfgOf raws ids) (orderIds ids) (csrDomains ids) (csrIps ids) = true :=
  Props.C01Ident.judge_accepts_model (withModelledIp P) hA hU hD ipCanon_shape raws ids h

/-- A run that returns a value with a decidable property: one evaluation finds the value and checks it. -/
theorem exists_ok_of_decide {ε α : Type} {x : Except ε α} {p : α → Prop} [DecidablePred p]
    (h : x.toOption.any (fun a => decide (p a)) = true) : ∃ a, x = .ok a ∧ p a := by
  cases x with
  | error e => cases h
  | ok a => exact ⟨a, rfl, of_decide_eq_true h⟩

def ipRaws : List RawId :=
  [ { dns := some "Example.ORG".toList, ip := none, challenge := "http-01".toList, env := [] },
    { dns := none, ip := some "2001:0DB8:0:0:0:0:0:1".toList, challenge := "tls-alpn-01".toList, env := [] },
    { dns := none, ip := some "192.0.2.1".toList, challenge := "http-01".toList, env := [] } ]

/-- Non-vacuity: a configuration with non-canonical IPv6 and IPv4 spellings loads under the modelled
canonicaliser, and newOrder / CSR carry the canonical texts. -/
example : ∃ ids, mkIdentifiers (withModelledIp sampleParams) ipRaws = .ok ids ∧
    orderIds ids = [(.dns, "example.org".toList), (.ip, "2001:db8::1".toList), (.ip, "192.0.2.1".toList)] ∧
    csrIps ids = ["2001:db8::1".toList, "192.0.2.1".toList] := by
  apply exists_ok_of_decide
  -- the kernel decodes a string literal in quadratic time: spell the literals as lists of characters first
  rw [ipRaws]
  repeat rw [String.toList_ofList]
  decide +kernel

/-- … and a spelling std refuses (a leading-zero octet) makes the configuration fail to load. -/
example : (mkIdentifiers (withModelledIp sampleParams)
    [{ dns := none, ip := some "192.0.2.01".toList, challenge := "http-01".toList, env := [] }]).toOption = none := by
  repeat rw [String.toList_ofList]
  decide +kernel

end AcmedVerif.Props.C01IpIdent
