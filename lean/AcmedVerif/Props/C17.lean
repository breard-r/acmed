/-
C17 — "No sequence of failed, aborted, malformed, slow or non-ACME connections, in any order and
concurrency, stops tacd from answering a subsequent valid acme-tls/1 handshake correctly, in the
build profile the project ships (release, panic=abort)."
Theorems about the survival state machine of `Model/Tacd.lean`. The instance of the tree before
commit 633d75a is (`panics`, `abort`): `acceptor.accept(stream).unwrap()` in the connection thread
(`tacd/src/openssl_server.rs:22`), `Cargo.toml:11` `panic = 'abort'`. The
instance of the working tree is read from `Gen/Profile.lean` (regenerated on every run):
`shipped_survives` only compiles while that instance is a surviving one.
-/
import AcmedVerif.Lemmas.Tacd
import AcmedVerif.Spec.C17
import AcmedVerif.Gen.Profile

namespace AcmedVerif.Props.C17
open AcmedVerif.Tacd

/-- **`survives_all_histories`.** If a failed handshake does not panic, or panics only unwind the
connection thread, then after EVERY history of finished connections — any length, any order of
completion — the process is alive. -/
theorem survives_all_histories (f : OnFailure) (s : PanicStrategy)
    (h : f = .ignored ∨ s = .unwind) : ∀ history, run f s history = .alive :=
  fun history => run_alive f s h history

/-- **`dies_is_reachable`.** With `unwrap` on the handshake result and `panic = 'abort'`, ONE failed
handshake kills the process, and it stays dead whatever follows (no later handshake is answered). -/
theorem dies_is_reachable (f : OnFailure) (s : PanicStrategy) (h : f = .panics ∧ s = .abort) :
    ¬ run f s [.handshakeFailed] = .alive ∧
    ∀ later, run f s (.handshakeFailed :: later) = .dead := by
  obtain ⟨rfl, rfl⟩ := h
  refine ⟨by decide, fun later => ?_⟩
  simp only [run, List.foldl_cons]
  exact run_dead _ _ later

/-- The two theorems cover all four instances: the process survives every history iff the
instance is not (`panics`, `abort`). -/
theorem survives_iff (f : OnFailure) (s : PanicStrategy) :
    (∀ history, run f s history = .alive) ↔ ¬ (f = .panics ∧ s = .abort) := by
  constructor
  · intro hall hfs
    exact (dies_is_reachable f s hfs).1 (hall _)
  · intro hn
    apply survives_all_histories
    cases f <;> cases s <;> simp at hn ⊢

/-- The full C17 statement was FALSE of the unrepaired instance (`unwrap` + `panic = 'abort'`): a
client offering a foreign ALPN protocol (or plain HTTP, garbage, connect-and-close) followed by a
valid validation attempt. -/
theorem c17_unrepaired_is_false :
    predict unrepairedOnFailure unrepairedPanicStrategy [.foreignAlpn, .validAcme] = .dead ∧
    instanceOf true 0 true = (unrepairedOnFailure, unrepairedPanicStrategy) ∧
    Spec.C17.holds [.foreignAlpn, .validAcme] false false = false := by
  refine ⟨by decide, by decide, by decide⟩

/-- The instance extracted from the working tree. -/
def shipped : OnFailure × PanicStrategy :=
  instanceOf Gen.acceptResultUnwrapped Gen.acceptMacroPanicSites Gen.releasePanicAbort

/-- **The working tree's instance survives every history** (this proof is checked against the
regenerated `Gen/Profile.lean`; it stops compiling if `unwrap` or another panic site comes back on
the connection path while `panic = 'abort'` is shipped). Stalled and abandoned connections
produce no event: each is parked in its own thread. -/
theorem shipped_survives (history : List Conn) : run shipped.1 shipped.2 history = .alive :=
  survives_all_histories _ _ (by decide) history

theorem shipped_predict_alive (history : List Behaviour) :
    predict shipped.1 shipped.2 history = .alive :=
  shipped_survives _

/-- On the unrepaired instance the process survives exactly the histories without a failing
handshake. -/
theorem unrepaired_alive_iff (history : List Conn) :
    run unrepairedOnFailure unrepairedPanicStrategy history = .alive ↔
      .handshakeFailed ∉ history := by
  induction history with
  | nil => simp [run]
  | cons c cs ih =>
    cases c with
    | handshakeOk =>
      simp only [run, List.foldl_cons, step] at ih ⊢
      rw [ih]; simp
    | handshakeFailed =>
      have : run unrepairedOnFailure unrepairedPanicStrategy (.handshakeFailed :: cs) = .dead :=
        (dies_is_reachable _ _ ⟨rfl, rfl⟩).2 cs
      rw [this]; simp

/-- **`accept_loop_continues`.** The accept loop ignores `Err` from `incoming()` (`if let
Ok(stream)`) and never exits: after every sequence of accept results in which the OS could still
create threads, the loop is running and exactly one handler thread was spawned per accepted
connection. -/
theorem accept_loop_continues (evs : List AcceptEv) (h : ∀ e ∈ evs, e ≠ .okSpawnFails) :
    (acceptRun false evs).running = true ∧ (acceptRun false evs).spawned = evs.count .ok := by
  have := acceptRun_spec evs h { running := true, spawned := 0 } rfl
  simpa [acceptRun] using this

/-- … and that is the loop of the working tree. -/
theorem shipped_accept_loop_continues (evs : List AcceptEv) (h : ∀ e ∈ evs, e ≠ .okSpawnFails) :
    (acceptRun Gen.acceptLoopExitsOnErr evs).running = true :=
  (accept_loop_continues evs h).1

/-- A loop that left on `Err` would stop at the first failed `accept(2)` (e.g. `EMFILE`,
`ECONNABORTED`). -/
theorem accept_loop_exit_on_err_is_reachable :
    (acceptRun true [.ok, .err, .ok]).running = false := by decide

/-- The boundary of `accept_loop_continues`: `thread::spawn` panics when the OS refuses a new
thread; that panic is on the MAIN thread and ends the loop under either panic strategy. Nothing
bounds the number of parked connection threads (no handshake timeout), so enough stalled
connections reach this state. -/
theorem accept_loop_spawn_failure_exits (x : Bool) (before after : List AcceptEv) :
    (acceptRun x (before ++ .okSpawnFails :: after)).running = false := by
  unfold acceptRun
  rw [List.foldl_append, List.foldl_cons]
  apply acceptRun_stopped
  simp only [acceptStep]
  split <;> simp_all

/-- Non-vacuity: a history with failures, in the repaired instance. -/
example : run .ignored .abort [.handshakeFailed, .handshakeOk, .handshakeFailed] = .alive := by
  decide

end AcmedVerif.Props.C17
