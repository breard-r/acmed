/-
C10, argument clause.  The model of `call_single`'s argument loop (`HookArgs.argv`, hooks.rs:132-140)
gives ONE argument per declared element of `args`, in order: `argv = declared.map render`, which is
what the judge `Spec.C10Args.holds` expects.  Proved beyond that identity: an observer who knows fewer
of the hook data's values than the daemon (`Refines`) still accepts the vector, full knowledge pins it,
and the judge rejects every vector that lost an argument, in particular the seeded variant's, which
leaves out the arguments rendered to the empty string.
-/
import AcmedVerif.Model.HookArgs
import AcmedVerif.Spec.C10Args

namespace AcmedVerif.Props.C10Args
open AcmedVerif.HookArgs AcmedVerif.Spec.C10Args

/-- The argument loop pushes exactly one argument per declared element, in order: the vector IS the
declared list mapped through the renderer. -/
theorem argv_one_per_declared_element (vars : Vars) (env : EnvTab) (declared : List Template) :
    argv vars env declared = declared.map (render vars env) ∧
    (argv vars env declared).length = declared.length := by
  have h : argv vars env declared = declared.map (render vars env) := by
    induction declared with
    | nil => rfl
    | cons t ts ih => simp [argv, ih]
  exact ⟨h, by rw [h, List.length_map]⟩

theorem argvHolds_length : ∀ (e : List (Option String)) (o : List String),
    argvHolds e o = true → o.length = e.length
  | [], [], _ => rfl
  | [], _ :: _, h => by simp [argvHolds] at h
  | _ :: _, [], h => by simp [argvHolds] at h
  | _ :: es, _ :: os, h => by
    simp only [argvHolds, Bool.and_eq_true] at h
    simp [argvHolds_length es os h.2]

theorem holds_length (vars : Vars) (env : EnvTab) (declared : List Template) (observed : List String)
    (h : holds vars env declared observed = true) : observed.length = declared.length := by
  have := argvHolds_length _ _ h
  simpa [expected] using this

theorem argvHolds_exact : ∀ (o o' : List String),
    argvHolds (o.map some) o' = true → o' = o
  | [], [], _ => rfl
  | [], _ :: _, h => by simp [argvHolds] at h
  | _ :: _, [], h => by simp [argvHolds] at h
  | a :: os, b :: os', h => by
    simp only [List.map, argvHolds, Bool.and_eq_true, decide_eq_true_eq] at h
    rw [h.1, argvHolds_exact os os' h.2]

theorem argvHolds_refl : ∀ (o : List String), argvHolds (o.map some) o = true
  | [] => rfl
  | _ :: os => by simp [argvHolds, argvHolds_refl os]

/-! ## An observer who knows less predicts less, never something else -/

theorem renderTok_refines {weak strong : Vars} (h : Refines weak strong) (env : EnvTab) (t : Tok) :
    renderTok weak env t = none ∨ renderTok weak env t = renderTok strong env t := by
  cases t with
  | lit s => exact .inr rfl
  | env k => exact .inr rfl
  | other => exact .inl rfl
  | var n => rcases h n with hn | hn <;> simp [renderTok, hn]
  | cond n neg thn els => rcases h n with hn | hn <;> simp [renderTok, hn]
  | join n sep => rcases h n with hn | hn <;> simp [renderTok, hn]
  | length n => rcases h n with hn | hn <;> simp [renderTok, hn]
  | each n pre post => rcases h n with hn | hn <;> simp [renderTok, hn]

theorem render_refines {weak strong : Vars} (h : Refines weak strong) (env : EnvTab) :
    ∀ t : Template, render weak env t = none ∨ render weak env t = render strong env t
  | [] => .inr rfl
  | tok :: ts => by
    rcases renderTok_refines h env tok with h1 | h1
    · left; simp [render, h1]
    · rcases render_refines h env ts with h2 | h2
      · left
        simp only [render, h2]
        cases renderTok weak env tok <;> rfl
      · right; simp [render, h1, h2]

/-- The model meets the judge: whatever the daemon's hook data hold (`full`), if every declared element
renders (no template error: `observed` is the vector the child receives), an observer whose bindings
`weak` tell nothing `full` does not accepts the vector. -/
theorem argv_meets_judge (full weak : Vars) (env : EnvTab) (h : Refines weak full) :
    ∀ (declared : List Template) (observed : List String),
      argv full env declared = observed.map some → holds weak env declared observed = true
  | [], [], _ => rfl
  | [], _ :: _, hv => by simp [argv] at hv
  | _ :: _, [], hv => by simp [argv] at hv
  | t :: ts, o :: os, hv => by
    simp only [argv, List.map, List.cons.injEq] at hv
    have ih := argv_meets_judge full weak env h ts os hv.2
    simp only [holds, expected, List.map, argvHolds, Bool.and_eq_true]
    refine ⟨?_, by simpa [holds, expected] using ih⟩
    rcases render_refines h env t with hw | hw
    · simp [hw]
    · simp [hw, hv.1]

/-- … and with the daemon's own knowledge the judge accepts that vector only. -/
theorem judge_pins_the_vector (full : Vars) (env : EnvTab) (declared : List Template)
    (observed observed' : List String) (hv : argv full env declared = observed.map some)
    (hj : holds full env declared observed' = true) : observed' = observed := by
  have h1 := (argv_one_per_declared_element full env declared).1
  simp only [holds, expected, ← h1, hv] at hj
  exact argvHolds_exact _ _ hj

theorem argvDropEmpty_length_le (vars : Vars) (env : EnvTab) :
    ∀ declared : List Template, (argvDropEmpty vars env declared).length ≤ declared.length
  | [] => Nat.le_refl _
  | t :: ts => by
    have ih := argvDropEmpty_length_le vars env ts
    simp only [argvDropEmpty]
    split <;> simp <;> omega

/-- As soon as one declared element renders to the empty string, the variant's vector is shorter than
the declared list … -/
theorem argvDropEmpty_shorter (vars : Vars) (env : EnvTab) :
    ∀ declared : List Template, (∃ t ∈ declared, render vars env t = some "") →
      (argvDropEmpty vars env declared).length < declared.length
  | [], h => by simp at h
  | t :: ts, h => by
    have hle := argvDropEmpty_length_le vars env ts
    by_cases ht : render vars env t = some ""
    · simp only [argvDropEmpty, ht, List.length_cons]; omega
    · have : ∃ t' ∈ ts, render vars env t' = some "" := by
        rcases h with ⟨t', hm, hr⟩
        rcases List.mem_cons.mp hm with rfl | hm
        · exact absurd hr ht
        · exact ⟨t', hm, hr⟩
      have ih := argvDropEmpty_shorter vars env ts this
      simp only [argvDropEmpty, List.length_cons]
      omega

/-- … and the judge refuses it: a hook whose `args` hold an element that renders to the empty string
(a variable of another type, an unset environment key, a literal "") does not receive its arguments
from the variant `C10-empty-rendered-argument-dropped`. -/
theorem dropping_empty_arguments_is_rejected (vars : Vars) (env : EnvTab) (declared : List Template)
    (observed : List String) (hv : argvDropEmpty vars env declared = observed.map some)
    (he : ∃ t ∈ declared, render vars env t = some "") :
    holds vars env declared observed = false := by
  cases hh : holds vars env declared observed with
  | false => rfl
  | true =>
    have h1 := holds_length vars env declared observed hh
    have h2 := argvDropEmpty_shorter vars env declared he
    rw [hv, List.length_map] at h2
    omega

/-- Hook data of a dns-01 event as an observer knows them (three members it cannot tell). -/
def exVars : Vars :=
  [("identifier", .known (.str "example.org")), ("proof", .known (.str "tok.thumb")),
   ("challenge", .known (.str "dns-01")), ("is_clean_hook", .known (.bool false)),
   ("file_name", .unknown), ("raw_proof", .unknown), ("identifier_tls_alpn", .unknown)]

/-- `args` of a hook of types http-01 + dns-01 + post-operation: `["{{ identifier }}", "{{ status }}",
"{{ env.UNSET }}", "", "{% if is_success %}ok{% endif %}", "proof={{ proof }}", "{{ file_name }}"]`:
seven arguments, four of them empty, the last not predicted. -/
def exDeclared : List Template :=
  [[.var "identifier"], [.var "status"], [.env "UNSET"], [], [.cond "is_success" false "ok" ""],
   [.lit "proof=", .var "proof"], [.var "file_name"]]

example : expected exVars [] exDeclared =
    [some "example.org", some "", some "", some "", some "", some "proof=tok.thumb", none] := by decide +kernel

example : holds exVars [] exDeclared ["example.org", "", "", "", "", "proof=tok.thumb", "anything"] = true := by
  decide +kernel

/-- What the seeded variant hands to the child for the same hook (the last element rendered "x"). -/
example : holds exVars [] exDeclared ["example.org", "proof=tok.thumb", "x"] = false := by decide +kernel

example : argvDropEmpty exVars [] (exDeclared.take 6) = [some "example.org", some "proof=tok.thumb"] := by decide +kernel

end AcmedVerif.Props.C10Args
