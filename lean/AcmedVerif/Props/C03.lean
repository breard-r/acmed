/-
C03 — the installed certificate / key pair stays consistent across any renewal attempt.
Theorems about `Flow.attempt` (`Model/Flow.lean`); helper lemmas in `Lemmas/Flow.lean`.
All statements are for EVERY world: any script of CA answers (any length), any hook script, any
configuration, `kp_reuse` on or off, any initial files, any account state.
-/
import AcmedVerif.Lemmas.Flow

namespace AcmedVerif.Props.C03
open AcmedVerif.Flow

/-- "The certificate file, if present, is a parseable chain whose leaf key matches the key file." -/
def Consistent (f : Files) : Prop :=
  f.certFile = none ∨ ∃ k, f.certFile = some (.chain k) ∧ f.keyFile = some k

instance (f : Files) : Decidable (Consistent f) := by
  unfold Consistent
  cases hc : f.certFile with
  | none => exact isTrue (.inl rfl)
  | some c =>
    cases c with
    | garbage => exact isFalse (by rintro (h | ⟨k, h, _⟩) <;> simp at h)
    | chain k =>
      by_cases hk : f.keyFile = some k
      · exact isTrue (.inr ⟨k, rfl, hk⟩)
      · exact isFalse (by
          rintro (h | ⟨k', h, h2⟩)
          · simp at h
          · simp at h; subst h; exact hk h2)

/-- **Untouched on failure (current tree).** Whatever the CA, the network and the hooks did: if the
attempt fails at any step other than the two final file writes (i.e. before a certificate for the
order's key has been obtained and checked), both files are identical to their initial state. -/
theorem pair_untouched_on_failure (cfg : Cfg) (w : World) (s : Step)
    (h : (attempt .current cfg w).1 = .failed s) (h1 : s ≠ .writeKey) (h2 : s ≠ .writeCert) :
    (attempt .current cfg w).2.2.files = w.files := by
  rw [attempt_result_tag] at h
  show (attemptM .current cfg { w with trace := [] }).2.files = w.files
  rcases attempt_cases .current cfg { w with trace := [] } with
    ⟨k, isNew, c, w1, _, ha⟩ | ⟨_, _, hw⟩
  · rw [ha] at h
    rcases install_outcome .current k isNew c w1 with e | e | ⟨e | e, _⟩ <;> rw [e] at h
    · cases h
    · cases h
    · exact absurd (Result.failed.inj h).symm h1
    · exact absurd (Result.failed.inj h).symm h2
  · rw [hw]
    exact ((Frame.obtainM .current rfl cfg).run _).1

/-- **Consistent on success (current tree).** If the attempt succeeds, the certificate file is a
chain whose leaf key is the key the CSR was built with, and the key file holds that key. -/
theorem pair_consistent_on_success (cfg : Cfg) (w : World)
    (h : (attempt .current cfg w).1 = .ok) :
    ∃ k, .csr k ∈ (attempt .current cfg w).2.1 ∧
      (attempt .current cfg w).2.2.files.certFile = some (.chain k) ∧
      (attempt .current cfg w).2.2.files.keyFile = some k := by
  obtain ⟨w', hr, hw⟩ := attempt_ok_inv h
  obtain ⟨k, _, body, _, _, _, _, htr, _, _, hcsr, _, _, hcert, hkey, hpb⟩ := attempt_ok_trace hr
  rw [hw]
  refine ⟨k, ?_, ?_, hkey⟩
  · rw [htr]; simp [hcsr]
  · rw [hcert, hpb rfl]; rfl

/-- **C03 for CA / network faults (current tree).** Starting from no certificate or a matching
pair, at the end of every attempt — successful or failed at any step, whatever the CA and the
network did — the certificate file is absent or matches the key file, PROVIDED the hooks attached to
the two final file writes did not fail (and the scripts did not run out).

Residual class, a hook fault and not a CA/network fault: the new key was written and the
certificate write did not complete (key post-hook or certificate pre-hook failed): see
`pair_hookfault_class_is_reachable`. -/
theorem pair_consistent_always (cfg : Cfg) (w : World) (h0 : Consistent w.files)
    (hs : (attempt .current cfg w).1 ≠ .stuck)
    (hk : (attempt .current cfg w).1 ≠ .failed .writeKey)
    (hc : (attempt .current cfg w).1 ≠ .failed .writeCert) :
    Consistent (attempt .current cfg w).2.2.files := by
  cases hr : (attempt .current cfg w).1 with
  | ok =>
    obtain ⟨k, _, h1, h2⟩ := pair_consistent_on_success cfg w hr
    exact .inr ⟨k, h1, h2⟩
  | stuck => exact absurd hr hs
  | failed s =>
    have h1 : s ≠ .writeKey := fun e => hk (by rw [hr, e])
    have h2 : s ≠ .writeCert := fun e => hc (by rw [hr, e])
    rw [pair_untouched_on_failure cfg w s hr h1 h2]
    exact h0

/-! ### Witness worlds -/

def okOrder (s : OrderStatus) : ExRes := .ok (.order ⟨s, [7], true, true⟩)

/-- A conforming CA for one identifier, serving the certificate body `cb`. -/
def caScript (finalizeAnswer : ExRes) (cb : CertBody) : List ExRes :=
  [.ok (.directory true), okOrder .pending,
   .ok (.authz ⟨1, false, .pending, [(.http01, 5), (.dns01, 6)]⟩), .ok .undecodable,
   .ok (.authz ⟨1, false, .valid, []⟩), okOrder .ready, finalizeAnswer, okOrder .valid,
   .ok (.cert cb)]

def acc1 : Acc := ⟨true, true, true, false, 100, 100, 100, true⟩
def cfg1 : Cfg := ⟨false, [⟨1, false, .http01⟩]⟩
/-- A previously installed matching pair (key 7), next fresh key 8. -/
def world1 (exs : List ExRes) (hks : List Bool) : World :=
  ⟨exs, hks, [], ⟨some 7, some (.chain 7)⟩, 8, true, acc1, []⟩

/-- Non-vacuity: the happy path succeeds and installs the new pair (key 8). -/
example : (attempt .current cfg1 (world1 (caScript (okOrder .processing) (.chainFor 8))
    (List.replicate 6 true))).1 = .ok := by decide +kernel
example : (attempt .current cfg1 (world1 (caScript (okOrder .processing) (.chainFor 8))
    (List.replicate 6 true))).2.2.files = ⟨some 8, some (.chain 8)⟩ := by decide +kernel
/-- Non-vacuity: a failing attempt (finalize refused) satisfies the hypotheses of
`pair_untouched_on_failure`. -/
example : (attempt .current cfg1 (world1 (caScript .otherErr (.chainFor 8))
    (List.replicate 6 true))).1 = .failed .finalize := by decide +kernel

/-- The residual class is real: every CA answer favourable, key write completed, the certificate
write's pre hook fails ⇒ new key beside the old certificate. -/
theorem pair_hookfault_class_is_reachable :
    ∃ cfg w, Consistent w.files ∧ (attempt .current cfg w).1 = .failed .writeCert ∧
      ¬ Consistent (attempt .current cfg w).2.2.files :=
  ⟨cfg1, world1 (caScript (okOrder .processing) (.chainFor 8)) [true, true, true, true, false],
    by decide +kernel⟩

/-- **Historical behaviour violates C03** (variant `old`, i.e. before e6c79aa / 13f7261).
(1) `kp_reuse` off, matching pair installed, finalize answered with an error after the key was
generated and written ⇒ the attempt fails at `finalize`, the key file holds the NEW key, the
certificate is the OLD one.  (2) The download is answered with a body that is not a certificate ⇒
the attempt SUCCEEDS and the certificate file is garbage. -/
theorem pair_old_is_false :
    (∃ cfg w, Consistent w.files ∧ (attempt .old cfg w).1 = .failed .finalize ∧
      ¬ Consistent (attempt .old cfg w).2.2.files) ∧
    (∃ cfg w, Consistent w.files ∧ (attempt .old cfg w).1 = .ok ∧
      (attempt .old cfg w).2.2.files.certFile = some .garbage) :=
  ⟨⟨cfg1, world1 (caScript .otherErr (.chainFor 8)) (List.replicate 6 true), by decide +kernel⟩,
   ⟨cfg1, world1 (caScript (okOrder .processing) .unparseable) (List.replicate 6 true),
    by decide +kernel⟩⟩

/-- The same two scripts are harmless in the current tree. -/
example : (attempt .current cfg1 (world1 (caScript .otherErr (.chainFor 8))
    (List.replicate 6 true))).2.2.files = ⟨some 7, some (.chain 7)⟩ := by decide +kernel
example : (attempt .current cfg1 (world1 (caScript (okOrder .processing) .unparseable)
    (List.replicate 6 true))).1 = .failed .certParse := by decide +kernel

end AcmedVerif.Props.C03
