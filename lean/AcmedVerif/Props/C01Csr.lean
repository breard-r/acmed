/-
C01.3 — "the CSR sent at finalization has … the configured subject attributes and digest, and a
valid self-signature": theorems about `Model/CsrReq.lean` (`Csr::new`,
`acme_common/src/crypto/openssl_certificate.rs:15-69`, fed by `acme_proto.rs:228-247` from the
`Certificate` that `main_event_loop.rs:111-116` builds out of the `[[certificate]]` table).

For EVERY certificate configuration that loads, every identifier list, every key pair, every
behaviour of OpenSSL's checks and every iteration order of the hash map.
-/
import AcmedVerif.Model.CsrReq
import AcmedVerif.Lemmas.CsrReq
import AcmedVerif.Spec.C01
import AcmedVerif.Gen.Tables

namespace AcmedVerif.Props.C01Csr
open AcmedVerif AcmedVerif.CsrReq AcmedVerif.Ident

/-- **`csr_subject_exact`.**  Whenever a CSR is built for a loaded configuration, its subject name
consists of exactly the configured attributes: every entry is a configured (attribute, value) pair
and vice versa, no attribute occurs twice, and as a list it is a permutation of the configured
table (hence equal to it once both are sorted, which is what `Spec.C01.holds` compares) — in the
order in which the hash map yields them.  Read through OpenSSL's short names likewise. -/
theorem csr_subject_exact (lower : List Char → List Char) (cfg : CertCfg) (ids : List Identifier)
    (cert : Certificate) (o : Ossl) (ho : IterOk o) (kp : KeyPair) (c : Csr)
    (hl : Certificate.ofCfg lower cfg ids = some cert) (hc : finalizeCsr o cert kp = some c) :
    c.subject = o.iter (toGeneric cfg.subject) ∧
    c.subject.Perm (toGeneric cfg.subject) ∧
    (∀ a v, (a, v) ∈ c.subject ↔ cfg.subject a = some v) ∧
    (c.subject.map (·.1)).Nodup ∧
    c.subjectNames.Perm ((toGeneric cfg.subject).map fun p => (p.1.shortName, p.2)) := by
  have hcert := (Certificate.ofCfg_some hl).2.2.2
  obtain ⟨_, _, _, _, _, hs, _, _⟩ := Csr.new_some hc
  rw [hcert] at hs
  have heq : c.subject = o.iter (toGeneric cfg.subject) := by
    rw [hs]
    cases he : (toGeneric cfg.subject).isEmpty
    · rfl
    · have hnil : toGeneric cfg.subject = [] := List.isEmpty_iff.mp he
      have := (ho []).eq_nil
      simp [hnil, this]
  have hp : c.subject.Perm (toGeneric cfg.subject) := heq ▸ ho _
  refine ⟨heq, hp, ?_, ?_, ?_⟩
  · intro a v
    rw [hp.mem_iff, mem_toGeneric]
  · exact ((hp.map (·.1)).nodup_iff).mpr (toGeneric_keys_nodup cfg.subject)
  · exact hp.map _

def cfgFrEx : CertCfg where
  csrDigest := none
  keyType := none
  subject := fun a => match a with
    | .countryName => some ['F', 'R']
    | .organizationName => some ['E', 'x']
    | _ => none

def osslWith (iter : List (Attr × List Char) → List (Attr × List Char)) : Ossl where
  entryOk := fun _ v => !v.isEmpty
  sanOk := fun _ _ => true
  signOk := fun _ _ => true
  iter := iter

theorem iterOk_id : IterOk (osslWith id) := fun l => List.Perm.refl l
theorem iterOk_reverse : IterOk (osslWith List.reverse) := fun l => List.reverse_perm l

/-- The ORDER of the subject's entries is not determined by the configuration: two processes (two
iteration orders of the same map) give different names for `country_name = "FR"`,
`organization_name = "Ex"` (`cfgFrEx`).  So the strict reading "in the configured order" is false of
the code … -/
theorem csr_subject_in_order_full_is_false :
    ¬ ∀ (lower : List Char → List Char) (cfg : CertCfg) (ids : List Identifier) (cert : Certificate)
        (o : Ossl), IterOk o → ∀ (kp : KeyPair) (c : Csr),
        Certificate.ofCfg lower cfg ids = some cert → finalizeCsr o cert kp = some c →
        c.subject = toGeneric cfg.subject := by
  intro h
  have := h id cfgFrEx [] ⟨[], toGeneric cfgFrEx.subject, .rsa2048, .sha256⟩
    (osslWith List.reverse) iterOk_reverse ⟨1, .rsa2048⟩
    ⟨1, [(.organizationName, ['E', 'x']), (.countryName, ['F', 'R'])], [], [], 1, .sha256⟩
    (by decide) (by decide)
  revert this
  decide

/-- … and true when at most one attribute is configured. -/
theorem csr_subject_in_order_partial (lower : List Char → List Char) (cfg : CertCfg)
    (ids : List Identifier) (cert : Certificate) (o : Ossl) (ho : IterOk o) (kp : KeyPair) (c : Csr)
    (hl : Certificate.ofCfg lower cfg ids = some cert) (hc : finalizeCsr o cert kp = some c)
    (h1 : (toGeneric cfg.subject).length ≤ 1) :
    c.subject = toGeneric cfg.subject := by
  have hp := (csr_subject_exact lower cfg ids cert o ho kp c hl hc).2.1
  match hg : toGeneric cfg.subject, h1 with
  | [], _ => rw [hg] at hp; exact hp.eq_nil
  | [x], _ => rw [hg] at hp; exact List.perm_singleton.mp hp
  | _ :: _ :: _, h => simp at h

/-- For all 7 × 3 combinations the model's signature algorithm is the judge's single expectation;
the digest is ignored exactly for the two EdDSA types. -/
theorem sigalg_matches_judge (kt : KeyType) (d : Hash) :
    (sigAlgName kt (getDigest d kt)).toList = Spec.C01.expectedSigAlg kt.name d.name ∧
    (Spec.C01.expectedSigAlg kt.name d.name).length = 1 ∧
    (getDigest d kt = .null ↔ kt.isEdDsa = true) := by
  revert kt d
  exact forall_keyType_hash (by decide +kernel)

/-- **`csr_digest_exact`.**  Whenever a CSR is built for a loaded configuration: the digest the
configuration names (`csr_digest`, default sha256) is the one the certificate carries; the CSR is
signed with exactly that digest unless the key pair in use is an EdDSA key, in which case it is
signed with the null digest (Ed25519/Ed448 have no separate digest); the signing key is the key
whose public half the CSR carries (self-signature); and OpenSSL's name for "key family + digest"
is the single name the judge `Spec.C01.expectedSigAlg` expects. -/
theorem csr_digest_exact (lower : List Char → List Char) (cfg : CertCfg) (ids : List Identifier)
    (cert : Certificate) (o : Ossl) (kp : KeyPair) (c : Csr)
    (hl : Certificate.ofCfg lower cfg ids = some cert) (hc : finalizeCsr o cert kp = some c) :
    getCsrDigest lower cfg.csrDigest = some cert.csrDigest ∧
    (kp.keyType.isEdDsa = false → c.md = cert.csrDigest.native) ∧
    (kp.keyType.isEdDsa = true → c.md = .null) ∧
    c.signedBy = c.pubkey ∧ c.pubkey = kp.id ∧
    ∃ name, sigAlgName kp.keyType c.md = some name ∧
      Spec.C01.expectedSigAlg kp.keyType.name cert.csrDigest.name = [name] := by
  obtain ⟨hpk, hsg, _, _, hmd, _, _, _⟩ := Csr.new_some hc
  refine ⟨(Certificate.ofCfg_some hl).2.1, ?_, ?_, by rw [hsg, hpk], hpk, ?_⟩
  · intro he
    rw [hmd, getDigest_eq, he]; rfl
  · intro he
    rw [hmd, getDigest_eq, he]; rfl
  · obtain ⟨h1, h2, -⟩ := sigalg_matches_judge kp.keyType cert.csrDigest
    rw [hmd]
    cases hs : sigAlgName kp.keyType (getDigest cert.csrDigest kp.keyType) with
    | none => rw [← h1, hs] at h2; cases h2
    | some name => exact ⟨name, rfl, by rw [← h1, hs]; rfl⟩

/-- With a freshly generated key (`kp_reuse = false`, or no usable key file) the key type is the
configured one (`key_type`, default rsa2048), so the signature algorithm follows from the
configuration alone. -/
theorem csr_digest_exact_new_key (lower : List Char → List Char) (cfg : CertCfg)
    (ids : List Identifier) (cert : Certificate) (o : Ossl) (id : Nat) (c : Csr)
    (hl : Certificate.ofCfg lower cfg ids = some cert)
    (hc : finalizeCsr o cert (genKeyPair cert id) = some c) :
    getKeyType lower cfg.keyType = some cert.keyType ∧
    c.md = getDigest cert.csrDigest cert.keyType ∧
    (sigAlgName cert.keyType c.md).toList =
      Spec.C01.expectedSigAlg cert.keyType.name cert.csrDigest.name := by
  obtain ⟨_, _, _, _, hmd, _, _, _⟩ := Csr.new_some hc
  refine ⟨(Certificate.ofCfg_some hl).1, hmd, ?_⟩
  rw [hmd]
  exact (sigalg_matches_judge cert.keyType cert.csrDigest).1

/-- The subjectAltName entries are the two identifier classes, in order (C01.2 for this model; the
permutation statement is `C01Ident.csr_sans_perm_order`). -/
theorem csr_sans_exact (lower : List Char → List Char) (cfg : CertCfg) (ids : List Identifier)
    (cert : Certificate) (o : Ossl) (kp : KeyPair) (c : Csr)
    (hl : Certificate.ofCfg lower cfg ids = some cert) (hc : finalizeCsr o cert kp = some c) :
    c.sanDns = csrDomains ids ∧ c.sanIp = csrIps ids := by
  obtain ⟨_, _, h1, h2, _⟩ := Csr.new_some hc
  rw [← (Certificate.ofCfg_some hl).2.2.1]
  exact ⟨h1, h2⟩

/-- When a CSR is built at all: OpenSSL accepts every configured subject value, the names and the
signature.  (So the hypotheses above hide nothing else: no other `Err` path in `Csr::new`.) -/
theorem csr_built_iff (o : Ossl) (ho : IterOk o) (cert : Certificate) (kp : KeyPair) :
    (finalizeCsr o cert kp).isSome = true ↔
      (∀ p ∈ cert.subjectAttributes, o.entryOk p.1 p.2 = true) ∧
      o.sanOk (csrDomains cert.identifiers) (csrIps cert.identifiers) = true ∧
      o.signOk kp.id (getDigest cert.csrDigest kp.keyType) = true := by
  have hall : ((o.iter cert.subjectAttributes).all (fun p => o.entryOk p.1 p.2) ||
      cert.subjectAttributes.isEmpty) = cert.subjectAttributes.all (fun p => o.entryOk p.1 p.2) := by
    rw [(ho _).all_eq]
    cases cert.subjectAttributes <;> simp
  rw [finalizeCsr, Csr.new_eq, hall, ← List.all_eq_true]
  cases cert.subjectAttributes.all (fun p => o.entryOk p.1 p.2) <;>
    cases o.sanOk (csrDomains cert.identifiers) (csrIps cert.identifiers) <;>
    cases o.signOk kp.id (getDigest cert.csrDigest kp.keyType) <;> simp

def asciiLower (s : List Char) : List Char := s.map Char.toLower

/-- `get_csr_digest` / `get_key_type` on their spellings: for a lower-casing that is ASCII
lower-casing on these inputs (`asciiLower`), `"SHA-384"`, `"sha_512"`, `"ECDSA-P384"`, `"ecdsa_p521"`
are accepted with the expected meaning, an absent option gives the default, another name is rejected. -/
theorem digest_and_key_type_parsing :
    getCsrDigest asciiLower none = some .sha256 ∧
    getCsrDigest asciiLower (some "SHA-384".toList) = some .sha384 ∧
    getCsrDigest asciiLower (some "sha_512".toList) = some .sha512 ∧
    getCsrDigest asciiLower (some "md5".toList) = none ∧
    getKeyType asciiLower none = some .rsa2048 ∧
    getKeyType asciiLower (some "ECDSA-P384".toList) = some .ecdsaP384 ∧
    getKeyType asciiLower (some "ecdsa_p521".toList) = some .ecdsaP521 ∧
    getKeyType asciiLower (some "ed25519".toList) = some .ed25519 ∧
    getKeyType asciiLower (some "ecdsap256".toList) = none := by decide +kernel

/-- The model's enumerations and defaults are those of the COMPILED code (`Gen/Tables.lean`, probe
op `tables`; `Gen/Consts.lean`): seven key types with these display names (both EdDSA features on),
three hash functions, defaults sha256 / rsa2048. -/
theorem tables_tied :
    KeyType.all.map KeyType.name = Gen.keyTypes.map (·.1) ∧
    Hash.all.map Hash.name = Gen.hashFunctions ∧
    Hash.ofVariant Gen.DEFAULT_CSR_DIGEST = some defaultCsrDigest ∧
    KeyType.ofVariant Gen.DEFAULT_CERT_KEY_TYPE = some defaultCertKeyType := by decide +kernel

def cfgEx : CertCfg := { cfgFrEx with csrDigest := some "SHA-512".toList, keyType := some "ed448".toList }

def idsEx : List Identifier :=
  [⟨.dns, "example.org".toList, .http01, []⟩, ⟨.ip, "192.0.2.7".toList, .http01, []⟩,
   ⟨.dns, "*.example.org".toList, .dns01, []⟩]

def certEx : Certificate :=
  ⟨idsEx, [(.countryName, ['F', 'R']), (.organizationName, ['E', 'x'])], .ed448, .sha512⟩

/-- Non-vacuity (this example and the next two): a configuration that loads, an OpenSSL that refuses
empty values, a reversed iteration order, an Ed448 key: the CSR exists, has both attributes (reversed),
the null digest, and the judge's expectation for it is `ED448` although `csr_digest = "SHA-512"`. -/
example : Certificate.ofCfg asciiLower cfgEx idsEx = some certEx := by
  -- the kernel decodes a string literal in quadratic time: spell the literals as lists of characters first
  rw [certEx, cfgEx, idsEx]
  repeat rw [String.toList_ofList]
  decide +kernel

example : finalizeCsr (osslWith List.reverse) certEx (genKeyPair certEx 9) =
    some ⟨9, [(.organizationName, ['E', 'x']), (.countryName, ['F', 'R'])],
          ["example.org".toList, "*.example.org".toList], ["192.0.2.7".toList], 9, .null⟩ := by
  rw [certEx, idsEx]
  repeat rw [String.toList_ofList]
  decide +kernel

example : Spec.C01.expectedSigAlg certEx.keyType.name certEx.csrDigest.name = ["ED448"] := by decide +kernel

/-- The same certificate with a reused RSA key (`kp_reuse`): sha512 is used. -/
example : (finalizeCsr (osslWith id) certEx ⟨3, .rsa4096⟩).map (·.md) = some .sha512 := by
  decide +kernel

/-- An OpenSSL that insists on two-letter country names refuses `country_name = "FRA"`: no CSR,
the attempt fails (`csr_built_iff`, first conjunct). -/
example : finalizeCsr
    { osslWith id with entryOk := fun a v => if a = .countryName then v.length == 2 else !v.isEmpty }
    { certEx with subjectAttributes := [(.countryName, ['F', 'R', 'A'])] } ⟨3, .rsa4096⟩ = none := by
  decide +kernel

/-- No subject attribute configured: the CSR has an empty subject. -/
example : (finalizeCsr (osslWith id) { certEx with subjectAttributes := [] } ⟨3, .rsa2048⟩).map
    (·.subject) = some [] := by decide +kernel

end AcmedVerif.Props.C01Csr
