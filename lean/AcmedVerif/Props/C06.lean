/-
C06 — renewal exactly when due.

"Whenever the daemon evaluates a certificate it requests a new one immediately if the certificate
or key file is missing or the certificate lacks any configured identifier; otherwise it waits until
notAfter minus renew_delay, minus a random amount in [0, random_early_renew), never longer and
never a negative or overflowing time.  A freshly issued certificate that covers all identifiers and
outlives renew_delay is therefore not renewed again immediately."

Theorems about `Model/Renew.lean` (`schedule` = `Certificate::schedule_renewal` with the repaired
`expires_in`; `scheduleOld` = with `expires_in` as it stands, `i32` arithmetic).  The statements
about `schedule` hold for ALL inputs.  About the unrepaired code the full statement is false
(`far_future_old_is_false`, and `far_past_old_release_waits`); it holds on the explicit class
`−2^31 ≤ notAfter − now < 2^31` seconds (`old_agrees_below_limit`, `old_schedule_partial`).
-/
import AcmedVerif.Model.Renew
import AcmedVerif.Spec.C06
import AcmedVerif.Lemmas.Renew

namespace AcmedVerif.Props.C06
open AcmedVerif.Renew

/-- Admissible random draw: `gen_range(ZERO..rer)` returns a value below `rer`; no draw when
`rer = 0` (then the input is ignored). -/
def admissible (rerNs jitterNs : Nat) : Prop := rerNs = 0 ∨ jitterNs < rerNs

/-- Both files exist, the certificate parses as `c` and names every configured identifier. -/
def covering (disk : Disk) (ids : List (List Char)) (c : Cert) : Prop :=
  disk.keyFile = true ∧ disk.certFile = true ∧ disk.cert = some c ∧ ∀ i ∈ ids, i ∈ c.sans

/-! ### C06.1 -/

/-- Key file missing, or certificate file missing, or (both present and) the parsed certificate
lacks some configured identifier ⇒ `Ok(Duration::ZERO)`: request immediately.  Whatever the delay,
the random amount and the expiry date. -/
theorem missing_file_or_id_immediate (disk : Disk) (ids : List (List Char))
    (delayNs rerNs jitterNs : Nat)
    (h : disk.keyFile = false ∨ disk.certFile = false ∨
         ∃ c, disk.cert = some c ∧ ∃ i ∈ ids, i ∉ c.sans) :
    schedule disk ids delayNs rerNs jitterNs = .now ∧
    (schedule disk ids delayNs rerNs jitterNs).toNs = some 0 := by
  have : schedule disk ids delayNs rerNs jitterNs = .now := by
    unfold schedule filesExist
    rcases h with h | h | ⟨c, hc, hi⟩
    · simp [h]
    · simp [h]
    · have hm : missing ids c.sans = true := (missing_iff ids c.sans).2 hi
      cases disk.keyFile <;> cases disk.certFile <;> simp [hc, hm]
  rw [this]; exact ⟨rfl, rfl⟩

/-! ### C06.2 -/

/-- Otherwise the wait is exactly `((max (notAfter − now) 0) − renew_delay) − random amount`, each
subtraction truncated at zero; no random amount when `random_early_renew = 0`. -/
theorem renew_in_value (disk : Disk) (ids : List (List Char)) (c : Cert)
    (delayNs rerNs jitterNs : Nat) (h : covering disk ids c) :
    schedule disk ids delayNs rerNs jitterNs =
      .wait ((c.notAfterIn.toNat * NS - delayNs) - (if rerNs = 0 then 0 else jitterNs)) := by
  rw [schedule_eq, sit_of_covering h, Sit.pick, expiresIn_eq, renewIn_eq]

/-- Never longer: whatever is on disk, whatever the random draw (admissible or not), a returned
wait never exceeds `notAfter − now − renew_delay`, nor `notAfter − now`. -/
theorem never_longer (disk : Disk) (ids : List (List Char)) (delayNs rerNs jitterNs n : Nat)
    (hn : (schedule disk ids delayNs rerNs jitterNs).toNs = some n) (c : Cert)
    (hc : disk.cert = some c) :
    n ≤ c.notAfterIn.toNat * NS - delayNs ∧ n ≤ c.notAfterIn.toNat * NS := by
  rw [schedule_eq] at hn
  cases hs : sit disk ids with
  | absent | lacking =>
    rw [hs] at hn
    cases hn
    exact ⟨Nat.zero_le _, Nat.zero_le _⟩
  | unparsed => rw [hs] at hn; cases hn
  | covering c' =>
    have hc' := sit_cert disk ids
    rw [hs] at hn hc'
    cases hc.symm.trans hc'
    have := renewIn_le (expiresIn c.notAfterIn) delayNs rerNs jitterNs
    rw [Option.some.inj hn, expiresIn_eq] at this
    exact ⟨this, Nat.le_trans this (Nat.sub_le ..)⟩

/-- Never negative (a `Nat`: both subtractions saturate) and never overflowing: at most
`expires_in`, which for any `c_int` day count is at most `2^31·86400 + 86399` s (sharp bound:
`Renew.expiresIn_le_of_daysFit`), below `2^64` s, the capacity of `Duration` (third conjunct). -/
theorem never_negative_or_overflowing (disk : Disk) (ids : List (List Char))
    (delayNs rerNs jitterNs n : Nat)
    (hn : (schedule disk ids delayNs rerNs jitterNs).toNs = some n) (c : Cert)
    (hc : disk.cert = some c) (hd : daysFit c.notAfterIn) :
    n ≤ expiresIn c.notAfterIn * NS ∧
    expiresIn c.notAfterIn * NS ≤ (2^31 * 86400 + 86399) * NS ∧
    (2^31 * 86400 + 86399) * NS < 2^64 * NS ∧
    n / NS < 2^64 := by
  have h1 := (never_longer disk ids delayNs rerNs jitterNs n hn c hc).2
  have h2 := expiresIn_le_of_daysFit c.notAfterIn hd
  rw [← expiresIn_eq] at h1
  unfold NS at *
  refine ⟨h1, by omega, by omega, ?_⟩
  apply Nat.div_lt_of_lt_mul
  omega

/-- The guard `!self.random_early_renew.is_zero()` makes `gen_range` total: for every input
`renew_in` returns (no "cannot sample empty range" panic), the requested range `0..rer` is
non-empty whenever it is requested; without the guard `rer = 0` panics. -/
theorem no_empty_range (expSecs delayNs rerNs jitterNs : Nat) :
    renewInP expSecs delayNs rerNs jitterNs = some (renewIn expSecs delayNs rerNs jitterNs) ∧
    (rerNs ≠ 0 → genRange 0 rerNs jitterNs = some jitterNs) ∧
    renewInUnguardedP expSecs delayNs 0 jitterNs = none :=
  ⟨renewInP_eq _ _ _ _, fun h => by simp [genRange, Nat.pos_of_ne_zero h], rfl⟩

/-! ### C06.3 -/

/-- A certificate that covers every identifier and whose remaining life exceeds `renew_delay`
plus `random_early_renew` is not renewed at once, for every admissible random draw. -/
theorem fresh_cert_waits (disk : Disk) (ids : List (List Char)) (c : Cert)
    (delayNs rerNs jitterNs : Nat) (h : covering disk ids c)
    (hfresh : delayNs + rerNs < c.notAfterIn.toNat * NS) (hj : admissible rerNs jitterNs) :
    ∃ n, schedule disk ids delayNs rerNs jitterNs = .wait n ∧ 0 < n := by
  refine ⟨_, renew_in_value disk ids c delayNs rerNs jitterNs h, ?_⟩
  rw [Nat.sub_sub]
  apply Nat.sub_pos_of_lt
  rcases hj with hj | hj
  · rw [if_pos hj]; exact Nat.lt_of_le_of_lt (Nat.le_add_right ..) hfresh
  · rw [if_neg (Nat.ne_zero_of_lt hj)]; exact Nat.lt_trans (Nat.add_lt_add_left hj _) hfresh

/-- Every duration `schedule_renewal` returns is accepted by the judge, for every input and every
admissible random draw. -/
theorem schedule_meets_spec (disk : Disk) (ids : List (List Char)) (delayNs rerNs jitterNs : Nat)
    (hj : admissible rerNs jitterNs) (n : Nat)
    (hn : (schedule disk ids delayNs rerNs jitterNs).toNs = some n) :
    Spec.C06.holds disk ids delayNs rerNs n = true := by
  rw [schedule_eq] at hn
  rw [Spec.C06.holds, Spec.C06.holdsWithSlack_eq]
  generalize sit disk ids = st at hn ⊢
  cases st with
  | absent | lacking => cases hn; rfl
  | unparsed => cases hn
  | covering c =>
    have := Spec.C06.renewIn_mem (expiresIn c.notAfterIn) delayNs rerNs jitterNs hj
    rw [Option.some.inj hn, expiresIn_eq, ← Spec.C06.expNs_zero] at this
    exact Bool.and_eq_true _ _ ▸ ⟨decide_eq_true this.1, decide_eq_true this.2⟩

/-- The same including the error outcome and any slack. -/
theorem schedule_meets_spec_outcome (disk : Disk) (ids : List (List Char))
    (delayNs rerNs jitterNs slackNs : Nat) (hj : admissible rerNs jitterNs) :
    Spec.C06.holdsOutcome disk ids delayNs rerNs slackNs
      (schedule disk ids delayNs rerNs jitterNs).toNs = true := by
  cases hs : (schedule disk ids delayNs rerNs jitterNs).toNs with
  | some n =>
    exact Spec.C06.holdsWithSlack_mono disk ids delayNs rerNs 0 slackNs n (Nat.zero_le _)
      (schedule_meets_spec disk ids delayNs rerNs jitterNs hj n hs)
  | none =>
    rw [schedule_eq] at hs
    cases hst : sit disk ids with
    | unparsed =>
      have h := sit_cert disk ids
      rw [hst] at h
      show (filesExist disk && disk.cert.isNone) = true
      rw [h.1, h.2]
      rfl
    | _ => rw [hst] at hs; cases hs

/-- The judge enforces clause C06.3: an accepted observation of a fresh covering certificate is
positive. -/
theorem holds_implies_fresh (disk : Disk) (ids : List (List Char)) (delayNs rerNs obs : Nat)
    (h : Spec.C06.holds disk ids delayNs rerNs obs = true) :
    Spec.C06.freshOk disk ids delayNs rerNs obs = true := by
  rw [Spec.C06.holds, Spec.C06.holdsWithSlack_eq] at h
  rw [Spec.C06.freshOk_eq]
  generalize sit disk ids = st at h ⊢
  cases st with
  | covering c =>
    dsimp only [Sit.pick] at h ⊢
    split
    · rename_i hf
      rw [Bool.and_eq_true, decide_eq_true_eq] at h
      exact decide_eq_true (Nat.lt_of_lt_of_le (Spec.C06.lo_pos _ _ _ hf) h.1)
    · rfl
  | _ => rfl

/-- `backoff[scheduling_retries.min(backoff.len() - 1)]` never indexes out of bounds and every
pause after a failed evaluation is between 60 s and one day, for every number of retries. -/
theorem backoff_in_bounds (retries : Nat) :
    backoffIdx retries < AcmedVerif.Gen.backoff.length ∧
    AcmedVerif.Gen.backoff[backoffIdx retries]? = some (backoffSecs retries) ∧
    60 ≤ backoffSecs retries ∧ backoffSecs retries ≤ 86400 := by
  -- the pause is an entry of the table, and every entry is in bounds
  have hlt : backoffIdx retries < AcmedVerif.Gen.backoff.length :=
    Nat.lt_of_le_of_lt (Nat.min_le_right ..) (by decide)
  have hget := List.getElem?_eq_getElem hlt
  have hall : ∀ x ∈ AcmedVerif.Gen.backoff, 60 ≤ x ∧ x ≤ 86400 := by decide
  refine ⟨hlt, ?_⟩
  rw [backoffSecs, hget]
  exact ⟨rfl, hall _ (List.getElem_mem _)⟩

/-- An unparsable certificate file makes every evaluation err, and a loop fed with errors only is
never left: no certificate is requested.  With the file missing one is requested at once — a
corrupt file is worse than a missing one. -/
theorem corrupt_cert_never_requests (key : Bool) (ids : List (List Char))
    (delayNs rerNs jitterNs : Nat) (n : Nat) :
    schedule ⟨true, true, none⟩ ids delayNs rerNs jitterNs = .error ∧
    (loopSleeps 0 (List.replicate n .error)).2 = false ∧
    schedule ⟨key, false, none⟩ ids delayNs rerNs jitterNs = .now := by
  refine ⟨rfl, ?_, ?_⟩
  · rw [loopSleeps_error_prefix]
  · cases key <;> rfl

/-- `renew_in` on `Duration { secs, nanos }` with std's `checked_sub` is `renewIn` on
nanosecond counts. -/
theorem renew_in_duration (expSecs : Nat) (delay rer jitter : Dur) (hd : delay.wf) (hj : jitter.wf) :
    (renewInDur expSecs delay rer jitter).toNs = renewIn expSecs delay.toNs rer.toNs jitter.toNs := by
  have h1 := Dur.toNs_satSub (Dur.fromSecs expSecs) delay (Dur.fromSecs_wf _) hd
  rw [Dur.toNs_fromSecs] at h1
  unfold renewInDur renewIn
  simp only
  by_cases hz : rer.isZero = true
  · have : rer.toNs = 0 := (Dur.isZero_iff rer).1 hz
    simp [hz, this, h1.1]
  · have : rer.toNs ≠ 0 := fun h => hz ((Dur.isZero_iff rer).2 h)
    have h2 := Dur.toNs_satSub _ jitter h1.2 hj
    simp [hz, this, h2.1, h1.1]

def exampleCom : List Char := "example.com".toList

/-- **The full property is false of the code as it stands.**  Witness: a certificate for
`example.com`, all files present, valid for 25 000 more days, `renew_delay` 30 days, no random
amount.  Dev profile: the thread panics (`attempt to multiply with overflow`).  Release profile:
`Ok(0 s)` — renew at once, and again after every issuance — where 24 970 days is due. -/
theorem far_future_old_is_false :
    let disk : Disk := ⟨true, true, some ⟨[exampleCom], 25000 * 86400⟩⟩
    let delay : Nat := 30 * 86400 * NS
    expiresInOld .dev (25000 * 86400) = .panic ∧
    expiresInOld .release (25000 * 86400) = .ok 0 ∧
    scheduleOld .dev disk [exampleCom] delay 0 0 = none ∧
    scheduleOld .release disk [exampleCom] delay 0 0 = some (.wait 0) ∧
    schedule disk [exampleCom] delay 0 0 = .wait (24970 * 86400 * NS) ∧
    ¬ (∀ (p : Profile) (disk : Disk) (ids : List (List Char)) (c : Cert) (delayNs rerNs jitterNs : Nat),
        covering disk ids c → delayNs + rerNs < c.notAfterIn.toNat * NS →
        admissible rerNs jitterNs →
        ∃ n, scheduleOld p disk ids delayNs rerNs jitterNs = some (.wait n) ∧ 0 < n) := by
  -- `String.toList_ofList` gives the character list; evaluating the UTF-8 decoder is slow to check
  unfold exampleCom
  rw [String.toList_ofList]
  refine ⟨by decide +kernel, by decide +kernel, by decide +kernel, by decide +kernel,
    by decide +kernel, fun hall => ?_⟩
  -- no identifier, no delay: the general statement fails on the same certificate
  obtain ⟨n, hn, hpos⟩ := hall .release ⟨true, true, some ⟨[], 25000 * 86400⟩⟩ [] _ 0 0 0
    ⟨rfl, rfl, rfl, nofun⟩ (by decide +kernel) (.inl rfl)
  rw [show scheduleOld .release ⟨true, true, some ⟨[], 25000 * 86400⟩⟩ [] 0 0 0 = some (.wait 0) by
    decide +kernel] at hn
  cases hn
  exact Nat.lt_irrefl 0 hpos

/-- Second witness, release profile, the other direction ("never longer" fails): a certificate
that expired 27 000 days ago (clock far ahead) wraps to a positive `i32`: the daemon waits
62 years instead of renewing at once. -/
theorem far_past_old_release_waits :
    let disk : Disk := ⟨true, true, some ⟨[exampleCom], -(27000 * 86400)⟩⟩
    expiresInOld .release (-(27000 * 86400)) = .ok 1962167296 ∧
    scheduleOld .release disk [exampleCom] 0 0 0 = some (.wait (1962167296 * NS)) ∧
    schedule disk [exampleCom] 0 0 0 = .wait 0 := by
  unfold exampleCom
  rw [String.toList_ofList]
  exact ⟨by decide +kernel, by decide +kernel, by decide +kernel⟩

/-- Below the `i32` limit — `notAfter − now` within `[−2^31, 2^31)` seconds, about ±68 years — the
unrepaired computation equals the repaired one in both profiles; in the dev profile that range is
exactly where it does not panic (second conjunct, true of every `d`). -/
theorem old_agrees_below_limit (p : Profile) (d : Int)
    (hlo : -2147483648 ≤ d) (hhi : d < 2147483648) :
    expiresInOld p d = .ok (expiresIn d) ∧
    ((∃ n, expiresInOld .dev d = .ok n) ↔ (-2147483648 ≤ d ∧ d < 2147483648)) :=
  ⟨expiresInOld_of_small p d hlo hhi, expiresInOld_dev_ok_iff d⟩

/-- On that class `schedule_renewal` as it stands is the repaired one, so every theorem above
applies to it. -/
theorem old_schedule_partial (p : Profile) (disk : Disk) (ids : List (List Char))
    (delayNs rerNs jitterNs : Nat)
    (h : ∀ c, disk.cert = some c → -2147483648 ≤ c.notAfterIn ∧ c.notAfterIn < 2147483648) :
    scheduleOld p disk ids delayNs rerNs jitterNs = some (schedule disk ids delayNs rerNs jitterNs) := by
  unfold scheduleOld schedule
  split
  · rfl
  · cases hc : disk.cert with
    | none => rfl
    | some c =>
      dsimp only
      split
      · rfl
      · rw [expiresInOld_of_small p c.notAfterIn (h c hc).1 (h c hc).2]

/-- The model's `i32` steps are core `Int32` arithmetic. -/
theorem old_wrap_is_int32 (a b : Int32) :
    wrap32 (a.toInt * b.toInt) = (a * b).toInt ∧ wrap32 (a.toInt + b.toInt) = (a + b).toInt :=
  ⟨by rw [wrap32_eq_bmod, Int32.toInt_mul], by rw [wrap32_eq_bmod, Int32.toInt_add]⟩

/-! ### Non-vacuity: every hypothesis above is satisfied by a concrete, non-trivial input -/

def www : List Char := "www.example.com".toList
def ip6 : List Char := "2001:db8::1".toList

/-- 90-day certificate for three names (a superset, other order), two configured. -/
def disk90 : Disk := ⟨true, true, some ⟨[www, ip6, exampleCom], 90 * 86400⟩⟩
def delay30 : Nat := 30 * 86400 * NS
def rer2d : Nat := 2 * 86400 * NS

-- missing_file_or_id_immediate: each disjunct
example : schedule { disk90 with keyFile := false } [exampleCom] delay30 rer2d 5 = .now :=
  (missing_file_or_id_immediate _ _ _ _ _ (.inl rfl)).1
example : schedule { disk90 with certFile := false } [exampleCom] delay30 rer2d 5 = .now :=
  (missing_file_or_id_immediate _ _ _ _ _ (.inr (.inl rfl))).1
example : ∃ c, disk90.cert = some c ∧ ∃ i ∈ [exampleCom, "*.example.com".toList], i ∉ c.sans :=
  ⟨_, rfl, "*.example.com".toList, by simp, by
    unfold www ip6 exampleCom
    rw [String.toList_ofList, String.toList_ofList, String.toList_ofList, String.toList_ofList]
    decide +kernel⟩
example : schedule disk90 [exampleCom, "*.example.com".toList] delay30 rer2d 5 = .now := by
  unfold disk90 www ip6 exampleCom
  rw [String.toList_ofList, String.toList_ofList, String.toList_ofList, String.toList_ofList]
  decide +kernel

-- renew_in_value / fresh_cert_waits / never_longer: `covering`, freshness, admissibility hold
example : covering disk90 [exampleCom, ip6] ⟨[www, ip6, exampleCom], 90 * 86400⟩ :=
  ⟨rfl, rfl, rfl, by simp⟩
example : delay30 + rer2d < ((90 * 86400 : Int).toNat) * NS := by decide
example : admissible rer2d 123456789 := Or.inr (by decide)
example : admissible 0 77 := Or.inl rfl
example : schedule disk90 [exampleCom, ip6] delay30 rer2d 123456789 =
    .wait (60 * 86400 * NS - 123456789) := by
  unfold disk90 www ip6 exampleCom
  rw [String.toList_ofList, String.toList_ofList, String.toList_ofList]
  decide +kernel
example : schedule disk90 [exampleCom, ip6] delay30 0 123456789 = .wait (60 * 86400 * NS) := by
  unfold disk90 www ip6 exampleCom
  rw [String.toList_ofList, String.toList_ofList, String.toList_ofList]
  decide +kernel
-- delay beyond the lifetime and an expired certificate saturate at 0
example : schedule disk90 [exampleCom] (91 * 86400 * NS) rer2d 5 = .wait 0 := by
  unfold disk90 www ip6 exampleCom
  rw [String.toList_ofList, String.toList_ofList, String.toList_ofList]
  decide +kernel
example : schedule ⟨true, true, some ⟨[exampleCom], -5⟩⟩ [exampleCom] 0 0 0 = .wait 0 := by
  unfold exampleCom
  rw [String.toList_ofList]
  decide +kernel
-- the random amount larger than what is left saturates too
example : schedule disk90 [exampleCom] (90 * 86400 * NS - 10) 100 99 = .wait 0 := by
  unfold disk90 www ip6 exampleCom
  rw [String.toList_ofList, String.toList_ofList, String.toList_ofList]
  decide +kernel

-- never_negative_or_overflowing: `daysFit` holds of real certificates, and the bound is tight
example : daysFit (90 * 86400) := by decide
example : daysFit (3660000 * 86400) := by decide
example : expiresIn (2147483647 * 86400 + 86399) = 2147483647 * 86400 + 86399 := by decide

-- schedule_meets_spec: accepted observations, and the judge is not trivially true
example : Spec.C06.holds disk90 [exampleCom, ip6] delay30 rer2d (60 * 86400 * NS - 123456789) = true := by
  unfold disk90 www ip6 exampleCom
  rw [String.toList_ofList, String.toList_ofList, String.toList_ofList]
  decide +kernel
example : Spec.C06.holds disk90 [exampleCom, ip6] delay30 rer2d (60 * 86400 * NS + 1) = false := by
  unfold disk90 www ip6 exampleCom
  rw [String.toList_ofList, String.toList_ofList, String.toList_ofList]
  decide +kernel
example : Spec.C06.holds disk90 [exampleCom, ip6] delay30 rer2d (58 * 86400 * NS) = false := by
  unfold disk90 www ip6 exampleCom
  rw [String.toList_ofList, String.toList_ofList, String.toList_ofList]
  decide +kernel
example : Spec.C06.holds disk90 [exampleCom, ip6] delay30 rer2d (58 * 86400 * NS + 1) = true := by
  unfold disk90 www ip6 exampleCom
  rw [String.toList_ofList, String.toList_ofList, String.toList_ofList]
  decide +kernel
example : Spec.C06.holds disk90 [exampleCom, "x".toList] delay30 rer2d 1 = false := by
  unfold disk90 www ip6 exampleCom
  rw [String.toList_ofList, String.toList_ofList, String.toList_ofList, String.toList_ofList]
  decide +kernel
example : Spec.C06.holds disk90 [exampleCom, "x".toList] delay30 rer2d 0 = true := by
  unfold disk90 www ip6 exampleCom
  rw [String.toList_ofList, String.toList_ofList, String.toList_ofList, String.toList_ofList]
  decide +kernel
example : Spec.C06.holds ⟨true, true, none⟩ [exampleCom] delay30 rer2d 0 = false := by decide
example : Spec.C06.holdsOutcome ⟨true, true, none⟩ [exampleCom] delay30 rer2d 0 none = true := by decide
example : Spec.C06.holdsOutcome disk90 [exampleCom] delay30 rer2d 0 none = false := by decide
example : Spec.C06.holdsWithSlack disk90 [exampleCom] delay30 0 (2 * NS) (60 * 86400 * NS + 2 * NS) = true := by
  unfold disk90 www ip6 exampleCom
  rw [String.toList_ofList, String.toList_ofList, String.toList_ofList]
  decide +kernel
example : Spec.C06.holdsWithSlack disk90 [exampleCom] delay30 0 (2 * NS) (60 * 86400 * NS + 2 * NS + 1) = false := by
  unfold disk90 www ip6 exampleCom
  rw [String.toList_ofList, String.toList_ofList, String.toList_ofList]
  decide +kernel

-- backoff_in_bounds / the loop
example : (List.range 6).map backoffSecs = [60, 600, 6000, 86400, 86400, 86400] := by decide
example : loopSleeps 0 [.error, .error, .wait 7] = ([60 * NS, 600 * NS, 7], true) := by decide

-- old_agrees_below_limit: the class contains every certificate of ordinary lifetime, and its edge
example : expiresInOld .dev (90 * 86400) = .ok (90 * 86400) := by decide
example : expiresInOld .release 2147483647 = .ok 2147483647 := by decide
example : expiresInOld .dev 2147483648 = .panic := by decide
example : expiresInOld .release 2147483648 = .ok 0 := by decide
example : expiresInOld .release (50000 * 86400) = .ok 25032704 := by decide  -- wraps positive: too early

-- renew_in_duration: a borrow across the seconds boundary
example : renewInDur 10 ⟨3, 500000000⟩ ⟨0, 800000000⟩ ⟨0, 700000000⟩ = ⟨5, 800000000⟩ := by decide

end AcmedVerif.Props.C06
