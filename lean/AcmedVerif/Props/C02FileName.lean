/-
The file NAME of key and certificate (`Model/FileName.lean`): the default format, `rev_labels`, and the
length argument (`render_length_cert`) by which a `file_type` token separates the two files.
-/
import AcmedVerif.Model.FileName

namespace AcmedVerif.Props.C02FileName
open AcmedVerif.FileName

theorem render_append (a b : List Tok) (f : Fields) : render (a ++ b) f = render a f ++ render b f := by
  induction a with
  | nil => simp [render]
  | cons t ts ih => simp [render, ih, List.append_assoc]

theorem default_render (f : Fields) :
    render defaultFormat f = f.name ++ ('_' :: (f.keyType ++ ('.' :: (f.fileType ++ ('.' :: f.ext))))) := by
  simp [defaultFormat, render, renderTok, Fields.get]

theorem default_pk_ne_cert (c : Cfg) : pkFileName defaultFormat c ≠ certFileName defaultFormat c := by
  intro h
  simp only [pkFileName, certFileName, default_render, pkFields, certFields, pkType, crtType] at h
  have h1 := List.append_cancel_left h
  simp only [List.cons.injEq, true_and] at h1
  have h2 := List.append_cancel_left h1
  simp at h2

theorem default_cert_name_injective (c d : Cfg) (hk : c.keyType = d.keyType) (he : c.certExt = d.certExt)
    (h : certFileName defaultFormat c = certFileName defaultFormat d) : c.name = d.name := by
  simp only [certFileName, default_render, certFields, hk, he] at h
  exact List.append_cancel_right h

theorem default_pk_name_injective (c d : Cfg) (hk : c.keyType = d.keyType) (he : c.pkExt = d.pkExt)
    (h : pkFileName defaultFormat c = pkFileName defaultFormat d) : c.name = d.name := by
  simp only [pkFileName, default_render, pkFields, hk, he] at h
  exact List.append_cancel_right h

/-- non-vacuity: two configurations with the same key type / extensions and different names get different
file names -/
example :
    let c : Cfg := { name := ['a'], keyType := ['r', 's', 'a'], pkExt := none, certExt := none }
    let d : Cfg := { name := ['b'], keyType := ['r', 's', 'a'], pkExt := none, certExt := none }
    c.keyType = d.keyType ∧ c.certExt = d.certExt ∧ c.pkExt = d.pkExt ∧ c.name ≠ d.name ∧
      certFileName defaultFormat c ≠ certFileName defaultFormat d ∧
      pkFileName defaultFormat c ≠ pkFileName defaultFormat d := by decide

theorem tokenize_default :
    tokenize "{{ name }}_{{ key_type }}.{{ file_type }}.{{ ext }}".toList = some defaultFormat := by
  -- the kernel evaluates `"…".toList` through UTF-8 bytes (quadratic): unfold the literal first
  rw [String.toList_ofList]
  decide +kernel

/-- A collision EXISTS for a format without `file_type`. -/
theorem no_file_type_collision_exists : ∃ (fmt : List Tok) (c : Cfg),
    tokenize ['{','{','n','a','m','e','}','}','.','{','{','e','x','t','}','}'] = some fmt ∧
      pkFileName fmt c = certFileName fmt c :=
  ⟨[.var .name, .lit ['.'], .var .ext],
   { name := ['a'], keyType := ['r', 's', 'a'], pkExt := none, certExt := none },
   by decide +kernel, by decide⟩

theorem consHead_ne_nil (c : Char) (ls : List (List Char)) : consHead c ls ≠ [] := by
  cases ls <;> simp [consHead]

theorem joinDot_consHead (c : Char) (ls : List (List Char)) : joinDot (consHead c ls) = c :: joinDot ls := by
  match ls with
  | [] => simp [consHead, joinDot]
  | [h] => simp [consHead, joinDot]
  | h :: y :: r => simp [consHead, joinDot]

theorem splitDot_ne_nil (s : List Char) : splitDot s ≠ [] := by
  cases s with
  | nil => simp [splitDot]
  | cons c cs =>
    by_cases h : c = '.'
    · simp [splitDot, h]
    · simp [splitDot, h, consHead_ne_nil]

theorem splitDot_nodot (s : List Char) : ∀ l ∈ splitDot s, '.' ∉ l := by
  induction s with
  | nil => simp [splitDot]
  | cons c cs ih =>
    obtain ⟨y, r, hs⟩ := List.exists_cons_of_ne_nil (splitDot_ne_nil cs)
    rw [hs, List.forall_mem_cons] at ih
    by_cases h : c = '.'
    · simpa [splitDot, h, hs] using ih
    · simp only [splitDot, h, if_false, hs, consHead]
      rw [List.forall_mem_cons]
      exact ⟨fun hm => (List.mem_cons.1 hm).elim (fun e => h e.symm) ih.1, ih.2⟩

theorem joinDot_splitDot (s : List Char) : joinDot (splitDot s) = s := by
  induction s with
  | nil => simp [splitDot, joinDot]
  | cons c cs ih =>
    by_cases h : c = '.'
    · simp only [splitDot, h, if_true]
      cases hs : splitDot cs with
      | nil => exact absurd hs (splitDot_ne_nil cs)
      | cons y r =>
        rw [hs] at ih
        simp [joinDot, ih]
    · simp only [splitDot, h, if_false, joinDot_consHead, ih]

theorem splitDot_of_nodot (x : List Char) (h : '.' ∉ x) : splitDot x = [x] := by
  induction x with
  | nil => simp [splitDot]
  | cons c cs ih =>
    simp only [List.mem_cons, not_or] at h
    have hc : c ≠ '.' := fun e => h.1 e.symm
    simp [splitDot, hc, ih h.2, consHead]

theorem splitDot_append_dot (x r : List Char) (h : '.' ∉ x) :
    splitDot (x ++ '.' :: r) = x :: splitDot r := by
  induction x with
  | nil => simp [splitDot]
  | cons c cs ih =>
    simp only [List.mem_cons, not_or] at h
    have hc : c ≠ '.' := fun e => h.1 e.symm
    simp [splitDot, hc, ih h.2, consHead]

theorem splitDot_joinDot (ls : List (List Char)) (hne : ls ≠ []) (h : ∀ l ∈ ls, '.' ∉ l) :
    splitDot (joinDot ls) = ls := by
  induction ls with
  | nil => exact absurd rfl hne
  | cons x t ih =>
    cases t with
    | nil => simpa [joinDot] using splitDot_of_nodot x (h x (by simp))
    | cons y r =>
      simp only [joinDot]
      rw [splitDot_append_dot x _ (h x (by simp)), ih (by simp) (fun l hl => h l (by simp [hl]))]

theorem revLabels_involutive (s : List Char) : revLabels (revLabels s) = s := by
  unfold revLabels
  rw [splitDot_joinDot _ (by simpa using splitDot_ne_nil s)
    (fun l hl => splitDot_nodot s l (by simpa using hl)), List.reverse_reverse, joinDot_splitDot]

theorem joinDot_append_singleton (ls : List (List Char)) (x : List Char) (h : ls ≠ []) :
    joinDot (ls ++ [x]) = joinDot ls ++ '.' :: x := by
  induction ls with
  | nil => exact absurd rfl h
  | cons a t ih =>
    cases t with
    | nil => simp [joinDot]
    | cons b r =>
      have := ih (by simp)
      simp only [List.cons_append] at this
      simp [joinDot, this]

theorem joinDot_reverse_perm (ls : List (List Char)) : (joinDot ls.reverse).Perm (joinDot ls) := by
  induction ls with
  | nil => exact .refl _
  | cons a t ih =>
    cases t with
    | nil => exact .refl _
    | cons b r =>
      rw [List.reverse_cons, joinDot_append_singleton _ _ (by simp)]
      exact (List.perm_append_comm.trans (List.perm_middle (l₁ := a)).symm).trans
        ((ih.cons '.').append_left a)

theorem revLabels_perm (s : List Char) : (revLabels s).Perm s := by
  have := joinDot_reverse_perm (splitDot s)
  rwa [joinDot_splitDot] at this

theorem revLabels_length (s : List Char) : (revLabels s).length = s.length :=
  (revLabels_perm s).length_eq

theorem revLabels_mem_iff (s : List Char) (c : Char) : c ∈ revLabels s ↔ c ∈ s :=
  (revLabels_perm s).mem_iff

theorem revLabels_no_slash (s : List Char) : '/' ∉ s → '/' ∉ revLabels s :=
  mt (revLabels_mem_iff s '/').1

def isFt : Tok → Bool
  | .var .fileType => true
  | .rev .fileType => true
  | _ => false

def ftCount : List Tok → Nat
  | [] => 0
  | t :: ts => (if isFt t then 1 else 0) + ftCount ts

theorem get_length_cert (c : Cfg) (v : Var)
    (hext : (c.pkExt.getD defaultExt).length = (c.certExt.getD defaultExt).length) :
    ((certFields c).get v).length = ((pkFields c).get v).length + (if isFt (.var v) then 1 else 0) := by
  cases v <;> simp [Fields.get, certFields, pkFields, isFt, crtType, pkType, hext]

theorem renderTok_length_cert (c : Cfg) (t : Tok)
    (hext : (c.pkExt.getD defaultExt).length = (c.certExt.getD defaultExt).length) :
    (renderTok (certFields c) t).length = (renderTok (pkFields c) t).length + (if isFt t then 1 else 0) := by
  cases t with
  | lit s => rfl
  | var v => exact get_length_cert c v hext
  | rev v =>
    simp only [renderTok, revLabels_length]
    exact (get_length_cert c v hext).trans (by cases v <;> rfl)

theorem render_length_cert (fmt : List Tok) (c : Cfg)
    (hext : (c.pkExt.getD defaultExt).length = (c.certExt.getD defaultExt).length) :
    (certFileName fmt c).length = (pkFileName fmt c).length + ftCount fmt := by
  unfold certFileName pkFileName
  induction fmt with
  | nil => simp [render, ftCount]
  | cons t ts ih =>
    simp only [render, ftCount, List.length_append, ih, renderTok_length_cert c t hext]
    omega

theorem ftCount_pos (fmt : List Tok) (t : Tok) (hm : t ∈ fmt) (ht : isFt t = true) : 0 < ftCount fmt := by
  induction fmt with
  | nil => simp at hm
  | cons a ts ih =>
    simp only [List.mem_cons] at hm
    cases hm with
    | inl h => subst h; simp only [ftCount, ht, if_true]; omega
    | inr h => have := ih h; simp only [ftCount]; omega

/-- PARTIAL: hypothesis `hext` (the two extensions have the same length; true in particular when
`pk_file_ext` = `cert_file_ext` or both are absent).  The unrestricted statement (no `hext`) is neither proved
nor refuted here: with extensions of different lengths the length argument below does not apply. -/
theorem file_type_token_pk_ne_cert_partial (fmt : List Tok) (c : Cfg)
    (hext : (c.pkExt.getD defaultExt).length = (c.certExt.getD defaultExt).length)
    (hft : Tok.var .fileType ∈ fmt ∨ Tok.rev .fileType ∈ fmt) :
    pkFileName fmt c ≠ certFileName fmt c := by
  intro h
  have hl := render_length_cert fmt c hext
  have hp : 0 < ftCount fmt := by
    cases hft with
    | inl h1 => exact ftCount_pos fmt _ h1 rfl
    | inr h1 => exact ftCount_pos fmt _ h1 rfl
  rw [h] at hl
  omega

/-- non-vacuity of the hypotheses -/
example : (∃ (fmt : List Tok) (c : Cfg),
    (c.pkExt.getD defaultExt).length = (c.certExt.getD defaultExt).length ∧
      (Tok.var .fileType ∈ fmt ∨ Tok.rev .fileType ∈ fmt)) :=
  ⟨defaultFormat, { name := ['a'], keyType := ['r'], pkExt := none, certExt := none }, by decide⟩

end AcmedVerif.Props.C02FileName
