/-
C13, the default clause: "private keys and account files … are never readable by group or others
unless the administrator asked for it".  With nothing configured the modes are the constants of
`main.rs`, regenerated from the source into `Gen/Consts.lean` at every run; this file ties those
constants to the sentence, for EVERY umask (a statement over all naturals, not a sample), through
the model's `created_mode`.
-/
import AcmedVerif.Props.C13

namespace AcmedVerif.Props.C13Defaults
open AcmedVerif.Fs AcmedVerif.Storage
open AcmedVerif.Props.C13

/-- The regenerated constants are the documented defaults. -/
theorem default_mode_constants :
    AcmedVerif.Gen.DEFAULT_PK_FILE_MODE = 0o600 ∧
    AcmedVerif.Gen.DEFAULT_ACCOUNT_FILE_MODE = 0o600 ∧
    AcmedVerif.Gen.DEFAULT_CERT_FILE_MODE = 0o644 :=
  ⟨default_modes_private.1, default_modes_private.2.1, default_modes_private.2.2.1⟩

/-- With no `pk_file_mode`/`cert_file_mode` in the configuration the model uses exactly those
constants for the three file types. -/
theorem default_settings_modes :
    modeFor {} .privateKey = AcmedVerif.Gen.DEFAULT_PK_FILE_MODE ∧
    modeFor {} .certificate = AcmedVerif.Gen.DEFAULT_CERT_FILE_MODE ∧
    ∀ s : Settings, modeFor s .account = AcmedVerif.Gen.DEFAULT_ACCOUNT_FILE_MODE :=
  ⟨rfl, rfl, fun _ => rfl⟩

/-- Arithmetic core, all umasks: a default key/account mode masked by ANY umask has no group/other
permission bit — indeed no bit outside owner read/write — and is accepted by the judge's
`isPrivate`. -/
theorem default_masked_private (umask : Nat) :
    maskMode AcmedVerif.Gen.DEFAULT_PK_FILE_MODE umask &&& 0o077 = 0 ∧
    maskMode AcmedVerif.Gen.DEFAULT_ACCOUNT_FILE_MODE umask &&& 0o077 = 0 ∧
    Spec.C13.isPrivate (maskMode AcmedVerif.Gen.DEFAULT_PK_FILE_MODE umask) = true ∧
    Spec.C13.isPrivate (maskMode AcmedVerif.Gen.DEFAULT_ACCOUNT_FILE_MODE umask) = true ∧
    (∀ c, 0o600 &&& c = 0 →
      maskMode AcmedVerif.Gen.DEFAULT_PK_FILE_MODE umask &&& c = 0 ∧
      maskMode AcmedVerif.Gen.DEFAULT_ACCOUNT_FILE_MODE umask &&& c = 0) := by
  have h : ∀ c, 0o600 &&& c = 0 →
      maskMode AcmedVerif.Gen.DEFAULT_PK_FILE_MODE umask &&& c = 0 ∧
      maskMode AcmedVerif.Gen.DEFAULT_ACCOUNT_FILE_MODE umask &&& c = 0 := by
    intro c hc
    unfold maskMode
    exact ⟨and_and_eq_zero _ _ _ hc, and_and_eq_zero _ _ _ hc⟩
  have h77 := h 0o077 (by decide)
  refine ⟨h77.1, h77.2, ?_, ?_, h⟩
  · simp [Spec.C13.isPrivate, h77.1]
  · simp [Spec.C13.isPrivate, h77.2]

/-- **Default key files are private under every umask.**  For every process (any umask, any ids),
environment, file system, path and content: a private-key file created by `write_file` with the
default settings has mode `0o600 &&& ~umask` exactly (`created_mode`), hence no group/other bit. -/
theorem default_key_created_private (trunc : Trunc) (env : Env) (proc : Proc) (fs : Fs)
    (p : Path) (data : List UInt8) (hnew : get fs p = none)
    (hpre : env.hookOk (preHook (get fs p).isNone) = true) :
    ∃ f, get (writeFile trunc env proc {} fs .privateKey p data).fs p = some f ∧
      f.mode = maskMode 0o600 proc.umask ∧ f.mode &&& 0o077 = 0 ∧
      Spec.C13.isPrivate f.mode = true := by
  obtain ⟨f, hf, hm⟩ := created_mode trunc env proc {} fs .privateKey p data hnew hpre (by decide)
  have hm' : f.mode = maskMode AcmedVerif.Gen.DEFAULT_PK_FILE_MODE proc.umask := hm
  obtain ⟨h1, _, h3, _, _⟩ := default_masked_private proc.umask
  exact ⟨f, hf, hm', by rw [hm']; exact h1, by rw [hm']; exact h3⟩

/-- **Account files are private under every umask, whatever is configured** (their mode is not
configurable: the constant of `main.rs`). -/
theorem account_created_private (trunc : Trunc) (env : Env) (proc : Proc) (s : Settings) (fs : Fs)
    (p : Path) (data : List UInt8) (hnew : get fs p = none)
    (hpre : env.hookOk (preHook (get fs p).isNone) = true) :
    ∃ f, get (writeFile trunc env proc s fs .account p data).fs p = some f ∧
      f.mode = maskMode 0o600 proc.umask ∧ f.mode &&& 0o077 = 0 ∧
      Spec.C13.isPrivate f.mode = true := by
  obtain ⟨f, hf, hm⟩ := created_mode trunc env proc s fs .account p data hnew hpre
    (by show AcmedVerif.Gen.DEFAULT_ACCOUNT_FILE_MODE &&& 0o6000 = 0; decide)
  have hm' : f.mode = maskMode AcmedVerif.Gen.DEFAULT_ACCOUNT_FILE_MODE proc.umask := hm
  obtain ⟨_, h2, _, h4, _⟩ := default_masked_private proc.umask
  exact ⟨f, hf, hm', by rw [hm']; exact h2, by rw [hm']; exact h4⟩

/-- Both at once, in the words of the property: for EVERY umask, a key or account file created
with the default mode has no group/other permission bit. -/
theorem default_secret_files_private (trunc : Trunc) (env : Env) (proc : Proc) (fs : Fs)
    (t : FileType) (ht : t = .privateKey ∨ t = .account)
    (p : Path) (data : List UInt8) (hnew : get fs p = none)
    (hpre : env.hookOk (preHook (get fs p).isNone) = true) :
    ∃ f, get (writeFile trunc env proc {} fs t p data).fs p = some f ∧ f.mode &&& 0o077 = 0 := by
  rcases ht with rfl | rfl
  · obtain ⟨f, hf, _, h, _⟩ := default_key_created_private trunc env proc fs p data hnew hpre
    exact ⟨f, hf, h⟩
  · obtain ⟨f, hf, _, h, _⟩ := account_created_private trunc env proc {} fs p data hnew hpre
    exact ⟨f, hf, h⟩

/-- Certificates are public by default (`0o644`): the created mode is `0o644 &&& ~umask`; it is the
umask, not the default, that may restrict them. -/
theorem default_cert_created_mode (trunc : Trunc) (env : Env) (proc : Proc) (fs : Fs)
    (p : Path) (data : List UInt8) (hnew : get fs p = none)
    (hpre : env.hookOk (preHook (get fs p).isNone) = true) :
    ∃ f, get (writeFile trunc env proc {} fs .certificate p data).fs p = some f ∧
      f.mode = maskMode 0o644 proc.umask :=
  created_mode trunc env proc {} fs .certificate p data hnew hpre (by decide)

/-- The hypotheses are satisfiable, and the masks really act: umask `0o022` leaves `0o600`, umask
`0o277` leaves `0o400`, and a certificate under `0o022` is `0o644`. -/
example :
    (get (writeFile .yes Env.allOk { umask := 0o022, uid := 0, gid := 0 } {} [] .privateKey
      "k.pem".toList [1]).fs "k.pem".toList).map (·.mode) = some 0o600 ∧
    (get (writeFile .yes Env.allOk { umask := 0o277, uid := 0, gid := 0 } {} [] .account
      "a.bin".toList [1]).fs "a.bin".toList).map (·.mode) = some 0o400 ∧
    (get (writeFile .yes Env.allOk { umask := 0o022, uid := 0, gid := 0 } {} [] .certificate
      "c.pem".toList [1]).fs "c.pem".toList).map (·.mode) = some 0o644 := by
  decide

/-- Were a default changed to `0o640`, `default_masked_private` would be false (umask 0). -/
example : maskMode 0o640 0 &&& 0o077 ≠ 0 := by decide

end AcmedVerif.Props.C13Defaults
