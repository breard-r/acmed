/-
C20 — "With the hook groups shipped in default_hooks.toml (http-01-echo, tls-alpn-01-tacd-tcp,
tls-alpn-01-tacd-unix, git) configured as the manual describes, a conforming CA's http-01 or
tls-alpn-01 validation of every DNS identifier succeeds, the proof being reachable at the documented
path, address or socket with the expected content, at the first issuance and at every later renewal.
After validation the clean hooks leave no proof file, responder process, pid file or socket behind
that would block a later run, and the git group records every stored file in a commit."

The hooks are `Gen.defaultHooks` / `Gen.defaultGroups` — the shipped TOML itself, regenerated on every
run — interpreted by `Model/HooksWorld.lean`.  PARTIAL CLAIM: the semantics of mkdir, echo, chmod, rm,
pkill, git and of the tacd daemon are ASSUMPTIONS of that model (validated against the real commands
by the harness, not verified); the model is sequential (no race between the daemonised tacd and the
CA; observation b is judged on the real run).

Abbreviations (`Lemmas/HooksWorld.lean`): `httpGroup = groupHooks defaultHooks defaultGroups
"http-01-echo"`, likewise `tcpGroup`, `unixGroup`, `gitGroup`; `oldTcpGroup` / `oldUnixGroupHooks` are the
same groups resolved in `oldDefaultHooks defaultHooks` / `oldDefaultGroups defaultGroups` (the file as it
was before commits 3552932 and 11d63da).  `httpIssuances`, `tcpIssuances`, `unixIssuances` = `issuances`
for the group with the CA's verdict read at the documented path / address / socket.
-/
import AcmedVerif.Lemmas.HooksWorld

namespace AcmedVerif.Props.C20
open AcmedVerif.HooksWorld AcmedVerif.Gen

/-- **C20.1, http-01.** For every environment (HTTP_ROOT set or defaulted to /var/www), identifier,
token and proof, from ANY world in which the proof path can be created (`HttpReady`: not under an
unwritable prefix, no directory/socket sitting there, the challenge directory exists or can be made):
the challenge hooks all succeed and the file at the DOCUMENTED path
`<HTTP_ROOT|/var/www>/<identifier>/.well-known/acme-challenge/<token>` exists with content
`proof ++ "\n"` and is world-readable — so a conforming CA validates.
NOT modelled: search permission on the intermediate directories.  `mkdir -m 0755 -p` applies 0755 to
the LAST directory only; `<root>/<identifier>` and `.well-known` get 0777 & ~umask, i.e. 0750 when
acmed runs daemonised (`Daemonize` sets umask 027), which a web server of another user cannot enter. -/
theorem http01_reachable (w : World) (env : String → Option String) (c : Challenge)
    (hr : HttpReady w env c) (ht : TokenOk c) :
    httpDocPath env c =
      envOr env "HTTP_ROOT" "/var/www" ++ "/" ++ c.identifier ++ "/.well-known/acme-challenge/" ++
        c.fileName ∧
    (runHooks w (groupHooks defaultHooks defaultGroups "http-01-echo") "challenge-http-01"
      c.vars env).2 = true ∧
    getFile (runHooks w (groupHooks defaultHooks defaultGroups "http-01-echo") "challenge-http-01"
      c.vars env).1 (httpDocPath env c) = some ⟨c.proof ++ "\n", true⟩ ∧
    http01Validates (runHooks w (groupHooks defaultHooks defaultGroups "http-01-echo")
      "challenge-http-01" c.vars env).1 env c = true := by
  obtain ⟨w1, e, h2, _⟩ := http_challenge_spec w env c hr ht
  rw [show runHooks w (groupHooks defaultHooks defaultGroups "http-01-echo") _ _ env = _ from e,
    http01Validates, h2]
  exact ⟨rfl, rfl, rfl, by simp⟩

/-- The literal reading "from any world in which the root directory exists and is writable" is false
of hooks and code as they are: if a DIRECTORY sits at the proof path, `File::create` for the echo
hook's stdout fails (`hooks.rs:119`), the challenge hooks abort and nothing is served.  `HttpReady` is
the complement of this (decidable) class of worlds. -/
theorem http01_reachable_full_is_false :
    ∃ (w : World) (env : String → Option String) (c : Challenge), TokenOk c ∧
      isBlocked w (httpDocPath env c) = false ∧
      (runHooks w (groupHooks defaultHooks defaultGroups "http-01-echo") "challenge-http-01"
        c.vars env).2 = false := by
  refine ⟨{ World.empty with dirs := ["/var/www/a.example/.well-known/acme-challenge/tok"] },
    fun _ => none, ⟨"a.example", "a.example", "http-01", "tok", "tok.thumb"⟩, ?_, ?_, ?_⟩
  · exact ⟨by decide +kernel, by decide +kernel⟩
  · rfl
  · exact http_challenge_fails_of_dir _ _ _ (by decide +kernel)

/-- **C20.2, http-01.** After validation and the clean hooks the proof file is gone; the three
stages all succeeded. -/
theorem http01_clean (w : World) (env : String → Option String) (c : Challenge)
    (hr : HttpReady w env c) (ht : TokenOk c) :
    (httpCycle env w c).1 = true ∧ (httpCycle env w c).2.1 = true ∧ (httpCycle env w c).2.2.1 = true ∧
    getFile (httpCycle env w c).2.2.2 (httpDocPath env c) = none := by
  obtain ⟨h1, h2, h3, h4, _⟩ := http_cycle_spec w env c hr ht
  exact ⟨h1, h2, h3, h4⟩

/-- **C20.1/2, http-01, every renewal.** For every number of issuances of the same identifier
(`cs`: one challenge — token, proof — per issuance, any length), each of whose proof paths is creatable
in the initial world: every issuance's challenge hooks succeed, the CA validates, the clean hooks
succeed.  (By `issuances_all`; the invariant is `HttpReady` for every challenge of the list.) -/
theorem http01_repeatable (w : World) (env : String → Option String) (id : String)
    (cs : List Challenge)
    (h : ∀ c ∈ cs, c.identifier = id ∧ TokenOk c ∧ HttpReady w env c) :
    (httpIssuances env w cs).1 = cs.map (fun _ => true) := by
  refine (issuances_all _ _ _ _ env (Post := fun _ => True)
    (Inv := fun w => ∀ c ∈ cs, c.identifier = id ∧ TokenOk c ∧ HttpReady w env c) cs ?_ w h).1
  intro w c hc hinv
  obtain ⟨hid, ht, hr⟩ := hinv c hc
  obtain ⟨h1, h2, h3, _⟩ := http_cycle_spec w env c hr ht
  refine ⟨h1, h2, h3, fun c2 hc2 => ?_, trivial⟩
  obtain ⟨hid2, ht2, hr2⟩ := hinv c2 hc2
  exact ⟨hid2, ht2, http_ready_preserved w env c c2 hr ht hr2 (hid2.trans hid.symm)⟩

/-- **C20.1, tacd over TCP: the rendered command line.** For every environment and challenge the start
hook runs `tacd --pid-file <TACD_PID_ROOT|/run>/tacd_<identifier>.pid --domain <identifier_tls_alpn>
--acme-ext <proof> --listen <TACD_HOST|identifier>:<TACD_PORT|5001>` — the address the manual documents. -/
theorem tacd_tcp_listen_documented (env : String → Option String) (c : Challenge) :
    (hookNamed "tls-alpn-01-tacd-start-tcp").cmd = "tacd" ∧
    (hookNamed "tls-alpn-01-tacd-start-tcp").args.map (fun t => render t c.vars env) =
      ["--pid-file", envOr env "TACD_PID_ROOT" "/run" ++ "/tacd_" ++ c.identifier ++ ".pid",
       "--domain", c.identifierTlsAlpn, "--acme-ext", c.proof,
       "--listen", envOr env "TACD_HOST" c.identifier ++ ":" ++ envOr env "TACD_PORT" "5001"] := by
  rw [hookNamed_of_idx (i := 4) (by decide +kernel)]
  simp only [defaultHooks, List.getD_cons_zero, List.getD_cons_succ, List.map, render,
    renderTok_envLit, renderTok_envVar, renderTok_lit, renderTok_var, vars_identifier,
    vars_identifierTlsAlpn, vars_proof, Option.getD_some, String.append_empty, String.append_assoc,
    and_self]

/-- … and tacd accepts it: whenever the host part is non-empty, the port part is a port number and
the whole does not start with `unix:`, `--listen` parses as that host and port. -/
theorem tacd_tcp_listen_parses (env : String → Option String) (c : Challenge) (n : Nat)
    (hu : "unix:".toList.isPrefixOf (tcpDocListen env c).toList = false)
    (hc : ':' ∉ (envOr env "TACD_PORT" "5001").toList)
    (hp : parsePort (envOr env "TACD_PORT" "5001").toList = some n)
    (hh : envOr env "TACD_HOST" c.identifier ≠ "") :
    parseListen (tcpDocListen env c) = some (.tcp (envOr env "TACD_HOST" c.identifier) n) :=
  parseListen_tcp _ _ n hu hc hp hh

/-- **C20.1/2, tacd over TCP, every renewal.** From any world that is ready for the pid file `P` and
the address `host:port` (`TcpReady`: pid file creatable and not locked by a live process, the host is
an address of this machine, the address is free), for every number of issuances whose rendered pid
file is `P` and whose rendered `--listen` parses as `host:port`: every issuance is validated by a CA
that reaches `host:port`, and afterwards the world is ready again, with exactly the responders it
had before and no pid file. -/
theorem tacd_tcp_repeatable (w : World) (env : String → Option String) (P host : String) (port : Nat)
    (cs : List Challenge) (hr : TcpReady w P host port)
    (h : ∀ c ∈ cs, pidDocPath env c = P ∧
      parseListen (tcpDocListen env c) = some (.tcp host port)) :
    (tcpIssuances env (.tcp host port) w cs).1 = cs.map (fun _ => true) ∧
    TcpReady (tcpIssuances env (.tcp host port) w cs).2 P host port ∧
    (tcpIssuances env (.tcp host port) w cs).2.responders = w.responders ∧
    (cs ≠ [] → getPid (tcpIssuances env (.tcp host port) w cs).2 P = none) := by
  refine (fun k => ⟨k.1, k.2.1.1, k.2.1.2, k.2.2⟩) (issuances_all tcpGroup _ _ _ env
    (Inv := fun w' => TcpReady w' P host port ∧ w'.responders = w.responders)
    (Post := fun w' => getPid w' P = none) cs ?_ w ⟨hr, rfl⟩)
  intro w' c hc ⟨hr', hresp⟩
  obtain ⟨hP, hA⟩ := h c hc
  subst hP
  rw [show cycle tcpGroup _ _ _ env w' c = _ from tcp_cycle_spec w' env c host port hr' hA]
  refine ⟨rfl, rfl, rfl, ⟨tcpReady_after w' _ host port hr', hresp⟩, ?_⟩
  simp [getPid, afterTcp, lookup_erase_self]

/-- **History (observation g).** With the start hook as shipped before the repair the rendered
`--listen` is the bare port; for every environment whose TACD_PORT (set or defaulted) contains no
':' — every port number — tacd rejects it ("invalid socket address"): the hook still "succeeds"
(tacd has daemonised) but NO responder is added, so no CA can validate. -/
theorem tacd_tcp_old_is_false (w : World) (env : String → Option String) (c : Challenge)
    (hport : ':' ∉ (envOr env "TACD_PORT" "5001").toList) :
    (runHooks w oldTcpGroup "challenge-tls-alpn-01" c.vars env).2 = true ∧
    (runHooks w oldTcpGroup "challenge-tls-alpn-01" c.vars env).1.responders = w.responders ∧
    ((∀ r ∈ w.responders, r.ext ≠ c.proof) → ∀ l,
      tlsAlpnValidates (runHooks w oldTcpGroup "challenge-tls-alpn-01" c.vars env).1 l c = false) := by
  have h2 : (runHooks w oldTcpGroup "challenge-tls-alpn-01" c.vars env).1.responders = w.responders := by
    simp only [runHooks, group_tables, runList, run_rows, if_true]
    exact tacdStart_invalid w _ _ _ _ (parseListen_no_colon _ hport)
  refine ⟨?_, h2, fun hno l => ?_⟩
  · simp only [runHooks, group_tables, runList, run_rows, if_true]
  apply tlsAlpnValidates_false
  intro r hr _
  rw [h2] at hr
  exact hno r hr

/-- **C20.1/2, tacd on a unix socket, every renewal.** From any world ready for pid file `P` and socket
`S` (`UnixReady`: both creatable, the pid file not locked, NOTHING at the socket path), for every number
of issuances rendering to `P` and `S`: at every issuance the bind succeeds — because the clean hooks
of the previous one removed pid file AND socket — the CA reaching the documented socket validates,
the responder is killed, and the world is ready again. -/
theorem tacd_unix_repeatable (w : World) (env : String → Option String) (P S : String)
    (cs : List Challenge) (hr : UnixReady w P S)
    (h : ∀ c ∈ cs, pidDocPath env c = P ∧ unixDocSock env c = S) :
    (unixIssuances unixGroup env (.unix S) w cs).1 = cs.map (fun _ => true) ∧
    UnixReady (unixIssuances unixGroup env (.unix S) w cs).2 P S ∧
    (unixIssuances unixGroup env (.unix S) w cs).2.responders = w.responders ∧
    (cs ≠ [] → getPid (unixIssuances unixGroup env (.unix S) w cs).2 P = none) := by
  refine (fun k => ⟨k.1, k.2.1.1, k.2.1.2, k.2.2⟩) (issuances_all unixGroup _ _ _ env
    (Inv := fun w' => UnixReady w' P S ∧ w'.responders = w.responders)
    (Post := fun w' => getPid w' P = none) cs ?_ w ⟨hr, rfl⟩)
  intro w' c hc ⟨hr', hresp⟩
  obtain ⟨hP, hS⟩ := h c hc
  subst hP hS
  rw [show cycle unixGroup _ _ _ env w' c = _ from unix_cycle_spec w' env c hr']
  exact ⟨rfl, rfl, rfl, ⟨unixReady_after w' _ _ hr', hresp⟩, (afterUnix_clean w' _ _ hr').1⟩

/-- The documented pid file and socket paths never coincide (…`.pid` vs …`.sock`), for every
environment and identifier — `UnixReady.ne` is always satisfiable for them. -/
theorem tacd_pid_ne_sock (env : String → Option String) (c : Challenge) :
    pidDocPath env c ≠ unixDocSock env c := by
  intro h
  have h1 := congrArg (fun s => s.toList.getLast?) h
  simp only [pidDocPath, unixDocSock, String.toList_append] at h1
  rw [getLast?_append_ne_nil _ _ (by decide +kernel),
    getLast?_append_ne_nil _ _ (by decide +kernel)] at h1
  revert h1
  decide +kernel

/-- **C20.2, tacd: nothing is left.** After one complete cycle of either tacd group from a ready
world: the three stages succeeded, there is no pid file, nothing at the socket path, and the running
responders are exactly those from before (the one started has been killed, its address released). -/
theorem tacd_clean_leaves_nothing (w : World) (env : String → Option String) (c : Challenge) :
    (∀ host port, TcpReady w (pidDocPath env c) host port →
      parseListen (tcpDocListen env c) = some (.tcp host port) →
      tcpCycle env (.tcp host port) w c = (true, true, true, afterTcp w (pidDocPath env c)) ∧
      getPid (afterTcp w (pidDocPath env c)) (pidDocPath env c) = none ∧
      (afterTcp w (pidDocPath env c)).responders = w.responders ∧
      tcpBound (afterTcp w (pidDocPath env c)) host port = false) ∧
    (UnixReady w (pidDocPath env c) (unixDocSock env c) →
      unixCycle unixGroup env (.unix (unixDocSock env c)) w c =
        (true, true, true, afterUnix w (pidDocPath env c) (unixDocSock env c)) ∧
      getPid (afterUnix w (pidDocPath env c) (unixDocSock env c)) (pidDocPath env c) = none ∧
      existsPath (afterUnix w (pidDocPath env c) (unixDocSock env c)) (unixDocSock env c) = false ∧
      (afterUnix w (pidDocPath env c) (unixDocSock env c)).responders = w.responders) := by
  constructor
  · intro host port hr hA
    refine ⟨tcp_cycle_spec w env c host port hr hA, ?_, rfl, ?_⟩
    · simp [getPid, afterTcp, lookup_erase_self]
    · exact (tcpReady_after w _ host port hr).free
  · intro hr
    obtain ⟨h1, h2, h3⟩ := afterUnix_clean w _ _ hr
    exact ⟨unix_cycle_spec w env c hr, h1, h2, h3⟩

/-- **History (observation s).** With the unix group as shipped before the repair (no rm-sock hook):
the first issuance from a ready world is validated, but its clean hooks leave the socket file; at the
second issuance the start hook still "succeeds" while the bind fails on the left-over socket, so no
responder runs and — unless some other process happens to serve the right proof there — the CA's
validation fails.  For every environment and every pair of challenges of the same identifier. -/
theorem tacd_unix_old_is_false (w : World) (env : String → Option String) (c1 c2 : Challenge)
    (hr : UnixReady w (pidDocPath env c1) (unixDocSock env c1))
    (hid : c2.identifier = c1.identifier)
    (hno : ∀ r ∈ w.responders, r.ext ≠ c2.proof) :
    (unixIssuances oldUnixGroupHooks env (.unix (unixDocSock env c1)) w [c1, c2]).1
      = [true, false] := by
  have hS : unixDocSock env c2 = unixDocSock env c1 := by rw [unixDocSock, unixDocSock, hid]
  have hsock : unixDocSock env c2 ∈
      (afterUnixOld w (pidDocPath env c1) (unixDocSock env c1)).socks := by
    rw [hS]; exact sock_left_old w _ _ hr.ne
  obtain ⟨_, k2⟩ := unixOld_second_challenge
    (afterUnixOld w (pidDocPath env c1) (unixDocSock env c1)) env c2 hsock
  have hv : tlsAlpnValidates (runHooks (afterUnixOld w (pidDocPath env c1) (unixDocSock env c1))
      oldUnixGroupHooks "challenge-tls-alpn-01" c2.vars env).1 (.unix (unixDocSock env c1)) c2
      = false := by
    apply tlsAlpnValidates_false
    intro r hrm _
    rw [k2] at hrm
    exact hno r hrm
  rw [unixIssuances, issuances_cons,
    show cycle oldUnixGroupHooks _ _ _ env w c1 = _ from unixOld_cycle_spec w env c1 hr,
    issuances_cons, cycle_verdict, hv]
  simp only [Bool.and_self, Bool.and_false, Bool.false_and, issuances]

/-- The documented pid file, socket and listen address depend on the challenge only through the
identifier: every renewal of the same identifier renders the same ones (so the hypotheses of the
`…_repeatable` theorems hold for any list of challenges of one identifier). -/
theorem tacd_paths_by_identifier (env : String → Option String) (c c' : Challenge)
    (h : c.identifier = c'.identifier) :
    pidDocPath env c = pidDocPath env c' ∧ unixDocSock env c = unixDocSock env c' ∧
    tcpDocListen env c = tcpDocListen env c' := by
  simp [pidDocPath, unixDocSock, tcpDocListen, h]

/-! ## What the clean-hook wiring does NOT give (observation) -/

/-- The clean hooks run only on the success path (`acme_proto.rs:176,189,204-209`).  If an attempt
ends between the challenge hooks and the clean hooks (the "challenge ready" POST or the poll failed),
the tacd it started keeps running: at the next attempt the new tacd cannot lock the pid file nor bind,
the start hook still exits 0, and the OLD responder presents the OLD proof — the CA's validation of
the new challenge fails, and so will every later one until someone kills that process. -/
theorem tacd_tcp_aborted_run_blocks_next (w : World) (env : String → Option String)
    (c1 c2 : Challenge) (host : String) (port : Nat)
    (hr : TcpReady w (pidDocPath env c1) host port)
    (hA : parseListen (tcpDocListen env c1) = some (.tcp host port))
    (hid : c2.identifier = c1.identifier) (hproof : c2.proof ≠ c1.proof) :
    (tcpCycle env (.tcp host port) (abortedCycle tcpGroup "challenge-tls-alpn-01" env w c1) c2).2.1
      = false := by
  have hP : pidDocPath env c2 = pidDocPath env c1 := by rw [pidDocPath, pidDocPath, hid]
  rw [tcpCycle, cycle_verdict, abortedCycle, tcp_challenge_spec w env c1 host port hr hA]
  simp only [runHooks, group_tables, runList, run_rows, hP]
  rw [tacdStart_locked _ _ _ _ _ (by simp [pidLocked, getPid, started, lookup_insert_self])]
  simp only [if_true, started]
  apply tlsAlpnValidates_false
  intro r hrm hl
  simp only [List.mem_cons] at hrm
  rcases hrm with rfl | hrm
  · exact fun e => hproof e.symm
  · have hf := hr.free
    simp [tcpBound] at hf
    exact absurd hl (hf.2 r hrm)

/-- **C20.3.** Every file write bracketed by the git group's pre/post hooks (`storage.rs:194-247`), in
any world where the directory and the file can be written, whether the file is new or edited and
whether or not the directory is already a repository: the operation succeeds, HEAD of the repository
in that directory records exactly the stored content under the file's name, and — unless HEAD
already had that very content — a new commit whose subject is the file name is added. -/
theorem git_records_every_write (w : World) (env : String → Option String)
    (dir name content : String)
    (hbd : isBlocked w dir = false) (hbf : isBlocked w (dir ++ "/" ++ name) = false) :
    ∃ w', storeFile (groupHooks defaultHooks defaultGroups "git") env w dir name content
        = (some w', true) ∧
      getFile w' (dir ++ "/" ++ name) = some ⟨content, false⟩ ∧
      gitHead w' dir name = some content ∧
      (gitHead w dir name ≠ some content → gitCommits w' dir = name :: gitCommits w dir) ∧
      (gitHead w dir name = some content → gitCommits w' dir = gitCommits w dir) := by
  show ∃ w', storeFile gitGroup env w dir name content = (some w', true) ∧ _
  obtain ⟨i1, i2, i3, i4, i5⟩ := exec_gitInit_spec w dir hbd
  generalize hw1 : (exec w (.gitInit dir)).1 = w1 at i2 i3 i4 i5
  have hb1 : isBlocked w1 (dir ++ "/" ++ name) = false := by rw [isBlocked, i4]; exact hbf
  let w2 : World := { w1 with files := insert (dir ++ "/" ++ name) ⟨content, false⟩ w1.files }
  have hf2 : getFile w2 (dir ++ "/" ++ name) = some ⟨content, false⟩ := lookup_insert_self _ _ _
  have hg2 : lookup dir w2.git = some (repoOf w dir) := i5
  have hadd : (exec w2 (.gitAdd dir name)).1 =
      { w2 with git := insert dir { repoOf w dir with index := insert name content (repoOf w dir).index }
                  w2.git } := by
    simp only [exec, hg2, hf2]
  -- pre hooks: `git init`; post hooks: `git add`, `git commit`
  have hstore : storeFile gitGroup env w dir name content =
      (some (exec (exec w2 (.gitAdd dir name)).1 (.gitCommit dir name name)).1, true) := by
    cases hnew : (getFile w (dir ++ "/" ++ name)).isNone <;>
      simp only [storeFile, hnew, runHooks, group_tables, runList, run_gitRows, hw1, i1, i2, hb1,
        if_true, Bool.false_eq_true, if_false, Bool.not_true, decide_true, Bool.or_self, w2]
  refine ⟨_, hstore, ?_⟩
  rw [hadd]
  have hg3 := lookup_insert_self dir
    { repoOf w dir with index := insert name content (repoOf w dir).index } w2.git
  rw [gitHead_repoOf w, gitCommits_repoOf w]
  by_cases hsame : lookup name (repoOf w dir).head = some content <;>
    simp [exec, hg3, getFile, w2, lookup_insert_self, hsame, gitHead, gitCommits]

/-- … hence, in a repository where every file of HEAD is named by some commit (true of the empty
repository and preserved by the hooks), the stored file is named by a commit afterwards. -/
theorem git_commit_names_file (w : World) (env : String → Option String)
    (dir name content : String)
    (hbd : isBlocked w dir = false) (hbf : isBlocked w (dir ++ "/" ++ name) = false)
    (hwf : ∀ c, gitHead w dir name = some c → name ∈ gitCommits w dir) :
    ∃ w', storeFile (groupHooks defaultHooks defaultGroups "git") env w dir name content
        = (some w', true) ∧ name ∈ gitCommits w' dir := by
  obtain ⟨w', h1, _, _, h4, h5⟩ := git_records_every_write w env dir name content hbd hbf
  refine ⟨w', h1, ?_⟩
  by_cases hs : gitHead w dir name = some content
  · rw [h5 hs]; exact hwf content hs
  · rw [h4 hs]; exact List.mem_cons_self

/-! ## The model's own observation of one issuance passes `Spec.C20.issuanceOk` -/

theorem model_satisfies_spec_http (w : World) (env : String → Option String) (c : Challenge)
    (hr : HttpReady w env c) (ht : TokenOk c) :
    Spec.C20.issuanceOk .http01Echo (modelObsHttp env w c) = true := by
  obtain ⟨_, _, h2, h3⟩ := http01_reachable w env c hr ht
  obtain ⟨_, _, _, h4⟩ := http01_clean w env c hr ht
  have h2' : getFile (runHooks w httpGroup "challenge-http-01" c.vars env).1 (httpDocPath env c)
      = some ⟨c.proof ++ "\n", true⟩ := h2
  have h3' : http01Validates (runHooks w httpGroup "challenge-http-01" c.vars env).1 env c = true := h3
  simp [modelObsHttp, Spec.C20.issuanceOk, Spec.C20.challengeOk, Spec.C20.contentOk, h2', h3', h4]

theorem model_satisfies_spec_unix (w : World) (env : String → Option String) (c : Challenge)
    (hr : UnixReady w (pidDocPath env c) (unixDocSock env c))
    (hfree : ∀ r ∈ w.responders, r.listen ≠ .unix (unixDocSock env c)) :
    Spec.C20.issuanceOk .tacdUnix
      (modelObsTacd unixGroup env (.unix (unixDocSock env c)) (some (unixDocSock env c)) w c)
      = true := by
  obtain ⟨h1, h2, h3⟩ := afterUnix_clean w _ _ hr
  have hnone : (afterUnix w (pidDocPath env c) (unixDocSock env c)).responders.any
      (fun r => r.listen == Listen.unix (unixDocSock env c)) = false := by
    rw [h3, Bool.eq_false_iff]
    intro h
    rw [List.any_eq_true] at h
    obtain ⟨r, hrm, hl⟩ := h
    exact hfree r hrm (by simpa using hl)
  simp [modelObsTacd, Spec.C20.issuanceOk, Spec.C20.challengeOk, unix_challenge_spec w env c hr,
    unix_cycle_spec w env c hr, h1, h2, hnone, tlsAlpnValidates, started]

theorem model_satisfies_spec_tcp (w : World) (env : String → Option String) (c : Challenge)
    (host : String) (port : Nat) (hr : TcpReady w (pidDocPath env c) host port)
    (hA : parseListen (tcpDocListen env c) = some (.tcp host port)) :
    Spec.C20.issuanceOk .tacdTcp (modelObsTacd tcpGroup env (.tcp host port) none w c) = true := by
  have hc : unixCycle tcpGroup env (.tcp host port) w c = tcpCycle env (.tcp host port) w c := rfl
  have hf := hr.free
  simp only [tcpBound, Bool.or_eq_false_iff] at hf
  have hp : getPid (afterTcp w (pidDocPath env c)) (pidDocPath env c) = none := by
    simp [getPid, afterTcp, lookup_erase_self]
  have hrs : (afterTcp w (pidDocPath env c)).responders = w.responders := rfl
  simp [modelObsTacd, Spec.C20.issuanceOk, Spec.C20.challengeOk, hc,
    tcp_challenge_spec w env c host port hr hA, tcp_cycle_spec w env c host port hr hA, hp, hrs, hf.2,
    tlsAlpnValidates, started]

/-! ## Non-vacuity: hypotheses satisfiable (evaluated), verdicts instances of the theorems -/

private def envNone : String → Option String := fun _ => none
private def cHttp : Challenge := ⟨"a.example", "a.example", "http-01", "tok", "tok.thumb"⟩
private def cAlpn (p : String) : Challenge := ⟨"a.example", "a.example", "tls-alpn-01", "", p⟩
private def wLocal : World := { World.empty with localHosts := ["a.example"] }

private theorem tokenOk_cHttp : TokenOk cHttp := ⟨by decide +kernel, by decide +kernel⟩

private theorem httpReady_cHttp : HttpReady World.empty envNone cHttp :=
  ⟨rfl, by decide +kernel, by decide +kernel, Or.inr (by decide +kernel)⟩

example : TokenOk cHttp := tokenOk_cHttp
example : HttpReady World.empty envNone cHttp := httpReady_cHttp

example : (httpIssuances envNone World.empty [cHttp, cHttp, cHttp]).1 = [true, true, true] :=
  http01_repeatable World.empty envNone "a.example" [cHttp, cHttp, cHttp] fun c hc => by
    obtain rfl : c = cHttp := by simpa using hc
    exact ⟨rfl, tokenOk_cHttp, httpReady_cHttp⟩

private theorem tcpReady_wLocal :
    TcpReady wLocal (pidDocPath envNone (cAlpn "p")) "a.example" 5001 :=
  ⟨rfl, by decide +kernel, by decide +kernel, by decide +kernel, by decide +kernel,
    (by intro r h; cases h)⟩

private theorem listen_cAlpn :
    parseListen (tcpDocListen envNone (cAlpn "p")) = some (.tcp "a.example" 5001) := by
  decide +kernel

private theorem tcp_hyps (c : Challenge) (ps : List String) (hc : c ∈ ps.map cAlpn) :
    pidDocPath envNone c = pidDocPath envNone (cAlpn "p") ∧
    parseListen (tcpDocListen envNone c) = some (.tcp "a.example" 5001) := by
  obtain ⟨p, _, rfl⟩ := List.mem_map.1 hc
  exact ⟨rfl, listen_cAlpn⟩

example : TcpReady wLocal (pidDocPath envNone (cAlpn "p")) "a.example" 5001 := tcpReady_wLocal
example : parseListen (tcpDocListen envNone (cAlpn "p")) = some (.tcp "a.example" 5001) :=
  listen_cAlpn
example : (tcpIssuances envNone (.tcp "a.example" 5001) wLocal [cAlpn "p", cAlpn "q"]).1
    = [true, true] :=
  (tacd_tcp_repeatable wLocal envNone _ "a.example" 5001 _ tcpReady_wLocal
    fun c hc => tcp_hyps c ["p", "q"] hc).1

private theorem unixReady_empty :
    UnixReady World.empty (pidDocPath envNone (cAlpn "p")) (unixDocSock envNone (cAlpn "p")) :=
  ⟨rfl, by decide +kernel, by decide +kernel, rfl, by decide +kernel, (by intro r h; cases h),
    by decide +kernel⟩

private theorem sock_cAlpn : unixDocSock envNone (cAlpn "p") = "/run/tacd_a.example.sock" := by
  decide +kernel

example : UnixReady World.empty (pidDocPath envNone (cAlpn "p")) (unixDocSock envNone (cAlpn "p")) :=
  unixReady_empty
example : (unixIssuances unixGroup envNone (.unix "/run/tacd_a.example.sock") World.empty
    [cAlpn "p", cAlpn "q", cAlpn "r"]).1 = [true, true, true] :=
  (tacd_unix_repeatable World.empty envNone _ _ _ (sock_cAlpn ▸ unixReady_empty) fun c hc => by
    obtain ⟨p, _, rfl⟩ := List.mem_map.1 (show c ∈ ["p", "q", "r"].map cAlpn from hc)
    exact ⟨rfl, sock_cAlpn⟩).1
/-- The defect before the repairs, on concrete data. -/
example : (unixIssuances oldUnixGroupHooks envNone (.unix "/run/tacd_a.example.sock") World.empty
    [cAlpn "p", cAlpn "q"]).1 = [true, false] :=
  sock_cAlpn ▸ tacd_unix_old_is_false World.empty envNone (cAlpn "p") (cAlpn "q") unixReady_empty rfl
    (by intro r h; cases h)
example : (tcpIssuances envNone (.tcp "a.example" 5001)
    (abortedCycle tcpGroup "challenge-tls-alpn-01" envNone wLocal (cAlpn "p")) [cAlpn "q"]).1
    = [false] := by
  have h := tacd_tcp_aborted_run_blocks_next wLocal envNone (cAlpn "p") (cAlpn "q") "a.example" 5001
    tcpReady_wLocal listen_cAlpn rfl (by decide +kernel)
  rw [tcpIssuances, issuances_cons, show (cycle tcpGroup _ _ _ envNone _ (cAlpn "q")).2.1 = false from h,
    Bool.and_false, Bool.false_and]
  rfl

/-- `tacd_tcp_old_is_false` cannot drop its hypothesis on TACD_PORT: an environment that (against the
manual) put a whole address into TACD_PORT made the old hook work. -/
example : (tcpIssuances envNone (.tcp "a.example" 5001) wLocal [cAlpn "p"]).1 = [true] ∧
    (issuances oldTcpGroup "challenge-tls-alpn-01" "challenge-tls-alpn-01-clean"
      (fun w c => tlsAlpnValidates w (.tcp "a.example" 5001) c)
      (fun k => if k = "TACD_PORT" then some "a.example:5001" else none) wLocal [cAlpn "p"]).1 = [true] ∧
    (issuances oldTcpGroup "challenge-tls-alpn-01" "challenge-tls-alpn-01-clean"
      (fun w c => tlsAlpnValidates w (.tcp "a.example" 5001) c) envNone wLocal [cAlpn "p"]).1 = [false] := by
  refine ⟨(tacd_tcp_repeatable wLocal envNone _ "a.example" 5001 _ tcpReady_wLocal
    fun c hc => tcp_hyps c ["p"] hc).1, by decide +kernel, ?_⟩
  rw [issuances_cons, cycle_verdict,
    (tacd_tcp_old_is_false wLocal envNone (cAlpn "p") (by decide +kernel)).2.2
      (by intro r h; cases h) (.tcp "a.example" 5001), Bool.and_false, Bool.false_and]
  rfl

/-- TACD_HOST set to the empty string is NOT defaulted (MiniJinja's `default` only replaces undefined):
the listen argument is ":5001" and tacd refuses it. -/
example : parseListen (tcpDocListen (fun k => if k = "TACD_HOST" then some "" else none) (cAlpn "p"))
    = none := by decide +kernel

example : (storeFile gitGroup envNone World.empty "/etc/acmed/certs" "a.pem" "X").2 = true ∧
    ((storeFile gitGroup envNone World.empty "/etc/acmed/certs" "a.pem" "X").1.map
      fun w => gitCommits w "/etc/acmed/certs") = some ["a.pem"] := by
  obtain ⟨w', h, _, _, hc, _⟩ :=
    git_records_every_write World.empty envNone "/etc/acmed/certs" "a.pem" "X" rfl rfl
  rw [show storeFile gitGroup envNone World.empty "/etc/acmed/certs" "a.pem" "X" = _ from h]
  exact ⟨rfl, congrArg some (hc (fun h => nomatch h))⟩

end AcmedVerif.Props.C20
