/-
C09 — the configured rate limits are never exceeded, and requests are not withheld for ever.
Theorems about `Model/Limiter.lean`; helper lemmas in `Lemmas/Limiter.lean`.
-/
import AcmedVerif.Model.Limiter
import AcmedVerif.Lemmas.Limiter

namespace AcmedVerif.Props.C09
open AcmedVerif.Limiter

/-- `RateLimit::new` keeps every configured limit (a permutation: nothing dropped, nothing added). -/
theorem mkLimits_mem (raw ls : List Limit) (h : mkLimits raw = some ls) (l : Limit) :
    l ∈ ls ↔ l ∈ raw := by
  rw [(mkLimits_some h).1]
  exact mem_sortDesc l raw

theorem mkLimits_length (raw ls : List Limit) (h : mkLimits raw = some ls) :
    ls.length = raw.length := by
  rw [(mkLimits_some h).1]
  exact (sortDesc_perm raw).length_eq

/-- … and puts the longest period first, which `prune_log` relies on. -/
theorem mkLimits_headMax (raw ls : List Limit) (h : mkLimits raw = some ls) : HeadMax ls := by
  rw [(mkLimits_some h).1]
  exact headMax_sortDesc raw

/-- `number = 0` is refused at construction (repair of observation d), so no accepted limit has
`n = 0`. -/
theorem mkLimits_pos (raw ls : List Limit) (h : mkLimits raw = some ls) :
    ∀ l ∈ ls, 1 ≤ l.n := by
  intro l hl
  rw [(mkLimits_some h).1, mem_sortDesc] at hl
  exact Nat.pos_of_ne_zero ((mkLimits_some h).2 l hl)

/-- **Safety (clause C09.1), full strength.** For every set of limits with the longest first,
every number of passes through the limiter, every sequence of clock readings that never goes
backwards, every limit `(n, p)` and every instant `t`: the number of admissions in the window
`(t - p, t]` is at most `n`.  No bound on the number of limits, passes or window position.
The proof does not use `hwf`: `allowed` re-uses the previous reading when `tTests` is short and
ignores surplus readings, and every reading used still lies in `[tPrune, tPush]`. -/
theorem window_safe (limits : List Limit) (hm : HeadMax limits) (rs : List Readings)
    (hwf : wfReadings limits.length rs) (hmono : monoFrom 0 (flatReadings rs))
    (lim : Limit) (hl : lim ∈ limits) (t : Nat) :
    inWindow (run (init limits) rs).hist lim.period t ≤ lim.n := by
  have _ := hwf
  obtain ⟨_, inv⟩ := Inv.run hm rs 0 (init limits) (Inv.init limits) hmono
  exact inv.safe lim hl t

/-- The pruned log never invents admissions: it is always a sublist of the ghost history. -/
theorem log_sublist_hist (limits : List Limit) (rs : List Readings) :
    (run (init limits) rs).log.Sublist (run (init limits) rs).hist :=
  run_log_sublist rs (init limits) (List.Sublist.refl _)

/-- **Progress (clause C09.2).** In any reachable state, a pass whose readings are not earlier than
`t0` admits the request as soon as every limit has room at `t0`, i.e. fewer than `n` admissions
younger than `t0 - p`.  The proof does not use `hwf`, as in `window_safe`. -/
theorem admits_when_room (limits : List Limit) (rs : List Readings) (r : Readings) (t0 : Nat)
    (hwf : r.tTests.length = limits.length)
    (hmono : monoFrom t0 (r.tPrune :: (r.tTests ++ [r.tPush])))
    (hroom : ∀ lim ∈ limits,
      ((run (init limits) rs).hist.filter (fun x => decide (t0 < x + lim.period))).length < lim.n) :
    (attempt (run (init limits) rs) r).2 = true := by
  have _ := hwf
  apply attempt_admits_of_room _ (run_log_sublist rs (init limits) (List.Sublist.refl _)) r t0 hmono
  rw [run_limits]
  exact hroom

/-- Hence a request is never withheld for ever: once the longest period has elapsed since the last
admission, the next pass admits (all accepted limits have `n ≥ 1`). -/
theorem admits_after_quiet (limits : List Limit) (hpos : ∀ l ∈ limits, 1 ≤ l.n)
    (rs : List Readings) (r : Readings) (t0 : Nat)
    (hwf : r.tTests.length = limits.length)
    (hmono : monoFrom t0 (r.tPrune :: (r.tTests ++ [r.tPush])))
    (hquiet : ∀ x ∈ (run (init limits) rs).hist, ∀ lim ∈ limits, x + lim.period ≤ t0) :
    (attempt (run (init limits) rs) r).2 = true := by
  apply admits_when_room limits rs r t0 hwf hmono
  intro lim hl
  have he : (run (init limits) rs).hist.filter (fun x => decide (t0 < x + lim.period)) = [] := by
    rw [List.filter_eq_nil_iff]
    exact fun x hx => decide_eq_false (Nat.not_lt.2 (hquiet x hx lim hl)) ▸ Bool.false_ne_true
  rw [he]
  exact hpos lim hl

/-- `get_sleep_duration` stays in `[100 ms, 1 h]` for every non-empty limit set.  The proof does not
use `hpos`: in the model a division by `n = 0` yields 0, where the Rust code would panic, so that the
division is safe is NOT shown here; it rests on `mkLimits_pos`. -/
theorem sleepMs_bounds (limits : List Limit) (hne : limits ≠ []) (hpos : ∀ l ∈ limits, 1 ≤ l.n) :
    minSleepMs ≤ sleepMs limits ∧ sleepMs limits ≤ maxSleepMs := by
  have _ := hpos
  unfold sleepMs
  cases hg : limits.getLast? with
  | none => exact absurd (List.getLast?_eq_none_iff.mp hg) hne
  | some l =>
    dsimp only
    split
    · decide
    · exact ⟨Nat.le_max_right _ _, Nat.max_le.mpr ⟨Nat.min_le_right _ _, by decide⟩⟩

/-- The code before the repair: a limit whose period is longer than the time since boot refuses
every request, for every log, so a request can be withheld for ever. -/
theorem progress_unrepaired_is_false (log : List Nat) (lim : Limit) (rest : List Limit)
    (ts : List Nat) (t : Nat) (h : ts.headD t < lim.period) :
    allowedOld log (lim :: rest) ts t = false := by
  unfold allowedOld checkedSub
  simp only [Nat.not_le.mpr h, if_false]

def exLimits : List Limit := [⟨3, 60000000000⟩, ⟨2, 10000000000⟩]
def exRs : List Readings :=
  [⟨100000000000, [100000000001, 100000000002], 100000000003⟩,
   ⟨101000000000, [101000000001, 101000000002], 101000000003⟩,
   ⟨102000000000, [102000000001, 102000000002], 102000000003⟩,
   ⟨111000000004, [111000000005, 111000000006], 111000000007⟩,
   ⟨112000000000, [112000000001, 112000000002], 112000000003⟩]

/-- Non-vacuity: a concrete run (2 per 10 s and 3 per 60 s, five passes) satisfies the hypotheses of
`window_safe` and really admits and refuses. -/
example : (run (init exLimits) exRs).hist = [100000000003, 101000000003, 111000000007] := by decide +kernel
example : mkLimits [⟨2, 10000000000⟩, ⟨3, 60000000000⟩] = some exLimits := by decide +kernel
example : mkLimits [⟨0, 10000000000⟩] = none := by decide +kernel

end AcmedVerif.Props.C09
