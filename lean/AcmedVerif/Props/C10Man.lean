/-
C10 — "each receiving the documented template variables": the documentation IS the manual page
shipped in /repo.  `Gen/ManVars.lean` is regenerated from man/en/acmed.toml.5 on every run; the model's
`documentedVars` table (what the judge demands of every hook) must be that table, for all 11 hook types,
and every documented variable must be a member of the structure the COMPILED code serialises
(`Gen/Tables.lean`).  A variable documented but no longer provided, or a documentation change the
model does not follow, breaks one of these.
-/
import AcmedVerif.Props.C10
import AcmedVerif.Gen.ManVars
import AcmedVerif.Gen.Tables

namespace AcmedVerif.Props.C10Man
open AcmedVerif AcmedVerif.Hooks

def sameSet (a b : List String) : Bool := a.all b.contains && b.all a.contains

/-- The manual documents all 11 hook types, and for each the model's table is the manual's. -/
theorem documented_vars_are_the_manuals :
    AcmedVerif.Gen.manHookVars.length = 11 ∧
    (allHookTypes.all fun ty =>
      match AcmedVerif.Gen.manHookVars.lookup ty.toString with
      | some vars => sameSet (documentedVars ty) vars
      | none => false) = true := by decide +kernel

/-- Every variable the manual documents for a hook type is a member of the structure the compiled
code hands to the template engine for that type. -/
theorem manual_vars_in_compiled_structs :
    (AcmedVerif.Gen.manHookVars.all fun (ty, vars) =>
      let members := match ty with
        | "post-operation" => (AcmedVerif.Gen.hookDataMembers.lookup "post-operation").getD []
        | "file-pre-create" | "file-post-create" | "file-pre-edit" | "file-post-edit" =>
          (AcmedVerif.Gen.hookDataMembers.lookup "file").getD []
        | _ => (AcmedVerif.Gen.hookDataMembers.lookup "challenge").getD []
      vars.all members.contains) = true := by decide +kernel

end AcmedVerif.Props.C10Man
