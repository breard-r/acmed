/-
C01 / C16 — "DNS names as lowercase A-labels" with the lower-casing the code really uses.

`Model/Lower.lean: lowerFull` is a transliteration of Rust's `str::to_lowercase` over the tables of
`Gen/Lower.lean` (regenerated on every run from the COMPILED std by executing every Unicode scalar
value).  The theorems of `Props/C01Ident.lean` / `Props/C16.lean` are stated for EVERY `lowerStr`
under hypotheses (`LowerAscii`, `LowerNoUpper`, `LowerNoDot`, `LowerBounded`); here the hypotheses
are PROVED of `lowerFull` — for all strings, from closed facts about the generated table
(`Lemmas/Lower.lean: asciiTable, tableOutputs` and that the table is sorted, by `decide +kernel`) —
and the theorems are instantiated, so that the function the driver evaluates (`Lower.toIdnaFull`,
ops `idna` / `lower_str`) is the one the theorems are about.

What is NOT proved: that `lowerFull` IS `str::to_lowercase` (std is not verified): the tables are
tied exhaustively, the string-level rule by correspondence on generated labels (`py/ext/idnagen.py`).
Reading of "A-label": `xn--` + RFC 3492 punycode of the label lower-cased by `str::to_lowercase`;
no NFC / UTS-46 mapping (the code does none).
-/
import AcmedVerif.Lemmas.Lower
import AcmedVerif.Props.C01Ident
import AcmedVerif.Props.C16

namespace AcmedVerif.Props.C01Lower
open AcmedVerif.Idna AcmedVerif.Lower AcmedVerif.Tacd

/-- **`lowerFull_ascii`.** On every all-ASCII string `str::to_lowercase` (the model of it) is ASCII
lower-casing: `A`–`Z` to `a`–`z`, every other character kept (this is what makes the ASCII fast
path of the std function semantically irrelevant). -/
theorem lowerFull_ascii (s : List Char) (h : allAscii s = true) : lowerFull s = s.map asciiLower :=
  lowerGo_ascii s [] h

/-- **`lowerFull_idempotent_on_ascii`.** On an all-ASCII string lower-casing twice is lower-casing
once. -/
theorem lowerFull_idempotent_on_ascii (s : List Char) (h : allAscii s = true) :
    lowerFull (lowerFull s) = lowerFull s := by
  have h1 := lowerFull_ascii s h
  obtain ⟨ha, hu, _, hfix⟩ := map_asciiLower_ascii s h
  rw [h1, lowerFull_ascii _ ha]
  exact (map_asciiLower_ascii (s.map asciiLower) ha).2.2.2 hu

theorem lowerFull_length (s : List Char) :
    s.length ≤ (lowerFull s).length ∧ (lowerFull s).length ≤ 3 * s.length :=
  (lowerGo_facts s []).2.2

/-- **`lowerFull_positions`.** `to_lowercase` works position by position: in `pre ++ c :: post` the
character `c` contributes `lowerAt pre.reverse c post` — for `c ≠ Σ` its row of the table (or itself),
independent of the neighbours; for `c = Σ` the context-dependent `mapSigma`. -/
theorem lowerFull_positions (pre : List Char) (c : Char) (post : List Char) :
    lowerFull (pre ++ c :: post) =
      lowerSeg [] pre (c :: post) ++ lowerAt pre.reverse c post ++
        lowerSeg (c :: pre.reverse) post [] := by
  unfold lowerFull
  rw [lowerGo_eq_seg, lowerSeg_append]
  simp only [lowerSeg, List.append_nil, List.append_assoc]

/-- **`lowerChar_table`.** The per-character step IS the generated table (the binary search finds a
row exactly when the table has one): a character with a row is replaced by the row's output, a
character without a row is kept. -/
theorem lowerChar_table (c : Char) :
    (∀ v, (c.toNat, v) ∈ Gen.lowerMap.toList → lowerChar c = v.map Char.ofNat) ∧
    ((∀ v, (c.toNat, v) ∉ Gen.lowerMap.toList) → lowerChar c = [c]) :=
  ⟨fun _ hv => lowerChar_of_row hv, lowerChar_of_no_row⟩

/-- **`sets_are_tables`.** The two sets of the final-sigma rule ARE the generated range tables. -/
theorem sets_are_tables (c : Char) :
    (isIgnorable c = true ↔ ∃ r ∈ Gen.ignorableRanges.toList, r.1 ≤ c.toNat ∧ c.toNat ≤ r.2) ∧
    (isCased c = true ↔ ∃ r ∈ Gen.casedRanges.toList, r.1 ≤ c.toNat ∧ c.toNat ≤ r.2) :=
  ⟨inRanges_iff _ ignorable_sorted table_sizes.2.1 _, inRanges_iff _ cased_sorted table_sizes.2.2 _⟩

/-- Before Σ, going backwards: skipped characters only, then a cased one. -/
def PrecededByCased (pre : List Char) : Prop :=
  ∃ a c b, pre = a ++ c :: b ∧ (∀ x ∈ b, isIgnorable x = true) ∧ isIgnorable c = false ∧
    isCased c = true

/-- After Σ: skipped characters only, then a cased one. -/
def FollowedByCased (post : List Char) : Prop := ReachesCased post

theorem precededByCased_iff (pre : List Char) : PrecededByCased pre ↔ ReachesCased pre.reverse := by
  constructor <;> rintro ⟨a, c, b, h, hb, hc, hcc⟩ <;>
    refine ⟨b.reverse, c, a.reverse, ?_, fun x hx => hb x (List.mem_reverse.1 hx), hc, hcc⟩
  · simp [h]
  · simpa using congrArg List.reverse h

/-- **`sigma_final_iff`.** In `pre ++ Σ :: post` the capital sigma becomes `ς` (U+03C2) exactly when,
in terms of the two generated sets, a cased character precedes it with only skipped characters in
between (searched over the ORIGINAL characters of `pre`) and no cased character follows it after
only skipped characters; in every other case it becomes `σ` (U+03C3). -/
theorem sigma_final_iff (pre post : List Char) :
    (lowerAt pre.reverse capitalSigma post = [finalSigma] ↔
      PrecededByCased pre ∧ ¬ FollowedByCased post) ∧
    (lowerAt pre.reverse capitalSigma post = [smallSigma] ↔
      ¬ (PrecededByCased pre ∧ ¬ FollowedByCased post)) := by
  have hne : finalSigma ≠ smallSigma := by decide
  rw [precededByCased_iff, FollowedByCased, ← ignorableThenCased_iff, ← ignorableThenCased_iff]
  simp only [lowerAt, if_true, mapSigma, List.cons.injEq, and_true]
  by_cases h1 : ignorableThenCased pre.reverse = true <;>
    by_cases h2 : ignorableThenCased post = true <;>
    simp [h1, h2, hne, hne.symm]

theorem lowerFull_lowerAscii : LowerAscii lowerFull := ⟨lowerFull_ascii⟩

theorem lowerFull_noUpper : LowerNoUpper lowerFull := ⟨fun s => (lowerGo_facts s []).1⟩

theorem lowerFull_noDot : LowerNoDot lowerFull := ⟨fun s => (lowerGo_facts s []).2.1⟩

theorem lowerFull_bounded : LowerBounded lowerFull :=
  lowerBounded_of_factor 3 (by omega) (fun s => (lowerFull_length s).2)

/-- `Props/C01Ident.idna_label_shape` for the driver's function: shape of every output label, the
whole result ASCII without upper-case letter. -/
theorem idna_label_shape_full (chk : Bool) (p : Profile) (domain out : List Char)
    (h : toIdnaStrG chk lowerFull p domain = .ok out) :
    ∃ ls, out = joinWith '.' ls ∧ ls.length = (splitOn '.' domain).length ∧
      (∀ x ∈ (splitOn '.' domain).zip ls, LabelShape lowerFull p x.1 x.2) ∧
      (∀ c ∈ out, isAscii c = true) ∧ (∀ c ∈ out, isAsciiUpper c = false) ∧
      (chk = true → ∀ name ∈ splitOn '.' domain, name.length ≤ 63) := by
  obtain ⟨ls, h1, h2, h3, h4, h5, h6⟩ :=
    C01Ident.idna_label_shape chk lowerFull lowerFull_lowerAscii p domain out h
  exact ⟨ls, h1, h2, h3, h4, h5 lowerFull_noUpper, h6⟩

/-- `idna_total`: with the real lower-casing, `to_idna` answers `ok` or `err` in both profiles. -/
theorem idna_total_full (p : Profile) (domain : List Char) :
    (∃ out, toIdnaStr lowerFull p domain = .ok out) ∨ toIdnaStr lowerFull p domain = .err :=
  C01Ident.idna_total lowerFull lowerFull_bounded p domain

theorem idna_ascii_idempotent_full (chk : Bool) (p : Profile) (domain : List Char)
    (h1 : allAscii domain = true) (h2 : ∀ c ∈ domain, isAsciiUpper c = false)
    (h3 : chk = true → ∀ name ∈ splitOn '.' domain, name.length ≤ 63) :
    toIdnaStrG chk lowerFull p domain = .ok domain :=
  C01Ident.idna_ascii_idempotent chk lowerFull lowerFull_lowerAscii p domain h1 h2 h3

theorem idna_idempotent_full (chk : Bool) (p : Profile) (domain out : List Char)
    (h : toIdnaStrG chk lowerFull p domain = .ok out)
    (h3 : chk = true → ∀ l ∈ splitOn '.' out, l.length ≤ 63) :
    toIdnaStrG chk lowerFull p out = .ok out :=
  C01Ident.idna_idempotent chk lowerFull lowerFull_lowerAscii lowerFull_noUpper p domain out h h3

theorem idna_label_count_full (chk : Bool) (p : Profile) (domain out : List Char)
    (h : toIdnaStrG chk lowerFull p domain = .ok out) :
    (splitOn '.' out).length = (splitOn '.' domain).length :=
  C01Ident.idna_label_count chk lowerFull lowerFull_lowerAscii lowerFull_noDot p domain out h

/-- The judge's shape definition accepts every result of the driver's `to_idna`. -/
theorem judge_accepts_idna_full (chk : Bool) (p : Profile) (domain out : List Char)
    (h : toIdnaStrG chk lowerFull p domain = .ok out) :
    Spec.C01Ident.dnsShapeOk domain out = true :=
  C01Ident.judge_accepts_idna chk lowerFull lowerFull_lowerAscii lowerFull_noUpper lowerFull_noDot
    p domain out h

/-- The driver op `idna` (`Lower.toIdnaFull`) is `toIdnaStr lowerFull .release`. -/
theorem toIdnaFull_eq (domain out : List Char) :
    toIdnaFull domain = some out ↔ toIdnaStr lowerFull .release domain = .ok out := by
  unfold toIdnaFull
  cases toIdnaStr lowerFull .release domain <;> simp

/-- **C16, `tacd_san_full`.** With the real lower-casing: the only subjectAltName tacd hands to the
certificate builder is `to_idna` of the domain value, which is ASCII, without upper-case letter,
label by label of the shape `LabelShape` (ASCII labels lower-cased, others `xn--` + punycode of the
label lower-cased by `lowerFull`). -/
theorem tacd_san_full (p : Profile) (domain ext : Source) (spec : CertSpec)
    (h : certSpec lowerFull p domain ext = .ok spec) :
    toIdnaStr lowerFull p (sourceValue domain) = .ok spec.sanDns ∧
    (∀ c ∈ spec.sanDns, isAscii c = true ∧ isAsciiUpper c = false) ∧
    ∃ ls, spec.sanDns = joinWith '.' ls ∧
      ls.length = (splitOn '.' (sourceValue domain)).length ∧
      ∀ x ∈ (splitOn '.' (sourceValue domain)).zip ls, LabelShape lowerFull p x.1 x.2 := by
  have h0 := (C16.san_is_alabel lowerFull p domain ext spec h).1
  obtain ⟨ls, h1, h2, h3, h4, h5, _⟩ :=
    idna_label_shape_full true p (sourceValue domain) spec.sanDns h0
  exact ⟨h0, fun c hc => ⟨h4 c hc, h5 c hc⟩, ls, h1, h2, h3⟩

/-! ## Fixed points against the compiled code (values observed on the real `to_idna`)

Evaluated through `lowerFullL` (`Lemmas/Lower.lean`: the same function with every look-up done by one
scan of its table), which costs the kernel a fraction of the binary searches. -/

/-- `ΣΑΣ.example`: the last sigma is final (`xn--mxa8ab`, not `xn--mxa9ab`). -/
example : toIdnaFull [Char.ofNat 0x3A3, Char.ofNat 0x391, Char.ofNat 0x3A3, '.', 'e', 'x'] =
    some "xn--mxa8ab.ex".toList := by
  -- left to the kernel, `String.toList` of a literal is decoded from its UTF-8 bytes, quadratically
  rw [toIdnaFull, lowerFull_eq_linear, String.toList_ofList]
  decide +kernel

/-- Lower-casing is per LABEL: in `α.Σ` the sigma stands alone in its label (not final), although
`.` is a skipped character and `α` is cased. -/
example : toIdnaFull [Char.ofNat 0x3B1, '.', Char.ofNat 0x3A3] = some "xn--mxa.xn--4xa".toList := by
  rw [toIdnaFull, lowerFull_eq_linear, String.toList_ofList]
  decide +kernel

/-- U+0130 becomes two characters. -/
example : lowerFull [Char.ofNat 0x130] = ['i', Char.ofNat 0x307] := by
  rw [lowerFull_eq_linear]
  decide +kernel

/-- Both sides of `sigma_final_iff` occur: after `α` + soft hyphen the sigma is final; before `α`
it is not. -/
example : lowerFull [Char.ofNat 0x3B1, Char.ofNat 0xAD, capitalSigma] =
      [Char.ofNat 0x3B1, Char.ofNat 0xAD, finalSigma] ∧
    lowerFull [Char.ofNat 0x3B1, capitalSigma, Char.ofNat 0x3B1] =
      [Char.ofNat 0x3B1, smallSigma, Char.ofNat 0x3B1] := by
  rw [lowerFull_eq_linear]
  decide +kernel

/-- DESIGN §1 observation (i) with the real table: U+212A KELVIN SIGN. -/
example : toIdnaFull [Char.ofNat 0x212A, '.', 'e', 'x'] = some "xn--k-.ex".toList := by
  rw [toIdnaFull, lowerFull_eq_linear, String.toList_ofList]
  decide +kernel

end AcmedVerif.Props.C01Lower
