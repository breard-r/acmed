/-
C14, the loader and the include resolver COMPOSED (anchor: acmed/src/config.rs `read_cnf` + `get_cnf_path`):
theorems about Model/ConfigGlob.lean = `Config.readCnf` with `resolve := Glob.resolve` over the listing of the
directory tree, canonicalisation = the listing's link resolution, for all listings, contents, main paths and fuels.
Props/C14 is about any resolver, Props/C14Glob about the resolver alone; here the two models meet.
-/
import AcmedVerif.Lemmas.ConfigGlob
import AcmedVerif.Props.C14
import AcmedVerif.Props.C14Glob

namespace AcmedVerif.Props.C14Compose
open AcmedVerif.Config AcmedVerif.ConfigGlob AcmedVerif.Spec.C14
open AcmedVerif.Glob (Str Listing validName)
open AcmedVerif.Spec.C14Glob (inDir)
open AcmedVerif.Props.C14 AcmedVerif.Props.C14Glob

/-- The directory text of the composed model is the one the theorems of Props/C14Glob are about. -/
theorem dirText_eq_absDir (cs : Loc) : dirText cs = Glob.absDir cs := rfl

theorem surface_ok {α : Type} (cs : Contents) (r : Except Err α) (x : α) (h : surface cs r = .ok x) : r = .ok x := by
  revert h
  fun_cases surface cs r with
  | case1 | case2 => exact nofun
  | case3 => exact id

theorem load_ok_raw {L : Listing} {cs : Contents} {gfuel : Nat} {mainPath : Str} {cfg : Config} {order : List Path}
    (h : loadTreeGlobOrder L cs gfuel mainPath = .ok (cfg, order)) :
    ∃ cfg0, readCnf (files cs) (resolveIds L cs gfuel) (loadFuel (files cs)) 0 (idOfPath L cs mainPath) [] = .ok (cfg0, order) ∧
      cfg = dispatchGlobalEnv cfg0 := by
  unfold loadTreeGlobOrder readMain readGlob at h
  cases hr : surface cs (readCnf (files cs) (resolveIds L cs gfuel) (loadFuel (files cs)) 0 (idOfPath L cs mainPath) []) with
  | error e => simp [hr] at h
  | ok r =>
    obtain ⟨cfg0, loaded⟩ := r
    simp only [hr, Except.ok.injEq, Prod.mk.injEq] at h
    obtain ⟨rfl, rfl⟩ := h
    exact ⟨cfg0, surface_ok cs _ _ hr, rfl⟩

theorem dispatch_global (cfg : Config) : (dispatchGlobalEnv cfg).global = cfg.global := by
  cases hg : cfg.global with
  | none => simp [dispatchGlobalEnv, hg]
  | some g => simp [dispatchGlobalEnv, hg]

/-- For every listing, contents, fuel and main path the composed loader answers with a configuration or with one of
the loader's errors.  The fourth answer is the model's own: the glob walk of Model/Glob ran out of fuel on some
include pattern of the contents (`globEnds = false`; a `**` through a link to an ancestor never ends in the model,
the real file system ends it with ELOOP, which `Listing.view` does not model). -/
theorem load_glob_total (L : Listing) (cs : Contents) (gfuel : Nat) (mainPath : Str) :
    (∃ r, loadTreeGlobOrder L cs gfuel mainPath = .ok r) ∨
    (∃ p, loadTreeGlobOrder L cs gfuel mainPath = .error (.fileNotFound p)) ∨
    (∃ p, loadTreeGlobOrder L cs gfuel mainPath = .error (.includeTooDeep p)) ∨
    (loadTreeGlobOrder L cs gfuel mainPath = .error .outOfFuel ∧ globEnds L cs gfuel = false) := by
  unfold loadTreeGlobOrder readMain readGlob
  cases h : readCnf (files cs) (resolveIds L cs gfuel) (loadFuel (files cs)) 0 (idOfPath L cs mainPath) [] with
  | ok r => exact .inl ⟨_, rfl⟩
  | error e =>
    rcases readCnf_error_class _ _ _ _ _ _ _ h with hk | ⟨q, hq⟩ | ⟨q, hq⟩
    · subst hk; exact absurd h (include_terminates _ _ _ _)
    · subst hq
      by_cases hqf : q = fuelId cs
      · refine .inr (.inr (.inr ⟨by simp [surface, hqf], ?_⟩))
        rcases readCnf_notFound_origin _ _ _ _ _ _ _ h with hmain | ⟨p, fc, hf, hmem⟩
        · have := idOfPath_le L cs mainPath
          rw [← hmain, hqf] at this
          exact absurd this (by simp [fuelId])
        · simp only [includePaths, List.mem_flatMap] at hmem
          obtain ⟨pat, hp, hmem⟩ := hmem
          obtain ⟨e, he, hfc, hmemcs, _⟩ := lookupFile_files_some hf
          subst hfc
          unfold resolveIds at hmem
          simp only [he] at hmem
          rcases mem_idsOfResult hmem with ⟨ps, t, _, _, hqt⟩ | hb | ⟨_, hr⟩
          · have := idOfPath_le L cs t
            rw [← hqt, hqf] at this
            exact absurd this (by simp [fuelId])
          · rw [hqf] at hb; exact absurd hb (by simp [fuelId, badPatternId])
          · rw [Bool.eq_false_iff]
            intro ht
            exact (globEnds_iff L cs gfuel).mp ht e hmemcs pat hp hr
      · exact .inr (.inl ⟨q, by simp [surface, hqf]⟩)
    · subst hq; exact .inr (.inr (.inl ⟨q, rfl⟩))

/-- With glob fuel enough for every pattern of the contents (a decidable condition on the input) the answer is a
configuration, "file not found" or "includes nested too deeply": no fuel of the model shows. -/
theorem load_glob_ends (L : Listing) (cs : Contents) (gfuel : Nat) (mainPath : Str) (hg : globEnds L cs gfuel = true) :
    loadTreeGlobOrder L cs gfuel mainPath ≠ .error .outOfFuel := by
  intro h
  rcases load_glob_total L cs gfuel mainPath with ⟨r, hr⟩ | ⟨p, hp⟩ | ⟨p, hp⟩ | ⟨_, hf⟩
  · rw [hr] at h; cases h
  · rw [hp] at h; cases h
  · rw [hp] at h; cases h
  · rw [hg] at hf; cases hf

/-- Neither fuel is a bound on behaviour: two glob fuels that are enough for the patterns of the contents give the same
answer (`resolve_fuel_irrelevant`, lifted through the loader by `readCnf_congr`), and more loader fuel than
`number of files + 1` gives the same answer (`include_fuel_irrelevant`), at any nesting level. -/
theorem load_glob_fuel_irrelevant (L : Listing) (cs : Contents) (f1 f2 : Nat) (mainPath : Str)
    (h1 : globEnds L cs f1 = true) (h2 : globEnds L cs f2 = true) :
    loadTreeGlobOrder L cs f1 mainPath = loadTreeGlobOrder L cs f2 mainPath ∧
    ∀ extra depth main, readGlob L cs f1 (loadFuel (files cs) + extra) depth main [] =
      readGlob L cs f2 (loadFuel (files cs)) depth main [] := by
  have hc := readCnf_congr (files cs) (resolveIds L cs f1) (resolveIds L cs f2) (resolveIds_fuel L cs f1 f2 h1 h2)
  refine ⟨?_, ?_⟩
  · unfold loadTreeGlobOrder readMain readGlob
    rw [hc]
  · intro extra depth main
    unfold readGlob
    rw [include_fuel_irrelevant, hc]

/-- The canonical path of the file with id `p`. -/
def locOf (cs : Contents) (p : Path) : Option Loc := (cs[p]?).map (·.1)

/-- Whatever the include patterns name - literal paths, globs, the same file under several spellings or through
links, paths that `get_cnf_path` returns twice - the files read are pairwise different entries of the contents; when
the contents list every canonical file once (`os.walk` does), pairwise different canonical files. -/
theorem each_file_once_glob (L : Listing) (cs : Contents) (gfuel : Nat) (mainPath : Str) (cfg : Config)
    (order : List Path) (h : loadTreeGlobOrder L cs gfuel mainPath = .ok (cfg, order)) :
    order.Nodup ∧ (∀ p ∈ order, p < cs.length) ∧
    ((cs.map (·.1)).Nodup → (order.map (locOf cs)).Nodup) := by
  obtain ⟨cfg0, hraw, _⟩ := load_ok_raw h
  obtain ⟨hnd, hex⟩ := (each_file_once (files cs) (resolveIds L cs gfuel)).1 _ _ _ _ _ hraw
  have hlt : ∀ p ∈ order, p < cs.length := by
    intro p hp
    have := hex p hp
    cases hf : lookupFile (files cs) p with
    | none => simp [hf] at this
    | some fc => exact (lookupFile_files_some hf).choose_spec.2.2.2
  refine ⟨hnd, hlt, ?_⟩
  intro hk
  rw [List.Nodup, List.pairwise_map]
  refine List.Pairwise.imp_of_mem ?_ hnd
  intro a b ha hb hab heq
  apply hab
  have hla := hlt a ha
  have hlb := hlt b hb
  simp only [locOf, List.getElem?_eq_getElem hla, List.getElem?_eq_getElem hlb, Option.map_some,
    Option.some.injEq] at heq
  have hla' : a < (cs.map (·.1)).length := by simpa using hla
  have hlb' : b < (cs.map (·.1)).length := by simpa using hlb
  exact (List.getElem_inj (h₀ := hla') (h₁ := hlb') hk).mp (by simpa using heq)

/-- The call-level statement of `each_file_once` for the composed resolver: a file already loaded contributes nothing
and changes nothing when it is met again within the depth limit, deeper than the limit it is an error. -/
theorem each_file_once_glob_calls (L : Listing) (cs : Contents) (gfuel : Nat) :
    (∀ fuel depth main cfg order, readGlob L cs gfuel fuel depth main [] = .ok (cfg, order) →
      order.Nodup ∧ ∀ p, p ∈ order → (lookupFile (files cs) p).isSome = true) ∧
    (∀ fuel depth path loaded fc, lookupFile (files cs) path = some fc → depth ≤ maxIncludeDepth →
      path ∈ loaded → readGlob L cs gfuel fuel depth path loaded = .ok (Config.empty, loaded)) ∧
    (∀ fuel depth path loaded fc, lookupFile (files cs) path = some fc → depth > maxIncludeDepth →
      readGlob L cs gfuel fuel depth path loaded = .error (.includeTooDeep path)) :=
  each_file_once (files cs) (resolveIds L cs gfuel)

/-- `q` is named from inside the directory `d`: some path TEXT that has `d` as its literal directory prefix (it is
`d`, or continues `d` after a separator) canonicalises - through whatever links and `..` components the text runs -
to `q`. -/
def NamedBelow (L : Listing) (d q : Loc) : Prop := ∃ t, inDir (dirText d) t = true ∧ canon L t = some q

/-- The closure of the main file `m` under "named from inside the directory of". -/
inductive BelowClosure (L : Listing) (m : Loc) : Loc → Prop
  | main : BelowClosure L m m
  | step {f q : Loc} : BelowClosure L m f → NamedBelow L f.dropLast q → BelowClosure L m q

theorem order_forall_of_step {L : Listing} {cs : Contents} {gfuel : Nat} {mainPath : Str} {cfg : Config} {order : List Path}
    (h : loadTreeGlobOrder L cs gfuel mainPath = .ok (cfg, order)) :
    ∃ m, cs[idOfPath L cs mainPath]? = some m ∧ ∀ (P : Loc × FileContent Str → Prop), P m →
      (∀ p q ep eq, cs[p]? = some ep → cs[q]? = some eq → Includes (files cs) (resolveIds L cs gfuel) p q →
        P ep → P eq) →
      ∀ p ∈ order, ∃ e, cs[p]? = some e ∧ P e := by
  obtain ⟨cfg0, hraw, _⟩ := load_ok_raw h
  obtain ⟨hdfs, _, hmain, _⟩ := sections_merged _ _ _ _ _ _ _ hraw
  obtain ⟨_, hex⟩ := (each_file_once (files cs) (resolveIds L cs gfuel)).1 _ _ _ _ _ hraw
  have hentry : ∀ p ∈ order, ∃ e, cs[p]? = some e := by
    intro p hp
    obtain ⟨fc, hf⟩ := Option.isSome_iff_exists.1 (hex p hp)
    obtain ⟨e, he, _⟩ := lookupFile_files_some hf
    exact ⟨e, he⟩
  obtain ⟨m, hm⟩ := hentry _ hmain
  refine ⟨m, hm, fun P hPm hstep p hp => ?_⟩
  obtain ⟨e, he⟩ := hentry p hp
  refine ⟨e, he, DfsList.forall_of_step (fun x => ∀ ex, cs[x]? = some ex → P ex) ?_ hdfs ?_ p hp e he⟩
  · intro p q hPp hinc eq hq
    have ⟨fc, hf, _⟩ := hinc
    obtain ⟨ep, hep, _⟩ := lookupFile_files_some hf
    exact hstep p q ep eq hep hq hinc (hPp ep hep)
  · intro t ht ex hex'
    rw [List.mem_singleton.1 ht, hm] at hex'
    cases hex'
    exact hPm

theorem include_edge (L : Listing) (hL : L.wf = true) (cs : Contents)
    (hnames : ∀ e ∈ cs, ∀ c ∈ e.1, validName c = true)
    (hrel : ∀ e ∈ cs, ∀ pat ∈ e.2.includes, pat.head? ≠ some '/') (gfuel : Nat) (p q : Path)
    (hinc : Includes (files cs) (resolveIds L cs gfuel) p q) (ep eq : Loc × FileContent Str) (hp : cs[p]? = some ep)
    (hq : cs[q]? = some eq) :
    ∃ pat ps t, ep ∈ cs ∧ pat ∈ ep.2.includes ∧
      Glob.resolve L.view gfuel (dirText ep.1.dropLast) pat = .paths ps ∧ t ∈ ps ∧
      inDir (dirText ep.1.dropLast) t = true ∧ canon L t = some eq.1 := by
  obtain ⟨fc, hf, hmem⟩ := hinc
  simp only [includePaths, List.mem_flatMap] at hmem
  obtain ⟨pat, hpat, hmem⟩ := hmem
  obtain ⟨e, he, hfc, hmemcs, _⟩ := lookupFile_files_some hf
  obtain rfl : e = ep := Option.some.inj (he.symm.trans hp)
  subst hfc
  unfold resolveIds at hmem
  simp only [hp] at hmem
  have hqlt : q < cs.length := (List.getElem?_eq_some_iff.mp hq).1
  rcases mem_idsOfResult hmem with ⟨ps, t, hr, ht, hqt⟩ | hb | ⟨hfu, _⟩
  · refine ⟨pat, ps, t, hmemcs, hpat, hr, ht, ?_, ?_⟩
    · exact relative_include_stays_in_dir L.view (Glob.view_wf L hL) e.1.dropLast
        (fun c hc => hnames e hmemcs c (List.dropLast_subset _ hc)) pat (hrel e hmemcs pat hpat) gfuel ps hr t ht
    · rw [hqt] at hq
      exact idOfPath_getElem hq
  · rw [hb] at hqlt; exact absurd hqlt (by simp [badPatternId])
  · rw [hfu] at hqlt; exact absurd hqlt (by simp [fuelId])

/-- With relative includes only: every file read is in the closure of the main file under "a path written inside the
directory of the including file, canonicalised".  W.r.t. symbolic links this is exact and no more: the TEXT of every
included path has the including file's directory as literal prefix (`relative_include_stays_in_dir`, whatever
characters the directory names contain), the FILE is what that text resolves to - inside the directory tree unless the
text runs through a link or a `..` (`relative_include_leaves_through_link`, `…_through_dotdot`). -/
theorem relative_includes_stay_below (L : Listing) (hL : L.wf = true) (cs : Contents)
    (hnames' : properKeys cs = true) (hrel' : relativeOnly cs = true)
    (gfuel : Nat) (mainPath : Str) (cfg : Config) (order : List Path)
    (h : loadTreeGlobOrder L cs gfuel mainPath = .ok (cfg, order)) :
    ∃ m, cs[idOfPath L cs mainPath]? = some m ∧ canon L mainPath = some m.1 ∧
      ∀ p ∈ order, ∃ e, cs[p]? = some e ∧ BelowClosure L m.1 e.1 := by
  obtain ⟨m, hm, hind⟩ := order_forall_of_step h
  refine ⟨m, hm, idOfPath_getElem hm, hind (fun e => BelowClosure L m.1 e.1) .main ?_⟩
  intro p q ep eq hep hq hinc hP
  obtain ⟨_, _, t, _, _, _, _, hin, hcan⟩ :=
    include_edge L hL cs ((properKeys_iff cs).mp hnames') ((relativeOnly_iff cs).mp hrel') gfuel p q hinc ep eq hep hq
  exact .step hP ⟨t, hin, hcan⟩

/-- PARTIAL (what is missing: deriving `hdd` from the patterns - no component of an include is `..` or begins with
`.`, for glob matches `..` with a component pattern that begins with `.`: `dotdotFree` is a condition on what
`Glob.resolve` RETURNS).  In a listing WITHOUT symbolic links, with
relative includes only, when no path `get_cnf_path` returns has a `..` component: the canonical path of every file
read has the main file's directory as a prefix - the files read lie in the directory tree of the main file.
`filesNotDirs` / the premise of the conclusion: a decodable file is not a directory of the listing, the main
file's directory is one.  All hypotheses are decidable conditions on the input (examples below). -/
theorem relative_includes_stay_below_nolinks_partial (L : Listing) (hL : L.wf = true) (hnl : noLinks L = true)
    (cs : Contents) (hnames' : properKeys cs = true) (hrel' : relativeOnly cs = true)
    (hfiles' : filesNotDirs L cs = true)
    (gfuel : Nat) (mainPath : Str) (cfg : Config) (order : List Path)
    (h : loadTreeGlobOrder L cs gfuel mainPath = .ok (cfg, order))
    (hdd' : dotdotFree L cs gfuel = true) :
    ∃ m, cs[idOfPath L cs mainPath]? = some m ∧
      ((L.lookup m.1.dropLast).isSome = true → ∀ p ∈ order, ∃ e, cs[p]? = some e ∧ m.1.dropLast <+: e.1) := by
  have hnames := (properKeys_iff cs).mp hnames'
  obtain ⟨m, hm, hind⟩ := order_forall_of_step h
  refine ⟨m, hm, fun hD => hind (fun e => m.1.dropLast <+: e.1) (List.dropLast_prefix _) ?_⟩
  intro p q ep eq hep hq hinc ⟨k, hk⟩
  obtain ⟨pat, ps, t, hepm, hpat, hres, ht, hin, hcan⟩ :=
    include_edge L hL cs hnames ((relativeOnly_iff cs).mp hrel') gfuel p q hinc ep eq hep hq
  have h1 : ep.1.dropLast <+: eq.1 :=
    canon_below_nolinks L hnl ep.1.dropLast (fun c hc => hnames ep hepm c (List.dropLast_subset _ hc)) t hin
      (dotdotFree_spec L cs gfuel hdd' ep hepm pat hpat ps hres t ht) eq.1 hcan
  -- the including file is no directory, the main file's directory is one: it lies properly below
  have hkne : k ≠ [] := by
    rintro rfl
    rw [List.append_nil] at hk
    rw [hk, (filesNotDirs_iff L cs).mp hfiles' ep hepm] at hD
    cases hD
  have h2 : m.1.dropLast <+: ep.1.dropLast := by
    rw [← hk, List.dropLast_append_of_ne_nil hkne]
    exact List.prefix_append _ _
  exact h2.trans h1

/-- The files are read in THE depth-first first-visit order of the include graph whose edges are, for each file, what
`Glob.resolve` returns for its patterns one after the other, in the order the glob crate's walk returns them
(`includePaths (resolveIds …)`); every `[global]` option ends with the value of the LAST file in that order that
sets it (the including file counts as earliest), every `env` key with the binding of the last file that binds it.
Instance of `sections_merged` and `later_global_wins_all` (all 15 options: `later_global_wins_full` /
`model_merges_every_option` over the regenerated merge block). -/
theorem later_global_wins_glob (L : Listing) (cs : Contents) (gfuel : Nat) (mainPath : Str) (cfg : Config)
    (order : List Path) (h : loadTreeGlobOrder L cs gfuel mainPath = .ok (cfg, order)) :
    DfsList (files cs) (resolveIds L cs gfuel) [idOfPath L cs mainPath] [] order ∧
    (∀ order', DfsList (files cs) (resolveIds L cs gfuel) [idOfPath L cs mainPath] [] order' → order' = order) ∧
    (∀ o : GlobalOpt, o ≠ .env →
      optGet o cfg.global = lastSome (order.map fun p => optGet o (ownOf (files cs) p).global)) ∧
    (∀ k, envLookup k (envOf cfg.global) =
      envLookup k (order.flatMap fun p => envOf (ownOf (files cs) p).global)) := by
  obtain ⟨cfg0, hraw, rfl⟩ := load_ok_raw h
  obtain ⟨hdfs, huniq, _⟩ := sections_merged _ _ _ _ _ _ _ hraw
  obtain ⟨hopt, henv⟩ := later_global_wins_all _ _ _ _ _ _ _ hraw
  rw [dispatch_global]
  exact ⟨hdfs, huniq, hopt, henv⟩

/-- A main file whose one include pattern resolves to two other files `a`, `b` (in this order) that include nothing:
they are read in the order `Glob.resolve` returned them, and for every option the value of `b` - the path returned
LATER - wins over that of `a`, which wins over the main file's. -/
theorem two_file_glob_winner (L : Listing) (cs : Contents) (gfuel : Nat) (mainPath : Str) (cfg : Config)
    (order : List Path) (h : loadTreeGlobOrder L cs gfuel mainPath = .ok (cfg, order))
    (fm fa fb : FileContent Str) (pat : Str) (a b : Path)
    (hm : lookupFile (files cs) (idOfPath L cs mainPath) = some fm) (hinc : fm.includes = [pat])
    (hres : resolveIds L cs gfuel (idOfPath L cs mainPath) pat = [a, b])
    (ha : lookupFile (files cs) a = some fa) (hai : fa.includes = [])
    (hb : lookupFile (files cs) b = some fb) (hbi : fb.includes = [])
    (ham : a ≠ idOfPath L cs mainPath) (hbm : b ≠ idOfPath L cs mainPath) (hab : a ≠ b) :
    order = [idOfPath L cs mainPath, a, b] ∧
    ∀ o : GlobalOpt, o ≠ .env →
      optGet o cfg.global = ((optGet o fb.global).or ((optGet o fa.global).or (optGet o fm.global))) := by
  obtain ⟨_, huniq, hopt, _⟩ := later_global_wins_glob L cs gfuel mainPath cfg order h
  generalize idOfPath L cs mainPath = m at *
  have hd : DfsList (files cs) (resolveIds L cs gfuel) [m] [] [m, a, b] := by
    have hb' : DfsList (files cs) (resolveIds L cs gfuel) [b] [m, a] [b] :=
      .visit (n₁ := []) (n₂ := []) (by simp [hbm, Ne.symm hab]) hb (by rw [includePaths, hbi]; exact .nil _) (.nil _)
    have ha' : DfsList (files cs) (resolveIds L cs gfuel) [a, b] [m] [a, b] :=
      .visit (n₁ := []) (by simpa using ham) ha (by rw [includePaths, hai]; exact .nil _) hb'
    exact .visit (visited := []) (n₁ := [a, b]) (n₂ := []) (by simp) hm
      (by rw [includePaths, hinc]; simpa [hres] using ha') (.nil _)
  have ho : order = [m, a, b] := (huniq _ hd).symm
  refine ⟨ho, fun o hoe => ?_⟩
  rw [hopt o hoe, ho]
  simp only [List.map, ownOf, hm, ha, hb, FileContent.toConfig]
  unfold lastSome
  cases optGet o fb.global <;> cases optGet o fa.global <;> cases optGet o fm.global <;> rfl

/-- The tree with every include resolved beforehand by the composed resolver - what the driver op `c14_judge_glob` hands
to `Spec.C14.holdsTree` / `Config.loadTreeOrder` - loads exactly as the composed loader does (before `surface`). -/
theorem resolved_tree_loads_alike (L : Listing) (cs : Contents) (gfuel : Nat) (fuel depth : Nat) (main : Path)
    (loaded : List Path) :
    readCnf (resolvedTree L cs gfuel) (fun _ ps => ps) fuel depth main loaded = readGlob L cs gfuel fuel depth main loaded :=
  readCnf_preresolved (files cs) (resolveIds L cs gfuel) (resolvedTree L cs gfuel) (lookupFile_resolvedTree L cs gfuel)
    fuel depth main loaded

theorem resolved_tree_length (L : Listing) (cs : Contents) (gfuel : Nat) :
    (resolvedTree L cs gfuel).length = (files cs).length := by
  rw [resolvedTree_eq_map, List.length_map]

/-- `Config.loadTreeOrder` on the resolved tree is the composed `loadTreeGlobOrder` whenever the glob fuel was
enough (otherwise the former says "file not found" where the latter says "out of fuel"). -/
theorem loadTreeOrder_resolved (L : Listing) (cs : Contents) (gfuel : Nat) (mainPath : Str)
    (hg : globEnds L cs gfuel = true) :
    loadTreeOrder (resolvedTree L cs gfuel) (idOfPath L cs mainPath) = loadTreeGlobOrder L cs gfuel mainPath := by
  have hne := load_glob_ends L cs gfuel mainPath hg
  unfold loadTreeOrder
  unfold loadTreeGlobOrder readMain at hne ⊢
  have hfu : loadFuel (resolvedTree L cs gfuel) = loadFuel (files cs) := by
    simp [loadFuel, resolved_tree_length]
  rw [hfu, resolved_tree_loads_alike]
  cases hr : readGlob L cs gfuel (loadFuel (files cs)) 0 (idOfPath L cs mainPath) [] with
  | ok r => simp [surface]
  | error e =>
    rw [hr] at hne
    cases e with
    | fileNotFound p =>
      by_cases hq : p = fuelId cs
      · simp [surface, hq] at hne
      · simp [surface, hq]
    | _ => simp [surface]

/-! ## Concrete witnesses and non-vacuity

(`decide +kernel`: the elaborator's own evaluation of these closed terms runs out of memory, the kernel's takes a second) -/

section Examples

/-- A file that only sets `renew_delay` in its `[global]` table and includes `incs`. -/
def gfile (delay : String) (incs : List String) : FileContent Str :=
  { global := some { renew_delay := some delay }, includes := incs.map String.toList }

def locS (l : List String) : Loc := l.map String.toList

/-- `/r/conf[1]/{main.toml,inc/{a.toml,b.toml}}` next to the look-alike `/r/conf1/inc/a.toml`. -/
def metaTree : Listing :=
  [ ([], openDir [("r", .dir)]),
    ([S "r"], openDir [("conf[1]", .dir), ("conf1", .dir)]),
    ([S "r", S "conf[1]"], openDir [("main.toml", .file), ("inc", .dir)]),
    ([S "r", S "conf[1]", S "inc"], openDir [("b.toml", .file), ("a.toml", .file)]),
    ([S "r", S "conf1"], openDir [("inc", .dir)]),
    ([S "r", S "conf1", S "inc"], openDir [("a.toml", .file)]) ]

def metaContents : Contents :=
  [ (locS ["r", "conf[1]", "main.toml"], gfile "8d" ["inc/*.toml"]),
    (locS ["r", "conf[1]", "inc", "a.toml"], gfile "9d" []),
    (locS ["r", "conf[1]", "inc", "b.toml"], gfile "10d" []),
    (locS ["r", "conf1", "inc", "a.toml"], gfile "77d" []) ]

/-- A directory named like a pattern, a glob that names two files: both are read, in the glob crate's order, the
look-alike sibling is not, and `b.toml` - returned later - wins.  All hypotheses of `relative_includes_stay_below`,
`…_nolinks_partial` and `two_file_glob_winner` hold of this input. -/
example :
    (loadTreeGlobOrder metaTree metaContents 100 (S "/r/conf[1]/main.toml")).toOption.map (·.2) = some [0, 1, 2] ∧
    (loadTreeGlobOrder metaTree metaContents 100 (S "/r/conf[1]/main.toml")).toOption.map
      (fun r => optGet .renew_delay r.1.global) = some (some "10d") ∧
    resolveIds metaTree metaContents 100 0 (S "inc/*.toml") = [1, 2] ∧
    metaTree.wf = true ∧ noLinks metaTree = true ∧ properKeys metaContents = true ∧
    relativeOnly metaContents = true ∧ filesNotDirs metaTree metaContents = true ∧
    dotdotFree metaTree metaContents 100 = true ∧ globEnds metaTree metaContents 100 = true ∧
    idOfPath metaTree metaContents (S "/r/conf[1]/main.toml") = 0 ∧
    (metaTree.lookup (locS ["r", "conf[1]"])).isSome = true := by
  -- the kernel evaluates `"…".toList` by encoding and decoding the literal, slowly: read the characters off it first
  unfold S
  repeat rw [String.toList_ofList]
  decide +kernel

/-- `/r/{main.toml,inc/{B.toml,a.toml}}`: the glob crate returns names in byte order, `B.toml` before `a.toml`. -/
def caseTree : Listing :=
  [ ([], openDir [("r", .dir)]),
    ([S "r"], openDir [("main.toml", .file), ("inc", .dir)]),
    ([S "r", S "inc"], openDir [("a.toml", .file), ("B.toml", .file)]) ]

def caseContents : Contents :=
  [ (locS ["r", "main.toml"], gfile "1d" ["inc/*.toml"]),
    (locS ["r", "inc", "a.toml"], gfile "2d" []),
    (locS ["r", "inc", "B.toml"], gfile "3d" []) ]

/-- The winner among the `[global]` definitions is decided by the order `Glob.resolve` returns: `a.toml` is returned
(and read) last and wins - not `B.toml`, which a case-insensitive order would put last. -/
example :
    resolveIds caseTree caseContents 100 0 (S "inc/*.toml") = [2, 1] ∧
    (loadTreeGlobOrder caseTree caseContents 100 (S "/r/main.toml")).toOption.map (·.2) = some [0, 2, 1] ∧
    (loadTreeGlobOrder caseTree caseContents 100 (S "/r/main.toml")).toOption.map
      (fun r => optGet .renew_delay r.1.global) = some (some "2d") := by
  unfold S
  repeat rw [String.toList_ofList]
  decide +kernel

/-- `get_cnf_path` returns `/d/x/x/y` twice for `**/x/**/y` (`resolve_nodup_full_is_false`); the composed loader reads
the file once: the loaded-set absorbs the repetition. -/
theorem duplicate_paths_read_once :
    resolveIds nestedTree [(locS ["d", "main.toml"], gfile "1d" ["**/x/**/y"]), (locS ["d", "x", "x", "y"], gfile "2d" [])]
      40 0 (S "**/x/**/y") = [1, 1] ∧
    (loadTreeGlobOrder nestedTree
      [(locS ["d", "main.toml"], gfile "1d" ["**/x/**/y"]), (locS ["d", "x", "x", "y"], gfile "2d" [])] 40
      (S "/d/main.toml")).toOption.map (·.2) = some [0, 1] := by
  unfold S
  repeat rw [String.toList_ofList]
  decide +kernel

/-- `/r/a/{main.toml, lnk -> /r/b}`, `/r/b/x.toml`, `/r/x.toml`. -/
def linkTree : Listing :=
  [ ([], openDir [("r", .dir)]),
    ([S "r"], openDir [("a", .dir), ("b", .dir), ("x.toml", .file)]),
    ([S "r", S "a"], openDir [("main.toml", .file), ("lnk", .link (some [S "r", S "b"]))]),
    ([S "r", S "b"], openDir [("x.toml", .file)]) ]

def linkContents (inc : String) : Contents :=
  [ (locS ["r", "a", "main.toml"], gfile "1d" [inc]),
    (locS ["r", "b", "x.toml"], gfile "2d" []),
    (locS ["r", "x.toml"], gfile "3d" []) ]

/-- A relative include whose text stays inside the including file's directory (`/r/a/lnk/x.toml`) reads a file
outside it (`/r/b/x.toml`) when the text runs through a symbolic link: "below the directory" holds of the path as
written, `BelowClosure` follows the link. -/
theorem relative_include_leaves_through_link :
    Glob.resolve linkTree.view 100 (S "/r/a") (S "lnk/x.toml") = .paths [S "/r/a/lnk/x.toml"] ∧
    inDir (S "/r/a") (S "/r/a/lnk/x.toml") = true ∧
    canon linkTree (S "/r/a/lnk/x.toml") = some (locS ["r", "b", "x.toml"]) ∧
    (loadTreeGlobOrder linkTree (linkContents "lnk/x.toml") 100 (S "/r/a/main.toml")).toOption.map (·.2) = some [0, 1] ∧
    (locS ["r", "a"]).isPrefixOf (locS ["r", "b", "x.toml"]) = false ∧
    noLinks linkTree = false := by
  unfold S
  repeat rw [String.toList_ofList]
  decide +kernel

/-- The same without any link: glob matches `..` with a component pattern that begins with `.`, so the relative
include `.*/x.toml` of `/r/a/main.toml` reads `/r/x.toml` (returned as `/r/a/../x.toml`: inside `/r/a` as written). -/
theorem relative_include_leaves_through_dotdot :
    Glob.resolve linkTree.view 100 (S "/r/a") (S ".*/x.toml") = .paths [S "/r/a/../x.toml"] ∧
    inDir (S "/r/a") (S "/r/a/../x.toml") = true ∧
    (loadTreeGlobOrder linkTree (linkContents ".*/x.toml") 100 (S "/r/a/main.toml")).toOption.map (·.2) = some [0, 2] ∧
    dotdotFree linkTree (linkContents ".*/x.toml") 100 = false := by
  unfold S
  repeat rw [String.toList_ofList]
  decide +kernel

/-- A pattern the glob crate rejects is the loader's error (reached after the earlier includes were read); an empty
glob and a literal that names nothing are not. -/
example :
    (loadTreeGlobOrder caseTree [(locS ["r", "main.toml"], gfile "1d" ["inc/a.toml", "inc/**x"]),
        (locS ["r", "inc", "a.toml"], gfile "2d" [])] 100 (S "/r/main.toml")).toOption.map (·.2) = none ∧
    resolveIds caseTree [(locS ["r", "main.toml"], gfile "1d" ["inc/a.toml", "inc/**x"]),
        (locS ["r", "inc", "a.toml"], gfile "2d" [])] 100 0 (S "inc/**x") = [3] ∧
    (loadTreeGlobOrder caseTree [(locS ["r", "main.toml"], gfile "1d" ["nothing-*.toml", "inc/absent.toml"])] 100
      (S "/r/main.toml")).toOption.map (·.2) = some [0] := by
  unfold S
  repeat rw [String.toList_ofList]
  decide +kernel

/-- The main file through another spelling (`/r/inc/../main.toml`) and a cycle back to it: read once. -/
example :
    (loadTreeGlobOrder caseTree [(locS ["r", "main.toml"], gfile "1d" ["inc/a.toml", "./inc/../main.toml"]),
        (locS ["r", "inc", "a.toml"], gfile "2d" ["../*.toml", "/r/inc/a.toml"])] 100
      (S "/r/inc/../main.toml")).toOption.map (·.2) = some [0, 1] := by
  unfold S
  repeat rw [String.toList_ofList]
  decide +kernel

end Examples

end AcmedVerif.Props.C14Compose
