/-
C04.1 `url_is_post_url` and C04.3 (the key-change object): theorems about
`Model/PostBind.lean` (every call site of `http::post`, its `data_builder`, the request on the wire),
`Model/KeyChange.lean` (`jws.rs` builders, `update_account_key`) and, for who signs the roll-over in an
attempt, `Model/Flow.lean`.

For EVERY signature primitive, directory, set of URLs supplied by the CA, payload data, account
state, request kind, nonce list (first try and retries), and for every run of `Http.post`.
-/
import AcmedVerif.Model.PostBind
import AcmedVerif.Model.KeyChange
import AcmedVerif.Lemmas.PostBind
import AcmedVerif.Lemmas.FlowKeyChange
import AcmedVerif.Props.C15
import AcmedVerif.Props.C03
import AcmedVerif.Spec.C04

namespace AcmedVerif.Props.C04Bind
open AcmedVerif AcmedVerif.Bytes AcmedVerif.Json AcmedVerif.Jose AcmedVerif.KeyChange
open AcmedVerif.PostBind

/-! ## C04.1 — the protected header names the URL the request is sent to -/

/-- A POST the trace of an attempt (or of an account synchronisation) can give rise to: some signed
exchange of the trace, SOME account (nothing ties it to the world of the trace), any nonces (one per
transmission of the call: first try and retries). -/
def Emits (sg : Signer) (dir : Dir) (u : Urls) (d : Data) (trace : List Flow.Ev) (tx : Tx) : Prop :=
  ∃ k au s r, Flow.Ev.exch k au s r ∈ trace ∧
    ∃ (a : Account) (site : Site) (nonces : List (List Char)),
      (siteOf sg dir u d a k = some site ∨
       (k = .accountProbe ∧ oldKeyProbeSite sg dir.keyChange a = some site)) ∧
      tx ∈ callTxs site nonces

/-- `url_is_post_url` for the query of the account signed by the recorded key (the first request of
a key roll-over since 1fb1c1a): sent to the account URL; header `url` = that URL, `kid` = that URL;
no inner object; the round's nonce. -/
theorem url_is_post_url_old_key_probe (sg : Signer) (dk : List Char) (a : Account) (site : Site)
    (nonces : List (List Char)) (tx : Tx)
    (hs : oldKeyProbeSite sg dk a = some site) (ht : tx ∈ callTxs site nonces) :
    tx.dest = site.url ∧ tx.body.hdr.url = tx.dest ∧ tx.inners = [] ∧
    tx.body.hdr.kid = some site.url ∧ tx.body.hdr.jwk = none ∧ tx.body.payload = [] ∧
    ∃ n ∈ nonces, tx.body.hdr.nonce = some n := by
  obtain ⟨n, hn, hb, hd, hi⟩ := mem_callTxs ht
  obtain ⟨hbind, hinn, p, _, hu, _, hsig⟩ := oldKeyProbeSite_spec hs
  obtain ⟨h1, h2, h3, _⟩ := hbind n site.url tx.body hb
  obtain ⟨h5, h6, _⟩ := hsig n site.url tx.body hb
  refine ⟨hd, by rw [h1, hd], by rw [hi, hinn], by rw [h5, hu], ?_, h6, n, hn, h2⟩
  cases hj : tx.body.hdr.jwk with
  | none => rfl
  | some x => rw [hj] at h3; cases h3

/-- **`url_is_post_url`, per call.**  For every request kind and every transmission of the call
(first try or retry): the request is sent to the call's URL; the `url` member of its protected
header is exactly that URL; every JWS object carried inside its payload (key-change inner object,
external account binding) names that URL too; and its `nonce` member is the nonce `post` handed to
the builder for this round. -/
theorem url_is_post_url (sg : Signer) (dir : Dir) (u : Urls) (d : Data) (a : Account)
    (k : Flow.ReqKind) (site : Site) (nonces : List (List Char)) (tx : Tx)
    (hs : siteOf sg dir u d a k = some site) (ht : tx ∈ callTxs site nonces) :
    tx.dest = site.url ∧ tx.body.hdr.url = tx.dest ∧ (∀ i ∈ tx.inners, i.hdr.url = tx.dest) ∧
    ∃ n ∈ nonces, tx.body.hdr.nonce = some n := by
  obtain ⟨n, hn, hb, hd, hi⟩ := mem_callTxs ht
  obtain ⟨hbind, hinn⟩ := siteOf_spec hs
  obtain ⟨h1, h2, _, _⟩ := hbind n site.url tx.body hb
  refine ⟨hd, by rw [h1, hd], ?_, n, hn, h2⟩
  intro i hm
  rw [hi] at hm
  rw [hd]
  exact hinn i hm

/-- **`url_is_post_url`, for an attempt and for the account synchronisation, retries included.**
Every POST that the trace of `Flow.attempt` (any variant, configuration, world) or of
`Flow.synchronize` can give rise to carries, in its protected header and in every inner object,
exactly the URL it is sent to.  (The proof uses only the call site, not the membership in the trace:
the statement is `url_is_post_url` or `url_is_post_url_old_key_probe` for the site of some request
kind.) -/
theorem url_is_post_url_attempt (sg : Signer) (dir : Dir) (u : Urls) (d : Data) (v : Flow.Variant)
    (cfg : Flow.Cfg) (w : Flow.World) (tx : Tx) :
    (Emits sg dir u d (Flow.attempt v cfg w).2.1 tx ∨
     Emits sg dir u d (Flow.synchronize v w).2.trace tx) →
    tx.body.hdr.url = tx.dest ∧ ∀ i ∈ tx.inners, i.hdr.url = tx.dest := by
  rintro (⟨k, _, _, _, _, a, site, nonces, hs | ⟨_, hs⟩, ht⟩ |
    ⟨k, _, _, _, _, a, site, nonces, hs | ⟨_, hs⟩, ht⟩)
  · obtain ⟨_, h2, h3, _⟩ := url_is_post_url sg dir u d a k site nonces tx hs ht
    exact ⟨h2, h3⟩
  · obtain ⟨_, h2, h3, _⟩ := url_is_post_url_old_key_probe sg dir.keyChange a site nonces tx hs ht
    exact ⟨h2, by rw [h3]; simp⟩
  · obtain ⟨_, h2, h3, _⟩ := url_is_post_url sg dir u d a k site nonces tx hs ht
    exact ⟨h2, h3⟩
  · obtain ⟨_, h2, h3, _⟩ := url_is_post_url_old_key_probe sg dir.keyChange a site nonces tx hs ht
    exact ⟨h2, by rw [h3]; simp⟩

/-- The same on a trace of `Model/Http.lean`: all transmissions of ONE call of `Http.post` (any
retry bound, nonce mode, endpoint state, answer script) are the call site's rounds, one per
`postSend` event, each for the nonce that event carries; hence each goes to the call's URL and says
so in its header. -/
theorem url_is_post_url_http (sg : Signer) (dir : Dir) (u : Urls) (d : Data) (a : Account)
    (k : Flow.ReqKind) (site : Site) (hs : siteOf sg dir u d a k = some site)
    (ut : Nat → List Char) (nt : Option Nat → List Char) (N : Nat) (mode : Http.NonceMode)
    (st : Http.State) (clientOk builderOk : Bool) (url : Nat) (hu : ut url = site.url) :
    txsOfEvs ut nt site.builder site.inners (Http.post N mode st clientOk builderOk url).evs =
      callTxs site ((Http.posts (Http.post N mode st clientOk builderOk url).evs).map
        fun p => nt p.nonce) ∧
    ∀ tx ∈ txsOfEvs ut nt site.builder site.inners (Http.post N mode st clientOk builderOk url).evs,
      tx.dest = ut url ∧ tx.body.hdr.url = tx.dest ∧ ∀ i ∈ tx.inners, i.hdr.url = tx.dest := by
  have he := txsOfEvs_post ut nt site N mode st clientOk builderOk url hu
  refine ⟨he, fun tx ht => ?_⟩
  rw [he] at ht
  obtain ⟨h1, h2, h3, _⟩ := url_is_post_url sg dir u d a k site _ tx hs ht
  exact ⟨by rw [h1, hu], h2, h3⟩

/-- The URL each kind of request is sent to (`none`: no fixed expectation is stated here). -/
def expectedUrl (dir : Dir) (u : Urls) (a : Account) : Flow.ReqKind → Option (List Char)
  | .directory => none
  | .newAccount => some dir.newAccount
  | .accountUpdate => a.ep.map (·.accountUrl)
  | .keyChange => some dir.keyChange
  | .newOrder => some dir.newOrder
  | .authz i => some (u.authz i)
  | .challengeReady c => some (u.chal c)
  | .authzPoll i => some (u.authz i)
  | .orderPoll => some u.order
  | .finalize => some u.finalize
  | .certDownload => some u.cert
  | .accountProbe => a.ep.map (·.accountUrl)

/-- Every call site posts to the URL the protocol step names: the directory's newAccount /
newOrder / keyChange URL, the stored account URL, the authorization / challenge / order / finalize /
certificate URL the CA supplied. -/
theorem site_url_table (sg : Signer) (dir : Dir) (u : Urls) (d : Data) (a : Account)
    (k : Flow.ReqKind) (site : Site) (hs : siteOf sg dir u d a k = some site) :
    expectedUrl dir u a k = some site.url := by
  cases k with
  | directory => cases hs
  | newAccount =>
    rw [(registerSite_some (show registerSite sg dir d a = some site from hs)).1]; rfl
  | accountUpdate =>
    simp only [siteOf] at hs
    cases hep : a.ep with
    | none => rw [hep] at hs; cases hs
    | some ep => rw [hep] at hs; cases hs; simp [expectedUrl, hep]
  | keyChange =>
    simp only [siteOf] at hs
    cases hp : prepare sg dir.keyChange a with
    | none => rw [hp] at hs; cases hs
    | some p =>
      rw [hp] at hs
      cases hs
      obtain ⟨_, _, _, _, _, hu, _⟩ := prepare_some hp
      simp [expectedUrl, hu]
  | newOrder => cases hs; rfl
  | authz i => cases hs; rfl
  | challengeReady c => cases hs; rfl
  | authzPoll i => cases hs; rfl
  | orderPoll => cases hs; rfl
  | finalize => cases hs; rfl
  | certDownload => cases hs; rfl
  | accountProbe =>
    simp only [siteOf] at hs
    cases hep : a.ep with
    | none => rw [hep] at hs; cases hs
    | some ep => rw [hep] at hs; cases hs; simp [expectedUrl, hep]

/-- The text on the wire: the serialised protected header of every transmission ends with
`,"url":"<the destination, JSON-escaped>"}` (`C15.header_members` for the rest of the text). -/
theorem url_member_text (sg : Signer) (dir : Dir) (u : Urls) (d : Data) (a : Account)
    (k : Flow.ReqKind) (site : Site) (nonces : List (List Char)) (tx : Tx)
    (hs : siteOf sg dir u d a k = some site) (ht : tx ∈ callTxs site nonces) :
    ∃ front, tx.body.hdr.render = front ++ ",\"url\":".toList ++ str tx.dest ++ "}".toList := by
  obtain ⟨_, h2, _, _⟩ := url_is_post_url sg dir u d a k site nonces tx hs ht
  unfold Hdr.render
  rw [C15.header_members, h2]
  exact ⟨_, rfl⟩

/-! ## C04.3 — `jwk` / `kid` by kind of request, at header level -/

def kindOf (k : Flow.ReqKind) : Spec.C04.Kind := if k = .newAccount then .newAccount else .other

/-- The header of every transmission has exactly the members the judge `Spec.C04.membersFor`
demands for its kind — `alg, jwk, nonce, url` for account creation, `alg, kid, nonce, url` for every
other request (the outer key-change request included) — and this is the authentication the flow
model's tag `Flow.authOf` records (`FlowMisc.jwk_only_where_allowed`).  The inner objects: `alg, jwk,
url` for the key change, `alg, kid, url` for the external account binding. -/
theorem header_members_by_kind (sg : Signer) (dir : Dir) (u : Urls) (d : Data) (a : Account)
    (k : Flow.ReqKind) (site : Site) (nonces : List (List Char)) (tx : Tx)
    (hs : siteOf sg dir u d a k = some site) (ht : tx ∈ callTxs site nonces) :
    tx.body.hdr.members = Spec.C04.membersFor (kindOf k) ∧
    (tx.body.hdr.jwk.isSome = true ↔ Flow.authOf k = .jwk) ∧
    (tx.body.hdr.kid.isSome = true ↔ Flow.authOf k = .kid) ∧
    (∀ i ∈ tx.inners, i.hdr.members =
      Spec.C04.membersFor (if k = .keyChange then .keyChangeInner else .eabInner)) := by
  obtain ⟨n, hn, hb, hd, hi⟩ := mem_callTxs ht
  obtain ⟨hbind, _⟩ := siteOf_spec hs
  obtain ⟨_, h2, h3, h4⟩ := hbind n site.url tx.body hb
  have hmem : tx.body.hdr.members = Spec.C04.membersFor (kindOf k) := by
    unfold Hdr.members
    rw [h2, h3, h4]
    cases k <;> first | (cases hs; done) | rfl
  have hdir : k ≠ .directory := fun hk => by rw [hk] at hs; cases hs
  refine ⟨hmem, ?_, ?_, ?_⟩
  · rw [h3, beq_iff_eq, Flow.authOf_eq_jwk]
  · rw [h4, Bool.not_eq_true', beq_eq_false_iff_ne]
    exact ⟨fun h => Flow.authOf_eq_kid h hdir, fun h hk => by rw [hk] at h; cases h⟩
  · intro i hm
    rw [hi] at hm
    cases k with
    | directory => cases hs
    | newAccount =>
      obtain ⟨_, _, hx⟩ := registerSite_some (show registerSite sg dir d a = some site from hs)
      rcases hx with ⟨_, hx⟩ | ⟨ea, e, _, he, hx⟩
      · rw [hx] at hm; cases hm
      · rw [hx] at hm
        rw [List.mem_singleton.mp hm]
        obtain ⟨_, _, _, hh, _⟩ := eabInner_some he
        rw [hh]; rfl
    | keyChange =>
      simp only [siteOf] at hs
      cases hp : prepare sg dir.keyChange a with
      | none => rw [hp] at hs; cases hs
      | some p =>
        rw [hp] at hs
        cases hs
        rw [List.mem_singleton.mp hm]
        obtain ⟨_, _, _, _, _, _, _, hin⟩ := prepare_some hp
        obtain ⟨_, _, hh, _⟩ := encodeJwk_some hin
        rw [hh]; rfl
    | accountUpdate =>
      simp only [siteOf] at hs
      cases hep : a.ep with
      | none => rw [hep] at hs; cases hs
      | some ep => rw [hep] at hs; cases hs; cases hm
    | newOrder => cases hs; cases hm
    | authz i => cases hs; cases hm
    | challengeReady c => cases hs; cases hm
    | authzPoll i => cases hs; cases hm
    | orderPoll => cases hs; cases hm
    | finalize => cases hs; cases hm
    | certDownload => cases hs; cases hm
    | accountProbe =>
      simp only [siteOf] at hs
      cases hep : a.ep with
      | none => rw [hep] at hs; cases hs
      | some ep => rw [hep] at hs; cases hs; cases hm

/-! ## C04.3 — the key-change object (RFC 8555 §7.3.5) -/

/-- **`key_change_object`.**  Whenever `update_account_key` gets as far as building its request
(`prepare … = some p`) and a transmission with nonce `n` is built (`outerFor … = some o`):

* `old` = `p.oldKey` is a PAST key of the account, the first one whose public-key hash is the hash
  the endpoint record carries (the key that endpoint was last told about: the key the CA holds);
* the INNER JWS is signed by the NEW (current) key with its algorithm; its header is exactly
  `alg` = the new key's algorithm, `jwk` = the new key's public JWK, no `kid`, NO `nonce`, `url` =
  the directory's keyChange URL; its payload is `{"account": <account URL>, "oldKey": <public JWK
  of old>}`;
* the OUTER JWS is signed by the OLD key with the old key's algorithm; its header is exactly
  `alg`, no `jwk`, `kid` = the account URL, `nonce` = `n`, `url` = the keyChange URL, to which it is
  sent; its payload is the serialised inner JWS. -/
theorem key_change_object (sg : Signer) (dirKeyChange : List Char) (a : Account) (p : Prepared)
    (n : List Char) (o : Jws) (hp : prepare sg dirKeyChange a = some p)
    (ho : outerFor sg p n = some o) :
    ∃ ep newJwk oldJwk,
      a.ep = some ep ∧ a.currentKey.jwk = some newJwk ∧ p.oldKey.jwk = some oldJwk ∧
      -- the old key
      (p.oldKey.pemHash = some ep.keyHash ∧ ∃ pre post, a.pastKeys = pre ++ p.oldKey :: post ∧
        ∀ k' ∈ pre, ∃ h', k'.pemHash = some h' ∧ h' ≠ ep.keyHash) ∧
      -- the inner object
      p.inner.hdr = ⟨a.currentKey.alg, some newJwk, none, none, dirKeyChange⟩ ∧
      SignedBy sg a.currentKey.id a.currentKey.alg p.inner ∧
      p.inner.payload = utf8 (rolloverJson ep.accountUrl oldJwk) ∧
      -- the outer object
      p.postUrl = dirKeyChange ∧
      o.hdr = ⟨p.oldKey.alg, none, some ep.accountUrl, some n, dirKeyChange⟩ ∧
      SignedBy sg p.oldKey.id p.oldKey.alg o ∧
      o.payload = utf8 p.inner.render := by
  obtain ⟨ep, oldJwk, hep, hpk, hoj, hurl, hacc, hin⟩ := prepare_some hp
  obtain ⟨newJwk, hnj, hih, hipl, hisg⟩ := encodeJwk_some hin
  unfold outerFor outerBuilder at ho
  obtain ⟨hoh, hopl, hosg⟩ := encodeKid_some ho
  obtain ⟨hh, hfirst⟩ := getPastKey_some hpk
  refine ⟨ep, newJwk, oldJwk, hep, hnj, hoj, ⟨hh, hfirst⟩, hih, hisg, hipl, hurl, ?_, hosg, hopl⟩
  rw [hoh, hacc, hurl]

/-- The texts: the inner protected header is `{"alg":"…","jwk":{…},"url":"…"}` — no `kid`, no
`nonce` member — and the inner payload is `{"account":"…","oldKey":{…}}`. -/
theorem key_change_texts (sg : Signer) (dirKeyChange : List Char) (a : Account) (p : Prepared)
    (hp : prepare sg dirKeyChange a = some p) :
    ∃ ep newJwk oldJwk, a.ep = some ep ∧ a.currentKey.jwk = some newJwk ∧
      p.oldKey.jwk = some oldJwk ∧
      p.inner.hdr.render = "{\"alg\":".toList ++ str a.currentKey.alg ++ ",\"jwk\":".toList ++ newJwk
        ++ ",\"url\":".toList ++ str dirKeyChange ++ "}".toList ∧
      p.inner.payload = utf8 ("{\"account\":".toList ++ str ep.accountUrl ++ ",\"oldKey\":".toList
        ++ oldJwk ++ "}".toList) := by
  obtain ⟨ep, oldJwk, hep, _, hoj, _, _, hin⟩ := prepare_some hp
  obtain ⟨newJwk, hnj, hih, hipl, _⟩ := encodeJwk_some hin
  refine ⟨ep, newJwk, oldJwk, hep, hnj, hoj, ?_, ?_⟩
  · unfold Hdr.render
    rw [C15.header_members, hih]
    simp only [List.append_nil, List.append_assoc]
  · rw [hipl]
    congr 1
    -- the kernel evaluates `"…".toList` in time quadratic in the literal: `String.toList_ofList`
    -- first (here and in the examples below)
    have h1 : str "account".toList = "\"account\"".toList := by
      rw [String.toList_ofList, String.toList_ofList]; decide +kernel
    have h2 : str "oldKey".toList = "\"oldKey\"".toList := by
      rw [String.toList_ofList, String.toList_ofList]; decide +kernel
    have e1 : "{\"account\":".toList = '{' :: ("\"account\"".toList ++ [':']) := by
      rw [String.toList_ofList, String.toList_ofList]; rfl
    have e2 : ",\"oldKey\":".toList = ',' :: ("\"oldKey\"".toList ++ [':']) := by
      rw [String.toList_ofList, String.toList_ofList]; rfl
    have e3 : "}".toList = ['}'] := rfl
    rw [e1, e2, e3]
    simp only [rolloverJson, obj, members, member, h1, h2, List.append_assoc, List.cons_append,
      List.nil_append]

/-- Retries of the roll-over: every transmission carries the SAME inner object (it is built once,
before `post` is called); only the outer nonce differs. -/
theorem key_change_retries_same_inner (sg : Signer) (p : Prepared) (n1 n2 : List Char) (o1 o2 : Jws)
    (h1 : outerFor sg p n1 = some o1) (h2 : outerFor sg p n2 = some o2) :
    o1.payload = o2.payload ∧ o1.hdr.url = o2.hdr.url ∧ o1.hdr.kid = o2.hdr.kid ∧
    o1.hdr.alg = o2.hdr.alg ∧ o1.signer = o2.signer ∧
    o1.hdr.nonce = some n1 ∧ o2.hdr.nonce = some n2 := by
  unfold outerFor outerBuilder at h1 h2
  obtain ⟨a1, b1, c1, _⟩ := encodeKid_some h1
  obtain ⟨a2, b2, c2, _⟩ := encodeKid_some h2
  rw [a1, a2, b1, b2, c1, c2]
  exact ⟨rfl, rfl, rfl, rfl, rfl, rfl, rfl⟩

/-- **Who signs the roll-over in an attempt** (`Model/Flow.lean`, current tree, every configuration
and world): every key-change request of the attempt is `kid`-authenticated and signed by the key
RECORDED for the endpoint before the attempt (`recKey`: the key whose hash the endpoint record
carries, i.e. `p.oldKey` above) — never by the new key.  (That this is the key the CA holds at that
moment, and that the roll-over precedes every other `kid` request, is `C11.sync_order_current`.) -/
theorem rollover_outer_signed_by_recorded_key (cfg : Flow.Cfg) (w : Flow.World) (a : Flow.Auth)
    (s : Flow.KeyId) (r : Flow.ExRes)
    (h : .exch .keyChange a s r ∈ (Flow.attempt .current cfg w).2.1) :
    a = .kid ∧ s = w.acc.recKey := by
  obtain ⟨es, he, hp⟩ := Flow.attemptM_kcBy cfg { w with trace := [] }
  have : (Flow.attempt .current cfg w).2.1 = es := by
    show (Flow.attemptM .current cfg { w with trace := [] }).2.trace = es
    rw [he]; simp
  rw [this] at h
  exact hp _ h

/-- The external account binding inside a newAccount payload: HMAC-signed with the configured MAC
key, `kid` = the configured identifier, no `jwk`, no `nonce`, `url` = the newAccount URL (to which
the request is sent), payload = the account key's public JWK. -/
theorem eab_inner_object (sg : Signer) (dir : Dir) (u : Urls) (d : Data) (a : Account) (site : Site)
    (ea : ExtAccount) (hx : d.ext = some ea) (hs : siteOf sg dir u d a .newAccount = some site) :
    ∃ e jwk, site.inners = [e] ∧ site.url = dir.newAccount ∧ a.currentKey.jwk = some jwk ∧
      e.hdr = ⟨ea.alg, none, some ea.identifier, none, dir.newAccount⟩ ∧ e.payload = utf8 jwk ∧
      SignedBy sg ea.macKey ea.alg e := by
  obtain ⟨hu, _, hi⟩ := registerSite_some (show registerSite sg dir d a = some site from hs)
  rcases hi with ⟨hn, _⟩ | ⟨ea', e, hx', he, hi⟩
  · rw [hx] at hn; cases hn
  · rw [hx] at hx'
    cases hx'
    obtain ⟨jwk, hj, _, hh, hpl, hsg⟩ := eabInner_some he
    exact ⟨e, jwk, hi, hu, hj, hh, hpl, hsg⟩

/-! ## Non-vacuity -/

/-- A signature primitive that never fails. -/
def sgEx : Signer := fun id _ msg => some [UInt8.ofNat id, UInt8.ofNat msg.length]

def newKey : Key := ⟨101, "ES256".toList, some "{\"kty\":\"EC\"}".toList, some [1]⟩
def oldKey : Key := ⟨100, "RS256".toList, some "{\"kty\":\"RSA\"}".toList, some [0]⟩
def olderKey : Key := ⟨99, "RS256".toList, some "{\"kty\":\"RSA\",\"n\":\"x\"}".toList, some [9]⟩

def acctUrl : List Char := "https://ca.test/acct/1".toList
def dirEx : Dir := ⟨"https://ca.test/new-acct".toList, "https://ca.test/new-order".toList,
  "https://ca.test/key-change".toList⟩

/-- Account whose endpoint record still carries the hash of `oldKey`. -/
def acctEx : Account := ⟨newKey, [olderKey, oldKey], some ⟨acctUrl, [0]⟩⟩

def urlsEx : Urls where
  authz := fun i => "https://ca.test/authz/".toList ++ Nat.toDigits 10 i
  chal := fun c => "https://ca.test/chal/".toList ++ Nat.toDigits 10 c
  order := "https://ca.test/order/1".toList
  finalize := "https://ca.test/order/1/finalize".toList
  cert := "https://ca.test/cert/1".toList

def dataEx : Data where
  contacts := ["mailto:a@example.org".toList]
  tos := true
  ext := some ⟨"kid-1".toList, 7, "HS256".toList⟩
  accountUpdate := utf8 "{\"contact\":[]}".toList
  newOrder := utf8 "{\"identifiers\":[]}".toList
  csr := utf8 "{\"csr\":\"AA\"}".toList

structure InnerView where
  url      : List Char
  hasJwk   : Bool
  hasNonce : Bool
  signer   : Nat
  deriving DecidableEq, Repr

/-- What the examples read off a transmission. -/
structure View where
  dest   : List Char
  url    : List Char
  kid    : Option (List Char)
  hasJwk : Bool
  signer : Nat
  inners : List InnerView
  deriving DecidableEq, Repr

def view (tx : Tx) : View :=
  ⟨tx.dest, tx.body.hdr.url, tx.body.hdr.kid, tx.body.hdr.jwk.isSome, tx.body.signer,
   tx.inners.map fun i => ⟨i.hdr.url, i.hdr.jwk.isSome, i.hdr.nonce.isSome, i.signer⟩⟩

def nonce1 : List Char := "n1".toList
def nonce2 : List Char := "n2".toList

/-- The roll-over is prepared, and two transmissions (first try, retry) go to the keyChange URL,
say so, have `kid`, are signed by key 100 (old); the inner object names the same URL, has `jwk`, no
nonce, and is signed by key 101 (new). -/
example : ((siteOf sgEx dirEx urlsEx dataEx acctEx .keyChange).map fun s =>
      (callTxs s [nonce1, nonce2]).map view) =
    some [⟨dirEx.keyChange, dirEx.keyChange, some acctUrl, false, 100,
            [⟨dirEx.keyChange, true, false, 101⟩]⟩,
          ⟨dirEx.keyChange, dirEx.keyChange, some acctUrl, false, 100,
            [⟨dirEx.keyChange, true, false, 101⟩]⟩] := by decide +kernel

/-- The old key found is the second past key (the first has another hash). -/
example : (prepare sgEx dirEx.keyChange acctEx).map (·.oldKey.id) = some 100 := by decide +kernel

/-- The inner payload names the account URL and the OLD key. -/
example : (prepare sgEx dirEx.keyChange acctEx).map (·.inner.payload) =
    some (utf8 "{\"account\":\"https://ca.test/acct/1\",\"oldKey\":{\"kty\":\"RSA\"}}".toList) := by
  unfold acctEx acctUrl
  repeat rw [String.toList_ofList]
  decide +kernel

/-- The inner protected header as text. -/
example : (prepare sgEx dirEx.keyChange acctEx).map (·.inner.hdr.render) =
    some "{\"alg\":\"ES256\",\"jwk\":{\"kty\":\"EC\"},\"url\":\"https://ca.test/key-change\"}".toList := by
  unfold dirEx
  repeat rw [String.toList_ofList]
  decide +kernel

/-- Account creation with an external account: sent to newAccount, `jwk`, no `kid`; the binding
names the same URL, has `kid` (no `jwk`), no nonce, and is signed by the MAC key 7. -/
example : ((siteOf sgEx dirEx urlsEx dataEx acctEx .newAccount).map fun s =>
      (callTxs s [nonce1]).map view) =
    some [⟨dirEx.newAccount, dirEx.newAccount, none, true, 101,
            [⟨dirEx.newAccount, false, false, 7⟩]⟩] := by decide +kernel

/-- A challenge "ready" POST and a finalize: each to its own URL. -/
example : ((siteOf sgEx dirEx urlsEx dataEx acctEx (.challengeReady 5)).map fun s =>
      (callTxs s [nonce1]).map view) =
    some [⟨"https://ca.test/chal/5".toList, "https://ca.test/chal/5".toList, some acctUrl, false, 101,
           []⟩] := by
  unfold urlsEx acctUrl
  repeat rw [String.toList_ofList]
  decide +kernel

/-- An account without endpoint record cannot build any `kid` request: nothing is sent. -/
example : ((siteOf sgEx dirEx urlsEx dataEx { acctEx with ep := none } .finalize).map fun s =>
      (callTxs s [nonce1]).length) = some 0 := by decide +kernel

/-- A world in which the CA answers the check of the account and refuses the roll-over. -/
def wEx : Flow.World :=
  ⟨[.ok (.directory true), .ok .undecodable, .acmeErr .other], [], [], ⟨none, none⟩, 0, true,
   ⟨true, true, true, true, 101, 100, 100, true⟩, []⟩

example : (Flow.attempt .current C03.cfg1 wEx).2.1 =
    [.exch .directory .none 0 (.ok (.directory true)),
     .exch .accountProbe .kid 100 (.ok .undecodable),
     .exch .keyChange .kid 100 (.acmeErr .other)] := by decide +kernel

/-- `Emits` is inhabited for a real attempt trace (the one above: `[directory, account query signed
by 100, keyChange signed by 100]`): the first transmission of that key change is one of the POSTs
`url_is_post_url_attempt` speaks about. -/
example : ∃ tx, Emits sgEx dirEx urlsEx dataEx (Flow.attempt .current C03.cfg1 wEx).2.1 tx ∧
    tx.dest = dirEx.keyChange := by
  have hp : (prepare sgEx dirEx.keyChange acctEx).isSome = true := by decide +kernel
  obtain ⟨p, hp'⟩ := Option.isSome_iff_exists.mp hp
  have hsite : siteOf sgEx dirEx urlsEx dataEx acctEx .keyChange =
      some ⟨p.postUrl, outerBuilder sgEx p, [p.inner]⟩ := by
    simp only [siteOf, hp']
  obtain ⟨_, _, _, _, _, hurl, _, _⟩ := prepare_some hp'
  have ho : (outerBuilder sgEx p nonce1 p.postUrl).isSome = true := by
    simp [outerBuilder, encodeKid, getJwsData, sgEx]
  obtain ⟨o, ho'⟩ := Option.isSome_iff_exists.mp ho
  refine ⟨⟨p.postUrl, o, [p.inner]⟩, ⟨.keyChange, .kid, 100, .acmeErr .other, by decide +kernel,
    acctEx, _, [nonce1], .inl hsite, ?_⟩, hurl⟩
  simp only [callTxs, roundTx, List.filterMap_cons, List.filterMap_nil, ho', List.mem_singleton]

end AcmedVerif.Props.C04Bind
