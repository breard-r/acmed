/-
C02 — stored files hold exactly what was written, no residue (clause C02.3, and the storage half of
C02.1/C02.2: `write_certificate`/`set_keypair`/`set_account_data` store their argument verbatim), and
C10 clause 4 — file writes are bracketed by the file hooks (`bracket`).
Theorems about `Model/Storage.lean` (`write_file`, storage.rs:194-247); lemmas in `Lemmas/Storage.lean`.

`Trunc.yes` is the current code (`.truncate(true)`); `Trunc.no` the tree before the repair.
-/
import AcmedVerif.Model.Storage
import AcmedVerif.Spec.C02
import AcmedVerif.Lemmas.Storage

namespace AcmedVerif.Props.C02
open AcmedVerif.Fs AcmedVerif.Storage

/-- **C02.3, one write, full strength.** With truncation, for every previous state of the file
system (file absent, shorter, longer, any mode or owner), every file type, settings, hook outcome,
passwd database and `chown` outcome: a write that reached `write_all` — in particular every write
reported successful — leaves exactly `data` in the file. -/
theorem write_exact_wrote (env : Env) (proc : Proc) (s : Settings) (fs : Fs) (t : FileType)
    (p : Path) (data : List UInt8)
    (h : (writeFile .yes env proc s fs t p data).wrote = true) :
    contentAt (writeFile .yes env proc s fs t p data).fs p = some data := by
  rw [writeFile_contentAt]; simp [h, overwrite_nil]

theorem write_exact (env : Env) (proc : Proc) (s : Settings) (fs : Fs) (t : FileType)
    (p : Path) (data : List UInt8)
    (h : (writeFile .yes env proc s fs t p data).result = .ok) :
    contentAt (writeFile .yes env proc s fs t p data).fs p = some data :=
  write_exact_wrote env proc s fs t p data
    (writeFile_ok_wrote (by simp [Outcome.isOk, h]))

/-- A write never touches another path (either variant, whatever its result). -/
theorem write_frame (trunc : Trunc) (env : Env) (proc : Proc) (s : Settings) (fs : Fs)
    (t : FileType) (p q : Path) (data : List UInt8) (hq : p ≠ q) :
    get (writeFile trunc env proc s fs t p data).fs q = get fs q :=
  get_writeFile_other hq

/-- A hard failure of the pre hook: the file system is untouched (no file created, nothing
truncated), the call fails, and the only event is that hook. -/
theorem failed_pre_hook_no_write (trunc : Trunc) (env : Env) (proc : Proc) (s : Settings) (fs : Fs)
    (t : FileType) (p : Path) (data : List UInt8)
    (h : env.hookOk (preHook (get fs p).isNone) = false) :
    (writeFile trunc env proc s fs t p data).fs = fs ∧
    (writeFile trunc env proc s fs t p data).result = .err .preHook ∧
    (writeFile trunc env proc s fs t p data).events = [.hook (preHook (get fs p).isNone)] := by
  rw [writeFile_pre_failed h]; exact ⟨rfl, rfl, rfl⟩

/-- Storage half of C02.1 / C02.2 / account durability: the three public writers store their
argument byte for byte. -/
theorem certificate_verbatim (env : Env) (proc : Proc) (s : Settings) (fs : Fs) (p : Path)
    (chain : List UInt8) (h : (writeCertificate .yes env proc s fs p chain).result = .ok) :
    contentAt (writeCertificate .yes env proc s fs p chain).fs p = some chain :=
  write_exact env proc s fs .certificate p chain h

theorem keypair_verbatim (env : Env) (proc : Proc) (s : Settings) (fs : Fs) (p : Path)
    (pem : List UInt8) (h : (setKeypair .yes env proc s fs p pem).result = .ok) :
    contentAt (setKeypair .yes env proc s fs p pem).fs p = some pem :=
  write_exact env proc s fs .privateKey p pem h

theorem account_verbatim (env : Env) (proc : Proc) (s : Settings) (fs : Fs) (p : Path)
    (blob : List UInt8) (h : (setAccountData .yes env proc s fs p blob).result = .ok) :
    contentAt (setAccountData .yes env proc s fs p blob).fs p = some blob :=
  write_exact env proc s fs .account p blob h

/-! ### the tree before the repair (no `O_TRUNC`) -/

/-- The full statement is FALSE without truncation (the tree before 527d672): `BBB` over 20×`A`
leaves `BBBAAAA…`. -/
theorem write_no_trunc_is_false :
    ¬ ∀ (env : Env) (proc : Proc) (s : Settings) (fs : Fs) (t : FileType) (p : Path)
        (data : List UInt8), (writeFile .no env proc s fs t p data).result = .ok →
        contentAt (writeFile .no env proc s fs t p data).fs p = some data := by
  intro h
  have := h Env.allOk { umask := 0o022, uid := 0, gid := 0 } {}
    [("c.pem".toList, { content := List.replicate 20 65, mode := 0o644, uid := 0, gid := 0 })]
    .certificate "c.pem".toList [66, 66, 66] (by decide)
  revert this
  decide

/-- What the unrepaired tree does guarantee: class K = "the file existed and was longer than the
new content"; outside K the content is exact. -/
theorem write_exact_unless_shrinking (env : Env) (proc : Proc) (s : Settings) (fs : Fs)
    (t : FileType) (p : Path) (data : List UInt8)
    (h : (writeFile .no env proc s fs t p data).wrote = true)
    (hK : ∀ f, get fs p = some f → f.content.length ≤ data.length) :
    contentAt (writeFile .no env proc s fs t p data).fs p = some data := by
  rw [writeFile_contentAt, if_pos ⟨rfl, h⟩, contentAt]
  cases hg : get fs p with
  | none => simp [overwrite_nil]
  | some f => simp [overwrite_of_le _ _ (hK f hg)]

/-- …and exactly what it leaves inside K: the new bytes followed by the old tail. -/
theorem write_no_trunc_residue (env : Env) (proc : Proc) (s : Settings) (fs : Fs)
    (t : FileType) (p : Path) (data : List UInt8) (f : File) (hf : get fs p = some f)
    (h : (writeFile .no env proc s fs t p data).wrote = true) :
    contentAt (writeFile .no env proc s fs t p data).fs p =
      some (data ++ f.content.drop data.length) := by
  rw [writeFile_contentAt, if_pos ⟨rfl, h⟩, contentAt, hf]
  rfl

/-- **C02.3 over histories, full strength (no bound on the history).** After any sequence of writes
(any mix of account, key and certificate files, paths, sizes, settings, hook and `chown` outcomes)
from any initial file system, every path holds exactly the bytes of the LAST write to it that
reached `write_all`; a path no such write touched still holds what it held at the start. -/
theorem histories_exact (proc : Proc) (fs0 : Fs) (h : List WriteOp) (p : Path) :
    contentAt (runHistory .yes proc fs0 h).1 p =
      match lastWrite (runHistory .yes proc fs0 h).2 p with
      | some d => some d
      | none => contentAt fs0 p := by
  induction h generalizing fs0 with
  | nil => rfl
  | cons op rest ih =>
    simp only [runHistory, lastWrite]
    rw [ih]
    cases lastWrite (runHistory .yes proc (step .yes proc fs0 op).fs rest).2 p with
    | some d => rfl
    | none =>
      have hw : contentAt (step .yes proc fs0 op).fs p =
          if op.path = p ∧ (step .yes proc fs0 op).wrote = true then some op.data else contentAt fs0 p :=
        (writeFile_contentAt .yes p).trans (by simp only [if_true, overwrite_nil]; rfl)
      dsimp only
      rw [hw]
      split <;> rfl

/-- The same in the words of the property: if the last write to `p` in the history was reported
successful, `p` holds exactly its bytes. -/
theorem histories_exact_ok (proc : Proc) (fs0 : Fs) (h : List WriteOp) (p : Path)
    (l : Spec.C02.Obs)
    (hl : Spec.C02.lastOn (observe (runHistory .yes proc fs0 h).2) p = some l)
    (hok : l.ok = true) :
    contentAt (runHistory .yes proc fs0 h).1 p = some l.data := by
  have := lastOn_lastWrite (tr := (runHistory .yes proc fs0 h).2) p fun e he hok => by
    obtain ⟨fs', he'⟩ := runHistory_mem he
    rw [he'] at hok ⊢
    exact writeFile_ok_wrote hok
  rw [hl] at this
  rw [histories_exact, this hok]

/-- The model with truncation satisfies the C02 judge on every history. -/
theorem model_meets_spec (proc : Proc) (fs0 : Fs) (h : List WriteOp) :
    Spec.C02.holds (observe (runHistory .yes proc fs0 h).2)
      (contents (runHistory .yes proc fs0 h).1) = true := by
  unfold Spec.C02.holds
  rw [List.all_eq_true]
  intro o _
  split
  · next l hl =>
    cases hok : l.ok with
    | false => rfl
    | true =>
      rw [lookup_contents, histories_exact_ok proc fs0 h o.path l hl hok]
      simp
  · rfl

/-- …and the judge rejects the unrepaired model on the witness history. -/
theorem spec_rejects_no_trunc :
    ∃ (proc : Proc) (fs0 : Fs) (h : List WriteOp),
      Spec.C02.holds (observe (runHistory .no proc fs0 h).2)
        (contents (runHistory .no proc fs0 h).1) = false :=
  ⟨{ umask := 0o022, uid := 0, gid := 0 }, [],
   [{ ftype := .certificate, path := "c.pem".toList, data := List.replicate 20 65, settings := {},
      env := Env.allOk },
    { ftype := .certificate, path := "c.pem".toList, data := [66, 66, 66], settings := {},
      env := Env.allOk }], by decide⟩

/-! ### C10 clause 4: bracketing -/

/-- Which pair of hooks: create iff the file was absent when `write_file` was entered. -/
theorem bracket_kind (fs : Fs) (p : Path) :
    (get fs p = none → preHook (get fs p).isNone = .filePreCreate ∧
                        postHook (get fs p).isNone = .filePostCreate) ∧
    (get fs p ≠ none → preHook (get fs p).isNone = .filePreEdit ∧
                        postHook (get fs p).isNone = .filePostEdit) := by
  cases get fs p <;> simp [preHook, postHook]

/-- **C10.4.** Every call starts with the pre hook of the right kind; on success the events are
`pre, …, post` with the matching post hook last, the write strictly between them and no other hook
in between; a hard failure of the pre hook means no write (and nothing else) happened; in every
case the only hook events are that pre hook, first, and possibly the matching post hook, last. -/
theorem bracket (trunc : Trunc) (env : Env) (proc : Proc) (s : Settings) (fs : Fs)
    (t : FileType) (p : Path) (data : List UInt8) :
    (writeFile trunc env proc s fs t p data).events.head? = some (.hook (preHook (get fs p).isNone)) ∧
    ((writeFile trunc env proc s fs t p data).result = .ok →
      ∃ mid, (writeFile trunc env proc s fs t p data).events =
          [.hook (preHook (get fs p).isNone)] ++ mid ++ [.hook (postHook (get fs p).isNone)] ∧
        Event.written ∈ mid ∧ ∀ e ∈ mid, Spec.C02.isHook e = false) ∧
    (env.hookOk (preHook (get fs p).isNone) = false →
      Event.written ∉ (writeFile trunc env proc s fs t p data).events ∧
      (writeFile trunc env proc s fs t p data).fs = fs) ∧
    Spec.C02.bracketHolds (get fs p).isSome (env.hookOk (preHook (get fs p).isNone))
      (writeFile trunc env proc s fs t p data).isOk
      (writeFile trunc env proc s fs t p data).events = true := by
  cases h : env.hookOk (preHook (get fs p).isNone) with
  | false =>
    rw [writeFile_pre_failed h]
    refine ⟨rfl, nofun, fun _ => ⟨by simp, rfl⟩, ?_⟩
    cases get fs p <;> rfl
  | true =>
    -- the events are a concrete list once `set_owner`'s decision is known
    rw [writeFile_passed h]
    refine ⟨rfl, ?_, nofun, ?_⟩
    · cases ownerIds env s t with
      | error e => nofun
      | ok ids =>
        refine fun _ => ⟨.opened :: .written :: chownEvents ids, rfl,
          List.mem_cons_of_mem _ List.mem_cons_self, ?_⟩
        cases ids <;> simp [chownEvents, Spec.C02.isHook]
    · cases ownerIds env s t with
      | error e => cases get fs p <;> rfl
      | ok ids =>
        cases ids <;> cases env.hookOk (postHook (get fs p).isNone) <;> cases get fs p <;> rfl

/-- A successful write over a longer file, with a named owner, exists. -/
example :
    let env := Env.ofTables true true true true [("acme".toList, 1000)] [] true
    let fs : Fs := [("k.pem".toList, { content := List.replicate 20 65, mode := 0o600, uid := 0, gid := 0 })]
    (writeFile .yes env { umask := 0o022, uid := 0, gid := 0 }
      { pkUser := some "acme".toList } fs .privateKey "k.pem".toList [66, 66, 66]).result = .ok := by
  decide

/-- The shrinking class of `write_exact_unless_shrinking` is not everything: a growing rewrite. -/
example :
    (writeFile .no Env.allOk { umask := 0o022, uid := 0, gid := 0 } {}
      [("a.bin".toList, { content := [1, 2], mode := 0o600, uid := 0, gid := 0 })]
      .account "a.bin".toList [7, 8, 9]).wrote = true := by
  decide

end AcmedVerif.Props.C02
