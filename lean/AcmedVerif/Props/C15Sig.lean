/-
C15 — signature lengths: the table of the judge agrees with the model's ECDSA encoder, with the
judge C04 applies to real JWS, and is total on the algorithms the code can produce (Gen/Tables).
-/
import AcmedVerif.Spec.C15Sig
import AcmedVerif.Spec.C04
import AcmedVerif.Lemmas.Jose
import AcmedVerif.Gen.Tables

namespace AcmedVerif.Props.C15Sig
open AcmedVerif AcmedVerif.Spec.C15

/-- Every (key type, default algorithm) pair the compiled code reports (`Gen/Tables.keyTypes`) has a
mandated length (RSA: taken at a modulus of 256 bytes; `sigLenFor` answers `some m` for every
`m ≠ 0`). -/
theorem sig_len_total :
    Gen.keyTypes.all (fun kt => (sigLenFor kt.2.1 256).isSome) = true := by decide +kernel

theorem sigEncode_length (w r s : Nat) (sig : List UInt8) (h : Jose.sigEncode w r s = some sig) :
    sig.length = 2 * w := by
  obtain ⟨a, b, ha, hb, rfl⟩ := Jose.sigEncode_eq_some_iff.1 h
  rw [List.length_append, Bytes.length_of_ofNatFixed ha, Bytes.length_of_ofNatFixed hb]; omega

/-- For the ECDSA algorithms the table is the width of the model's fixed-width encoder: whatever
`r`, `s` below `256^w`, `sigEncode w r s` has the mandated length (w = 32, 48, 66). -/
theorem ecdsa_len_is_encoder_len (alg : String) (w r s : Nat) (sig : List UInt8)
    (hw : (alg, w) ∈ [("ES256", 32), ("ES384", 48), ("ES512", 66)])
    (h : Jose.sigEncode w r s = some sig) : sigLenHolds alg 0 sig.length = true := by
  have hl : sig.length = 2 * w := sigEncode_length w r s sig h
  simp only [List.mem_cons, Prod.mk.injEq, List.mem_nil_iff, or_false] at hw
  rcases hw with ⟨rfl, rfl⟩ | ⟨rfl, rfl⟩ | ⟨rfl, rfl⟩ <;> simp [sigLenHolds, sigLenFor, hl]

/-- The table agrees with the length clause C04's judge applies to every real JWS, for every
algorithm whose length does not depend on the key. -/
theorem agrees_with_c04_judge (alg : String) (n : Nat)
    (ha : alg ∈ ["ES256", "ES384", "ES512", "Ed25519", "Ed448"]) :
    sigLenHolds alg 0 n = Spec.C04.sigLenOk alg n := by
  simp only [List.mem_cons, List.mem_nil_iff, or_false] at ha
  rcases ha with rfl | rfl | rfl | rfl | rfl <;>
    simp only [sigLenHolds, sigLenFor, Spec.C04.sigLenOk, Option.some_beq_some] <;>
    exact BEq.comm

/-- RSA: exactly the modulus size, nothing else. -/
theorem rsa_len_is_modulus (m n : Nat) (hm : m ≠ 0) : sigLenHolds "RS256" m n = decide (n = m) := by
  simp only [sigLenHolds, sigLenFor, hm, if_false, Option.some_beq_some]
  exact BEq.comm

/-- An algorithm outside the table (here `HS256`, which C04's judge knows) has no mandated length:
the judge refuses every signature for it. -/
theorem unknown_alg_refused (n : Nat) : sigLenHolds "HS256" 256 n = false := by
  simp [sigLenHolds, sigLenFor]

example : sigLenHolds "ES512" 0 132 = true ∧ sigLenHolds "ES512" 0 131 = false ∧
    sigLenHolds "RS256" 512 512 = true ∧ sigLenHolds "RS256" 512 256 = false ∧
    sigLenHolds "Ed448" 0 114 = true := by decide +kernel

end AcmedVerif.Props.C15Sig
