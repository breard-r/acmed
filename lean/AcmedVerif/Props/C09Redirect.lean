/-
C09 / C04 — redirections.

Before commit 1dd071b the HTTP library followed redirections INSIDE one `.send()`: after the single
pass through the limiter, one request per redirection of the chain went out unlimited (C09), and a
307 / 308 answer to a POST made the library send the same signed body — same nonce, protected `url`
of the old location — to the new location (C04).  The models equate one `.send()` with one request;
this file ties that equation to the source and proves what follows from it:

* `one_send_is_one_request`, `every_send_has_its_own_admission`, `senders_only_in_http_layer` tie
  that equation to the CURRENT source (`Gen/Senders.lean`, regenerated on every run): the client is
  built in one place, with the no-redirect policy; every `.send()` of `acmed/src` sits in `http.rs`
  and has its own unconditional `rate_limit(endpoint).await` before it in the loop body it is in;
* `redirects_are_limited`, `every_run_passes_judge`: in the model of the repaired code (`get` follows
  redirections itself, `Model/Http.lean` `getLoop`) every request of a redirect chain has its own
  admission, so the requests of ANY run — any script, any redirections — pass `Spec.C09.holds`;
* `redirect_chain_bounded`, `endless_chain_ends`: a `get` sends at most `DEFAULT_HTTP_MAX_REDIRECT`
  requests and an endless chain ends with an error;
* `post_never_resent`, `post_round_one_request`, `post_pairs_delivered_once`: apart from the nonce
  fetch (a `get`), a round of `post` puts one request on the wire whatever the answer, always to the
  call's URL; no nonce is carried twice;
* `old_redirects_exceed_limit`, `old_post_resent_same_nonce`: the behaviour before the repair
  (`Model/HttpRedirOld.lean`) fails both.
-/
import AcmedVerif.Model.HttpRedirOld
import AcmedVerif.Lemmas.HttpRedirect
import AcmedVerif.Props.C08
import AcmedVerif.Props.C09Judge
import AcmedVerif.Spec.C04
import AcmedVerif.Gen.Senders

namespace AcmedVerif.Props.C09Redirect
open AcmedVerif.Http
open AcmedVerif.HttpRedirect
open AcmedVerif.HttpRedirOld
open AcmedVerif.Judge09

/-! ## The tie to the source -/

/-- **One `.send()` is one request.**  The client every sending function uses comes from
`get_client`, the only place of `acmed/src` where a client is built, and `get_client` sets
`.redirect(Policy::none())`: the library never sends a second request by itself.  (`false` when the
call is missing — the code before 1dd071b.) -/
theorem one_send_is_one_request :
    Gen.clientFollowsRedirects = false ∧
    Gen.clientBuilders = ["http::get_client"] ∧
    Gen.sendingFns.all (fun f => Gen.clientOf.lookup f == some true) = true := by decide +kernel

/-- **Every `.send()` has its own pass through the limiter**, on every loop iteration: in the
innermost loop body (or function body) that contains it, an unconditional
`rate_limit(endpoint).await` stands between the previous `.send()` (or the top of the body) and it.
The sites are exactly the sending functions of `Props/C09Serial`. -/
theorem every_send_has_its_own_admission :
    Gen.sendSites ≠ [] ∧
    Gen.sendSites.all (fun s => s.2.1) = true ∧
    (Gen.sendSites.map (·.1)).all (fun f => Gen.sendingFns.contains f) = true ∧
    Gen.sendingFns.all (fun f => (Gen.sendSites.map (·.1)).contains f) = true := by decide +kernel

/-- No other file of `acmed/src` sends a request or builds a client. -/
theorem senders_only_in_http_layer : Gen.senderFiles = ["http.rs"] := by decide +kernel

/-- `get` can make a request at all. -/
theorem redirect_bound_positive : 0 < Gen.DEFAULT_HTTP_MAX_REDIRECT := by decide +kernel

/-! ## (a) every request of a redirect chain is limited -/

/-- In the trace of `get` — for every script, i.e. whatever redirections the server answers, every
start URL, every bound — every request is immediately preceded by its own pass through the
limiter. -/
theorem redirects_are_limited (fuel u : Nat) (st : State) (pre suf : List Ev) (e : Ev)
    (he : e.isSend = true) (h : (getLoop fuel u st).evs = pre ++ e :: suf) :
    ∃ pre', pre = pre' ++ [.admit] :=
  (getLoop_quiet .take fuel u st).admit_before_send he h

/-- The same for any sequence of `get` / `post` / poll calls (`Props/C08` `every_path_limited`): the
stamps of the requests are distinct admissions of the limiter, in order. -/
theorem send_instants_are_admissions (K N : Nat) (mode : NonceMode) (st : State) (calls : List Call)
    (as : List Nat) :
    (sendInstants as (runCalls K N mode st calls).2.2).Sublist as :=
  sendInstants_sublist as _ (C08.every_path_limited_bool K N mode st calls)

/-- **Every run passes the judge.**  For every limit set with the longest period first, every run of
the limiter (any number of passes, any monotone clock readings) and every sequence of calls on the
endpoint with any server script — any redirections, retries, polls, nonce fetches: ANY observation
`ev` that brackets the admission instants under which the requests went out is accepted by
`Spec.C09.holds`.  (`window_safe` speaks about all admissions; the requests are a sublist.) -/
theorem every_run_passes_judge (limits : List Limiter.Limit) (hm : Limiter.HeadMax limits)
    (rs : List Limiter.Readings) (hwf : Limiter.wfReadings limits.length rs)
    (hmono : Limiter.monoFrom 0 (Limiter.flatReadings rs))
    (K N : Nat) (mode : NonceMode) (st : State) (calls : List Call)
    (ev : List (Nat × Nat))
    (hb : Brackets ev
      (sendInstants (Limiter.run (Limiter.init limits) rs).hist (runCalls K N mode st calls).2.2)) :
    Spec.C09.holds limits ev = true := by
  have hsub := send_instants_are_admissions K N mode st calls
    (Limiter.run (Limiter.init limits) rs).hist
  apply C09Judge.holds_of_window limits ev _ hb
  · exact List.Pairwise.sublist hsub (C09Judge.hist_sorted limits rs hmono)
  · intro lim hl t
    exact Nat.le_trans (hsub.filter _).length_le
      (C09.window_safe limits hm rs hwf hmono lim hl t)

/-! ## (b) the chain is bounded -/

/-- A `get` with `fuel` iterations puts at most `fuel` requests on the wire. -/
theorem redirect_chain_bounded_gen (fuel u : Nat) (st : State) :
    sends (getLoop fuel u st).evs ≤ fuel := (getLoop_sends fuel u st).1

/-- With the constant of `main.rs`: at most `DEFAULT_HTTP_MAX_REDIRECT` requests, whatever the
server answers; each consumed answer answered one of them. -/
theorem redirect_chain_bounded (st : State) (clientOk : Bool) (u : Nat) :
    sends (get st clientOk u).evs ≤ Gen.DEFAULT_HTTP_MAX_REDIRECT ∧
    (recvd (get st clientOk u).evs).length ≤ sends (get st clientOk u).evs := by
  cases clientOk
  · exact ⟨Nat.zero_le _, Nat.le_refl 0⟩
  · exact getLoop_sends _ _ _

/-- A server that redirects for ever: after exactly `fuel` requests the call ends with the error
"too many redirections" — it does not go on. -/
theorem endless_chain_ends (fuel : Nat) :
    ∀ (u : Nat) (st : State),
      (∀ a ∈ st.script.take fuel,
        a.delivered = true ∧ a.nonce ≠ .invalid ∧ ∃ u' k, a.redir = .to u' k) →
      fuel ≤ st.script.length →
      (getLoop fuel u st).res = .err .tooManyRedirects ∧ sends (getLoop fuel u st).evs = fuel := by
  intro u st
  refine getLoop_induct (motive := fun fuel _ st o => (∀ a ∈ st.script.take fuel,
      a.delivered = true ∧ a.nonce ≠ .invalid ∧ ∃ u' k, a.redir = .to u' k) →
      fuel ≤ st.script.length → o.res = .err .tooManyRedirects ∧ sends o.evs = fuel)
    (fun _ _ _ _ => ⟨rfl, rfl⟩) ?_ ?_ ?_ fuel u st
  · intro fuel _ st hs _ hlen
    rw [hs] at hlen; exact absurd hlen (Nat.not_succ_le_zero _)
  · intro fuel _ st a rest _ hs hf _ hall _
    rw [hs] at hall
    obtain ⟨hd, hn, u', k, hr⟩ := hall a List.mem_cons_self
    rcases hf with h | h | h
    · rw [hd] at h; cases h
    · exact absurd h hn
    · exact absurd hr (h u' k)
  · intro fuel _ st a rest _ _ o hs _ _ _ ih hall hlen
    rw [hs] at hall hlen
    have := ih (fun x hx => hall x (List.mem_cons_of_mem _ hx)) (Nat.le_of_succ_le_succ hlen)
    exact ⟨this.1, by rw [sends_append, this.2]; exact Nat.add_comm 1 fuel⟩

/-! ## (c) a POST is never sent again by anybody but the retry loop -/

/-- One round of `post`, its nonce preparation apart (that is a `get`, see (a) and (b)), puts at
most one request on the wire and reads at most one answer — for EVERY answer, a 301 / 302 / 303 /
307 / 308 included (`Answer.redir` is not looked at). -/
theorem post_round_one_request (mode : NonceMode) (builderOk : Bool) (url i : Nat) (st : State) :
    sends (transmit mode builderOk url i st).2.2 ≤ 1 ∧
    (recvd (transmit mode builderOk url i st).2.2).length ≤
      sends (transmit mode builderOk url i st).2.2 := by
  rcases transmit_cases mode builderOk url i st with ⟨-, ht⟩ | ⟨sent, st1, -, ⟨-, ht⟩ | ⟨-, -, ht⟩ |
    ⟨-, a, rest, -, ht⟩⟩ <;> rw [ht]
  · exact ⟨Nat.zero_le 1, Nat.le_refl 0⟩
  · exact ⟨Nat.zero_le 1, Nat.le_refl 0⟩
  · exact ⟨Nat.le_refl 1, Nat.zero_le 1⟩
  · split <;> exact ⟨Nat.le_refl 1, Nat.le_refl 1⟩

/-- To `post` a redirection is an error answer: never a success … -/
theorem redirect_is_no_success (a : Answer) (h3 : a.ok2xx = false) : a.verdict ≠ .success := by
  intro h
  have := (C08.verdict_success_iff a).mp h
  rw [h3] at this
  exact absurd this.2.1 (by decide +kernel)

/-- … and the verdict does not depend on the `Location` at all. -/
theorem verdict_ignores_location (a : Answer) (r : Redir) :
    ({ a with redir := r } : Answer).verdict = a.verdict := rfl

/-- **Never re-sent.**  All POST transmissions of one call go to the call's URL — none to a
`Location` —, each is preceded by its own pass through the limiter, and no answer is consumed
without a transmission of its own. -/
theorem post_never_resent (N : Nat) (mode : NonceMode) (st : State) (clientOk builderOk : Bool)
    (url : Nat) :
    (∀ p ∈ posts (post N mode st clientOk builderOk url).evs, p.url = url) ∧
    limited (post N mode st clientOk builderOk url).evs = true ∧
    (postAnswers (post N mode st clientOk builderOk url).evs).length ≤
      (posts (post N mode st clientOk builderOk url).evs).length := by
  refine ⟨(C08.retry_identical_but_nonce N mode st clientOk builderOk url).1,
    (post_piece N mode st clientOk builderOk url).lim, ?_⟩
  cases clientOk
  · simp [post_clientFail]
  · exact (post_run N mode st builderOk url).answers_le

/-- **A nonce / body pair is delivered at most once** (the nonce clause of C04, `Props/C08`
`nonce_fresh`, on the model with redirections): when the server never issues the same nonce twice,
then over ANY sequence of calls and ANY script — redirect answers to GETs and POSTs included — no
two POST transmissions carry the same nonce, each carries one, and it was issued before. -/
theorem post_pairs_delivered_once (K N : Nat) (st : State) (calls : List Call)
    (hd : (st.nonce.toList ++ st.script.filterMap Answer.issued).Nodup) :
    (postNonces (runCalls K N .take st calls).2.2).Nodup ∧
    (∀ p ∈ posts (runCalls K N .take st calls).2.2, p.nonce ≠ none) ∧
    ∀ pre suf u n r, (runCalls K N .take st calls).2.2 = pre ++ .postSend u n r :: suf →
      ∃ m, n = some m ∧ m ∈ st.nonce.toList ++ issuedBy pre :=
  C08.nonce_fresh K N st calls hd

/-! ## (d) the behaviour before the repair -/

private def rd (n : NonceHdr) (u : Nat) (keep : Bool) : Answer :=
  ⟨true, false, n, .notJson, .to u keep⟩
private def ok200 (n : NonceHdr) (p : Nat) : Answer := ⟨true, true, n, .payload p, .no⟩

/-- The directory answers 302 twice, then 200. -/
def exChain : State := ⟨none, [rd .absent 1 false, rd .absent 2 false, ok200 (.valid 7) 0], 9⟩

/-- **Before the repair the limit was exceeded.**  Limit 1 per window of any length `p > 0`; the
limiter admits the call at `t`.  The library follows the two redirections inside the one `.send()`:
three requests go out under the one admission, and the exact judge rejects.  (Observed on the real
code: 6 GETs within 15 ms under "1 per 6 s".) -/
theorem old_redirects_exceed_limit (p t : Nat) (hp : 0 < p) (later : List Nat) :
    limited (getOld exChain true 0).evs = false ∧
    sends (getOld exChain true 0).evs = 3 ∧
    sendInstants (t :: later) (getOld exChain true 0).evs = [t, t, t] ∧
    Spec.C09.holds [⟨1, p⟩] (exact [t, t, t]) = false := by
  refine ⟨by decide +kernel, by decide +kernel, rfl, ?_⟩
  have hb : Spec.C09.bracketOk ⟨1, p⟩ (exact [t, t, t]) = false :=
    (bracketOk_false_iff _ _).mpr ⟨0, (t, t), (t, t), rfl, rfl, by simp; omega⟩
  simp [Spec.C09.holds, hb]

/-- The repaired code on the same script: three requests, three admissions, the same result. -/
theorem new_redirects_within_limit (t0 t1 t2 : Nat) :
    limited (get exChain true 0).evs = true ∧
    sendInstants [t0, t1, t2] (get exChain true 0).evs = [t0, t1, t2] ∧
    (get exChain true 0).res = (getOld exChain true 0).res := by
  refine ⟨by decide +kernel, rfl, by decide +kernel⟩

/-- The newAccount POST (url 5) is answered 307 to location 6, which answers 201. -/
def exPost : State := ⟨some 3, [rd (.valid 4) 6 true, ok200 (.valid 8) 2], 9⟩

/-- What the mock CA records for the request the library sent to the new location: its nonce was
used before, its protected `url` is not the URL it arrived at. -/
def exResent : Spec.C04.ReqObs where
  kind := .newAccount
  flat := true
  hdrMembers := ["alg", "jwk", "nonce", "url"]
  alg := "ES256"
  keyKind := "P-256"
  urlOk := false
  nonceIssued := true
  nonceReused := true
  kidOk := true
  sigOk := true
  sigLen := 64

/-- **Before the repair a signed POST was sent twice.**  The server issues every nonce once; the
library answers the 307 by sending the same body again: two POSTs carry nonce 3, the second one to a
URL that is not the call's, and the judge of C04 rejects such a request on either count. -/
theorem old_post_resent_same_nonce :
    (exPost.nonce.toList ++ exPost.script.filterMap Answer.issued).Nodup ∧
    postNonces (postOld 10 exPost true true 5).evs = [3, 3] ∧
    ¬ (postNonces (postOld 10 exPost true true 5).evs).Nodup ∧
    (∃ q ∈ posts (postOld 10 exPost true true 5).evs, q.url ≠ 5) ∧
    limited (postOld 10 exPost true true 5).evs = false ∧
    Spec.C04.reqOk exResent = false ∧
    Spec.C04.reqOk { exResent with urlOk := true } = false ∧
    Spec.C04.reqOk { exResent with nonceReused := false } = false := by
  refine ⟨by decide, by decide, by decide, ⟨⟨6, some 3, 0⟩, by decide, by decide⟩, by decide,
    by decide, by decide, by decide⟩

/-- The repaired code on the same script: one POST, to the call's URL; the 307 is an error answer
and the second answer of the script is never asked for. -/
theorem new_post_not_resent :
    posts (post 10 .take exPost true true 5).evs = [⟨5, some 3, 0⟩] ∧
    (post 10 .take exPost true true 5).res = .err .notProblem ∧
    (post 10 .take exPost true true 5).st.script.length = 1 := by decide +kernel

/-- A 301 / 302 / 303 answer made the library send a body-less GET instead: not a second POST, but
still a request behind the limiter's back. -/
theorem old_post_redirect_302_unlimited :
    sends (postOld 10 ⟨some 3, [rd (.valid 4) 6 false, ok200 (.valid 8) 2], 9⟩ true true 5).evs = 2 ∧
    limited (postOld 10 ⟨some 3, [rd (.valid 4) 6 false, ok200 (.valid 8) 2], 9⟩ true true 5).evs
      = false := by decide +kernel

/-- Without redirections the old `get` is one iteration of the new loop, whatever its bound. -/
theorem getOld_eq_getLoop (fuel : Nat) (st : State) (u : Nat)
    (h : ∀ a ∈ st.script.head?, a.redir = .no) :
    getOld st true u = getLoop (fuel + 1) u st := by
  obtain ⟨nonce, script, nu⟩ := st
  cases script with
  | nil => rfl
  | cons a rest =>
    have hr : a.redir = .no := h a rfl
    simp only [getOld, libSend, getLoop, hr, if_true, Bool.false_eq_true, if_false]
    cases a.delivered <;> rfl

/-- Without redirections the old and the new `get` are the same function. -/
theorem getOld_eq_get_of_no_redirect (st : State) (clientOk : Bool) (u : Nat)
    (h : ∀ a ∈ st.script.head?, a.redir = .no) :
    getOld st clientOk u = Http.get st clientOk u := by
  cases clientOk
  · rfl
  · exact getOld_eq_getLoop _ st u h

/-! ## Non-vacuity -/

/-- A chain of nine redirections is followed to the end (ten requests, ten admissions) … -/
example :
    (get ⟨none, (List.range 9).map (fun i => rd .absent (i + 1) false) ++ [ok200 (.valid 7) 0], 9⟩
      true 0).res = .ok (.payload 0) := by decide +kernel
example :
    sends (get ⟨none, (List.range 9).map (fun i => rd .absent (i + 1) false) ++ [ok200 (.valid 7) 0],
      9⟩ true 0).evs = 10 := by decide +kernel

/-- … a chain of ten is not: ten requests, then "too many redirections"; the eleventh answer is
never asked for. -/
example :
    (get ⟨none, (List.range 10).map (fun i => rd .absent (i + 1) false) ++ [ok200 (.valid 7) 0], 9⟩
      true 0).res = .err .tooManyRedirects := by decide +kernel
example :
    (get ⟨none, (List.range 10).map (fun i => rd .absent (i + 1) false) ++ [ok200 (.valid 7) 0], 9⟩
      true 0).st.script.length = 1 := by decide +kernel

/-- A nonce on a 3xx answer is kept (`update_nonce` runs before the redirection is looked at); a
`Location` that does not resolve, and a 3xx answer without one, end the call. -/
example : (get ⟨none, [rd (.valid 4) 1 false, ok200 .absent 0], 9⟩ true 0).st.nonce = some 4 := by
  decide +kernel
example : (get ⟨none, [⟨true, false, .absent, .notJson, .bad⟩], 9⟩ true 0).res
    = .err .badLocation := by decide +kernel
example : (get ⟨none, [⟨true, false, .absent, .notJson, .no⟩], 9⟩ true 0).res
    = .err .status := by decide +kernel

/-- `endless_chain_ends`' hypotheses are satisfiable. -/
example : ∀ a ∈ ((List.replicate 12 (rd .absent 1 false)).take 10),
    a.delivered = true ∧ a.nonce ≠ .invalid ∧ ∃ u' k, a.redir = .to u' k := by
  intro a ha
  simp only [List.take_replicate, List.mem_replicate] at ha
  rw [ha.2]
  exact ⟨rfl, by decide +kernel, 1, false, rfl⟩

/-- `every_run_passes_judge` on a concrete run: limit 1 per 10, three admissions at 0, 10, 20, the
three requests of `exChain`; the exact observation brackets and is accepted. -/
example : sendInstants [0, 10, 20] (runCalls 20 10 .take exChain [.get true 0]).2.2 = [0, 10, 20] := by
  decide +kernel
example : Spec.C09.holds [⟨1, 10⟩] (exact [0, 10, 20]) = true := by decide +kernel
example : Spec.C09.holds [⟨1, 10⟩] (exact [0, 0, 0]) = false := by decide +kernel

end AcmedVerif.Props.C09Redirect
