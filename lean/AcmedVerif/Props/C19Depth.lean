/-
C19 (and C14) — recursion depth, work and result size of `get_hook_rec` / `read_cnf` are bounded by
the constants 537f12e and a9033b3 introduced; before them they were not.

Model: `Model/Config.lean` (`expandHook`, `readCnf`: the current code, with the depth tests and the
budget of visited members) and `Model/ConfigDepth.lean` (the same recursions returning what they cost:
frames on the stack, longest list held, number of calls; `Limits.code` = current code,
`Limits.v537f12e` = the code of 537f12e, `Limits.none` = the code before it); the older code as plain
functions: `OldVariants.expandHookNoLimit`, `readCnfNoLimit`, `expandHookSizeLimit`.  Constants:
`Gen/Consts.lean` (MAX_HOOK_GROUP_DEPTH, MAX_HOOK_GROUP_MEMBERS, MAX_INCLUDE_DEPTH, regenerated from
main.rs on every run; the general theorems do not depend on their values, the last section is about the
values of the current source).

Every theorem is for ALL configurations / trees, every fuel, every budget and every starting point.

The clauses of the property, by the letters the docstrings use, and where they stand (each section: helpers,
then the property theorems its heading lists): (a) frames of `get_hook_rec`, (c) its calls and the lists it
holds — one section, after the results of the twins; (b) `read_cnf`; (e) the limits add only limit errors and
change nothing below them; (d) without them depth, size and work were unbounded; last, the limits met exactly.
-/
import AcmedVerif.Model.ConfigDepth
import AcmedVerif.Model.OldVariants
import AcmedVerif.Lemmas.Config

namespace AcmedVerif.Props.C19Depth
open AcmedVerif.Config AcmedVerif.ConfigDepth AcmedVerif.OldVariants AcmedVerif.Spec.C14

/-! ## Unfolding `groupLoopD` and `expandHookD`; what the tests of the three variants evaluate to
(`*_in` / `code_out`: the budget test lets the call in / refuses it) -/

abbrev RecD := Nat → String → Except Err (List Hook × Nat) × Cost

theorem groupLoopD_nil (lim : Limits) (gname : String) (rec : RecD) (acc : List Hook) (b : Nat) (c : Cost) :
    groupLoopD lim gname rec [] acc b c = (.ok (acc, b), c) := rfl

theorem groupLoopD_error {lim : Limits} {gname : String} {rec : RecD} {n : String} {b : Nat} {e : Err}
    {cn : Cost} (h : rec b n = (.error e, cn)) (ns : List String) (acc : List Hook) (c : Cost) :
    groupLoopD lim gname rec (n :: ns) acc b c = (.error e, c.seq cn) := by
  simp only [groupLoopD, h]

theorem groupLoopD_ok {lim : Limits} {gname : String} {rec : RecD} {n : String} {b b' : Nat}
    {hs : List Hook} {cn : Cost} (h : rec b n = (.ok (hs, b'), cn)) (ns : List String)
    (acc : List Hook) (c : Cost) :
    groupLoopD lim gname rec (n :: ns) acc b c =
      if exceeded lim.resultSize (acc ++ hs).length then
        (.error (.groupTooBig gname), (c.seq cn).seq (Cost.hold (acc ++ hs).length))
      else groupLoopD lim gname rec ns (acc ++ hs) b' ((c.seq cn).seq (Cost.hold (acc ++ hs).length)) := by
  simp only [groupLoopD, h]

theorem expandHookD_hook {lim : Limits} {cfg : Config} {budget : Nat} {name : String} {h : Hook}
    (hin : (lim.visitBudget && budget == 0) = false) (hh : findHook cfg name = some h) (fuel : Nat)
    (parents : List String) :
    expandHookD lim cfg fuel parents budget name = (.ok ([h], spend lim budget), Cost.leaf 1) := by
  unfold expandHookD
  rw [if_neg (ne_true_of_eq_false hin), hh]

theorem expandHookD_too_deep {lim : Limits} {cfg : Config} {budget : Nat} {name : String} {g : Group}
    {parents : List String} (hin : (lim.visitBudget && budget == 0) = false) (hh : findHook cfg name = none)
    (hg : findGroup cfg name = some g) (hm : name ∉ parents)
    (hr : reached lim.hookGroupDepth parents.length = true) (fuel : Nat) :
    expandHookD lim cfg fuel parents budget name = (.error (.groupTooDeep name), Cost.leaf 0) := by
  unfold expandHookD
  rw [if_neg (ne_true_of_eq_false hin), hh, hg]
  exact (if_neg hm).trans (if_pos hr)

theorem expandHookD_group {lim : Limits} {cfg : Config} {budget : Nat} {name : String} {g : Group}
    {parents : List String} (hin : (lim.visitBudget && budget == 0) = false) (hh : findHook cfg name = none)
    (hg : findGroup cfg name = some g) (hm : name ∉ parents)
    (hr : reached lim.hookGroupDepth parents.length = false) (f : Nat) :
    expandHookD lim cfg (f + 1) parents budget name =
      ((groupLoopD lim name (expandHookD lim cfg f (parents ++ [name])) g.hooks []
          (spend lim budget) Cost.zero).1,
       (groupLoopD lim name (expandHookD lim cfg f (parents ++ [name])) g.hooks []
          (spend lim budget) Cost.zero).2.frame) := by
  unfold expandHookD
  rw [if_neg (ne_true_of_eq_false hin), hh, hg]
  exact (if_neg hm).trans (if_neg (by rw [hr]; exact Bool.false_ne_true))

/-- One call of `get_hook_rec`, by what it does: it fails on the spot; it returns the one hook of that
name; or it runs the group loop one level further down, in a frame of its own. -/
theorem expandHookD_cases (lim : Limits) (cfg : Config) (fuel : Nat) (parents : List String) (budget : Nat)
    (name : String) :
    (∃ e, expandHookD lim cfg fuel parents budget name = (.error e, Cost.leaf 0)) ∨
    (∃ h, (lim.visitBudget && budget == 0) = false ∧
      expandHookD lim cfg fuel parents budget name = (.ok ([h], spend lim budget), Cost.leaf 1)) ∨
    (∃ (g : Group) (f : Nat), fuel = f + 1 ∧ (lim.visitBudget && budget == 0) = false ∧
      reached lim.hookGroupDepth parents.length = false ∧
      expandHookD lim cfg fuel parents budget name =
        ((groupLoopD lim name (expandHookD lim cfg f (parents ++ [name])) g.hooks []
            (spend lim budget) Cost.zero).1,
         (groupLoopD lim name (expandHookD lim cfg f (parents ++ [name])) g.hooks []
            (spend lim budget) Cost.zero).2.frame)) := by
  cases hin : (lim.visitBudget && budget == 0) with
  | true => exact .inl ⟨_, by unfold expandHookD; exact if_pos hin⟩
  | false =>
    unfold expandHookD
    rw [if_neg (ne_true_of_eq_false hin)]
    cases findHook cfg name with
    | some h => exact .inr (.inl ⟨h, rfl, rfl⟩)
    | none =>
      cases findGroup cfg name with
      | none => exact .inl ⟨_, rfl⟩
      | some g =>
        by_cases hm : name ∈ parents
        · exact .inl ⟨_, if_pos hm⟩
        · cases hr : reached lim.hookGroupDepth parents.length with
          | true => exact .inl ⟨_, (if_neg hm).trans (if_pos rfl)⟩
          | false =>
            cases fuel with
            | zero => exact .inl ⟨_, (if_neg hm).trans (if_neg Bool.false_ne_true)⟩
            | succ f => exact .inr (.inr ⟨g, f, rfl, rfl, rfl, (if_neg hm).trans (if_neg Bool.false_ne_true)⟩)

theorem code_in (b : Nat) : (Limits.code.visitBudget && (b + 1) == 0) = false := by
  simp [Limits.code]
theorem code_out : (Limits.code.visitBudget && (0 : Nat) == 0) = true := by simp [Limits.code]
theorem code_budget_succ {b : Nat} (h : (Limits.code.visitBudget && b == 0) = false) : ∃ b', b = b' + 1 := by
  cases b with
  | zero => exact absurd code_out (by rw [h]; exact Bool.false_ne_true)
  | succ b' => exact ⟨b', rfl⟩
theorem none_in (b : Nat) : (Limits.none.visitBudget && b == 0) = false := by simp [Limits.none]
theorem v537_in (b : Nat) : (Limits.v537f12e.visitBudget && b == 0) = false := by simp [Limits.v537f12e]
theorem spend_code (b : Nat) : spend Limits.code (b + 1) = b := by simp [spend, Limits.code]
theorem spend_none (b : Nat) : spend Limits.none b = b := by simp [spend, Limits.none]
theorem spend_v537 (b : Nat) : spend Limits.v537f12e b = b := by simp [spend, Limits.v537f12e]
theorem reached_code (n : Nat) :
    reached Limits.code.hookGroupDepth n = decide (n ≥ maxHookGroupDepth) := rfl
theorem reached_v537 (n : Nat) :
    reached Limits.v537f12e.hookGroupDepth n = decide (n ≥ maxHookGroupDepth) := rfl
theorem reached_none (n : Nat) : reached Limits.none.hookGroupDepth n = false := rfl
theorem exceeded_code (n : Nat) : exceeded Limits.code.resultSize n = false := rfl
theorem exceeded_none (n : Nat) : exceeded Limits.none.resultSize n = false := rfl
theorem exceeded_v537 (n : Nat) :
    exceeded Limits.v537f12e.resultSize n = decide (n > maxHookGroupMembers) := rfl

/-! ## The twins return the models' results: `expandHookD_code_result`, `expandHookD_none_result`,
`expandHookD_v537_result` -/

theorem groupLoopD_code_result {gname : String} {recD : RecD}
    {rec : Nat → String → Except Err (List Hook × Nat)} (hrec : ∀ b n, (recD b n).1 = rec b n) :
    ∀ (ns : List String) (acc : List Hook) (b : Nat) (c : Cost),
      (groupLoopD Limits.code gname recD ns acc b c).1 = groupLoop rec ns acc b := by
  intro ns
  induction ns with
  | nil => intro acc b c; rfl
  | cons n ns ih =>
    intro acc b c
    rcases h : recD b n with ⟨r, cn⟩
    have hr : rec b n = r := by rw [← hrec b n, h]
    cases r with
    | error e => rw [groupLoopD_error h]; simp only [groupLoop, hr]
    | ok res =>
      obtain ⟨hs, b'⟩ := res
      rw [groupLoopD_ok h, exceeded_code]
      simp only [Bool.false_eq_true, if_false, groupLoop, hr]
      exact ih _ _ _

theorem expandHookD_code_result (cfg : Config) :
    ∀ fuel parents budget name,
      (expandHookD Limits.code cfg fuel parents budget name).1 = expandHook cfg fuel parents budget name := by
  intro fuel
  -- strong induction, here and below, so that the case analysis is written once and `cases fuel` comes last
  induction fuel using Nat.strongRecOn with
  | _ fuel ih =>
    intro parents budget name
    unfold expandHook
    cases budget with
    | zero => unfold expandHookD; rw [if_pos code_out]
    | succ b =>
      unfold expandHookD
      rw [if_neg (ne_true_of_eq_false (code_in b)), spend_code, reached_code]
      cases findHook cfg name with
      | some h => rfl
      | none =>
        cases findGroup cfg name with
        | none => rfl
        | some g =>
          by_cases hm : name ∈ parents
          · simp [hm]
          · by_cases hd : parents.length ≥ maxHookGroupDepth
            · simp [hm, hd]
            · simp only [hm, hd, if_false, decide_false, Bool.false_eq_true]
              cases fuel with
              | zero => rfl
              | succ f => exact groupLoopD_code_result (ih f (Nat.lt_succ_self f) (parents ++ [name])) _ _ _ _

/-- The result of a variant without budget, as the twin returns it: paired with the untouched budget. -/
def tag (b : Nat) : Except Err (List Hook) → Except Err (List Hook × Nat)
  | .ok r => .ok (r, b)
  | .error e => .error e

/-- `untag` forgets the budget again. -/
def untag : Except Err (List Hook × Nat) → Except Err (List Hook)
  | .ok (r, _) => .ok r
  | .error e => .error e

/-- What the group loop returns when it started holding `acc` and its members gave `x`. -/
def withAcc (acc : List Hook) : Except Err (List Hook) → Except Err (List Hook)
  | .ok r => .ok (acc ++ r)
  | .error e => .error e

theorem withAcc_nil (x : Except Err (List Hook)) : withAcc [] x = x := by
  cases x <;> simp [withAcc]

theorem groupLoopD_none_result {gname : String} {recD : RecD} {rec : String → Except Err (List Hook)}
    (hrec : ∀ b n, (recD b n).1 = tag b (rec n)) :
    ∀ (ns : List String) (acc : List Hook) (b : Nat) (c : Cost),
      (groupLoopD Limits.none gname recD ns acc b c).1 = tag b (withAcc acc (expandNames rec ns)) := by
  intro ns
  induction ns with
  | nil => intro acc b c; simp [groupLoopD, expandNames, withAcc, tag]
  | cons n ns ih =>
    intro acc b c
    rcases h : recD b n with ⟨r, cn⟩
    have hr : tag b (rec n) = r := by rw [← hrec b n, h]
    cases hn : rec n with
    | error e =>
      rw [hn] at hr; simp only [tag] at hr; subst hr
      rw [groupLoopD_error h]; simp only [expandNames, hn, withAcc, tag]
    | ok hs =>
      rw [hn] at hr; simp only [tag] at hr; subst hr
      rw [groupLoopD_ok h, exceeded_none]
      simp only [Bool.false_eq_true, if_false, expandNames, hn]
      rw [ih]
      cases expandNames rec ns with
      | error e => rfl
      | ok rest => simp [withAcc, tag]

theorem expandHookD_none_result (cfg : Config) :
    ∀ fuel parents budget name,
      (expandHookD Limits.none cfg fuel parents budget name).1 =
        tag budget (expandHookNoLimit cfg fuel parents name) := by
  intro fuel
  induction fuel using Nat.strongRecOn with
  | _ fuel ih =>
    intro parents budget name
    unfold expandHookD expandHookNoLimit
    rw [if_neg (ne_true_of_eq_false (none_in budget)), spend_none, reached_none]
    cases findHook cfg name with
    | some h => rfl
    | none =>
      cases findGroup cfg name with
      | none => rfl
      | some g =>
        by_cases hm : name ∈ parents
        · simp [hm, tag]
        · simp only [hm, if_false, Bool.false_eq_true]
          cases fuel with
          | zero => rfl
          | succ f => rw [groupLoopD_none_result (ih f (Nat.lt_succ_self f) (parents ++ [name])), withAcc_nil]

theorem groupLoopD_v537_result {gname : String} {recD : RecD} {rec : String → Except Err (List Hook)}
    (hrec : ∀ b n, (recD b n).1 = tag b (rec n)) :
    ∀ (ns : List String) (acc : List Hook) (b : Nat) (c : Cost),
      (groupLoopD Limits.v537f12e gname recD ns acc b c).1 = tag b (groupLoopSizeLimit gname rec ns acc) := by
  intro ns
  induction ns with
  | nil => intro acc b c; simp [groupLoopD, groupLoopSizeLimit, tag]
  | cons n ns ih =>
    intro acc b c
    rcases h : recD b n with ⟨r, cn⟩
    have hr : tag b (rec n) = r := by rw [← hrec b n, h]
    cases hn : rec n with
    | error e =>
      rw [hn] at hr; simp only [tag] at hr; subst hr
      rw [groupLoopD_error h]; simp only [groupLoopSizeLimit, hn, tag]
    | ok hs =>
      rw [hn] at hr; simp only [tag] at hr; subst hr
      rw [groupLoopD_ok h, exceeded_v537]
      simp only [groupLoopSizeLimit, hn]
      by_cases hb : (acc ++ hs).length > maxHookGroupMembers
      · rw [if_pos hb, if_pos (by simpa using hb)]; rfl
      · rw [if_neg hb, if_neg (by simpa using hb)]
        exact ih _ _ _

theorem expandHookD_v537_result (cfg : Config) :
    ∀ fuel parents budget name,
      (expandHookD Limits.v537f12e cfg fuel parents budget name).1 =
        tag budget (expandHookSizeLimit cfg fuel parents name) := by
  intro fuel
  induction fuel using Nat.strongRecOn with
  | _ fuel ih =>
    intro parents budget name
    unfold expandHookD expandHookSizeLimit
    rw [if_neg (ne_true_of_eq_false (v537_in budget)), spend_v537, reached_v537]
    cases findHook cfg name with
    | some h => rfl
    | none =>
      cases findGroup cfg name with
      | none => rfl
      | some g =>
        by_cases hm : name ∈ parents
        · simp [hm, tag]
        · by_cases hd : parents.length ≥ maxHookGroupDepth
          · simp [hm, hd, tag]
          · simp only [hm, hd, if_false, decide_false, Bool.false_eq_true]
            cases fuel with
            | zero => rfl
            | succ f => exact groupLoopD_v537_result (ih f (Nat.lt_succ_self f) (parents ++ [name])) _ _ _ _

/-! ## (a), (c) `get_hook_rec`: `hook_recursion_depth_bounded(_at)`, `hook_work_bounded`,
`getHook_work_bounded`, `startup_hook_work_bounded`, `expanded_hooks_bounded`, `getHook_len_bounded`,
`held_hooks_bounded` -/

/-- What one call of `get_hook_rec` costs when it is allowed `d` frames and handed the budget `b`. -/
def CostSpec (d b : Nat) (x : Except Err (List Hook × Nat) × Cost) : Prop :=
  x.2.depth ≤ d ∧ x.2.peak ≤ b ∧ x.2.calls ≤ b + 1 ∧
    ∀ hs b', x.1 = .ok (hs, b') → hs.length + b' ≤ b ∧ x.2.calls = b - b'

/-- The group loop of the current code, members costing as `CostSpec` says, started holding `acc` with the
budget `b` after calls that cost `c`: `B` frames and lists of `P` hooks suffice if they did so far and
cover a member. -/
theorem groupLoopD_cost {gname : String} {rec : RecD} {d : Nat} (hrec : ∀ b n, CostSpec d b (rec b n)) :
    ∀ (ns : List String) (acc : List Hook) (b : Nat) (c : Cost) (B P : Nat),
      c.depth ≤ B → d ≤ B → c.peak ≤ P → acc.length + b ≤ P →
      (groupLoopD Limits.code gname rec ns acc b c).2.depth ≤ B ∧
      (groupLoopD Limits.code gname rec ns acc b c).2.peak ≤ P ∧
      (groupLoopD Limits.code gname rec ns acc b c).2.calls ≤ c.calls + b + 1 ∧
      ∀ r b', (groupLoopD Limits.code gname rec ns acc b c).1 = .ok (r, b') →
        b' ≤ b ∧ r.length + b' ≤ acc.length + b ∧
        (groupLoopD Limits.code gname rec ns acc b c).2.calls = c.calls + (b - b') := by
  intro ns
  induction ns with
  | nil =>
    intro acc b c B P hcB _ hcP _
    refine ⟨hcB, hcP, Nat.le_trans (Nat.le_add_right _ b) (Nat.le_succ _), fun r b' h => ?_⟩
    cases h
    exact ⟨Nat.le_refl _, Nat.le_refl _, by rw [Nat.sub_self]; rfl⟩
  | cons n ns ih =>
    intro acc b c B P hcB hdB hcP haP
    obtain ⟨hd, hp, hc, hok⟩ := hrec b n
    rcases h : rec b n with ⟨r, cn⟩
    simp only [h] at hd hp hc hok
    have hbP : b ≤ P := Nat.le_trans (Nat.le_add_left b acc.length) haP
    have hsd : (c.seq cn).depth ≤ B := Nat.max_le.mpr ⟨hcB, Nat.le_trans hd hdB⟩
    have hsp : (c.seq cn).peak ≤ P := Nat.max_le.mpr ⟨hcP, Nat.le_trans hp hbP⟩
    cases r with
    | error e =>
      rw [groupLoopD_error h]
      exact ⟨hsd, hsp, by simp only [Cost.seq]; omega, fun _ _ h' => nomatch h'⟩
    | ok res =>
      obtain ⟨hs, b₁⟩ := res
      obtain ⟨hl, hcn⟩ := hok hs b₁ rfl
      rw [groupLoopD_ok h, exceeded_code, if_neg Bool.false_ne_true]
      have hL : (acc ++ hs).length + b₁ ≤ P := by rw [List.length_append]; omega
      obtain ⟨id, ip, ic, iok⟩ := ih (acc ++ hs) b₁ ((c.seq cn).seq (Cost.hold (acc ++ hs).length)) B P
        (Nat.max_le.mpr ⟨hsd, Nat.zero_le _⟩) hdB
        (Nat.max_le.mpr ⟨hsp, Nat.le_trans (Nat.le_add_right _ b₁) hL⟩) hL
      have hb₁ : b₁ ≤ b := Nat.le_trans (Nat.le_add_left _ _) hl
      refine ⟨id, ip, ?_, fun r b' h' => ?_⟩
      -- the bounds on frames and lists are cleared: with them in the context `omega` is slow on what follows
      all_goals clear hsd hsp hcB hdB hcP haP hbP hd hp hc hL id ip hok ih hrec
      · simp only [Cost.seq, Cost.hold] at ic ⊢
        omega
      · obtain ⟨h1, h2, h3⟩ := iok r b' h'
        simp only [Cost.seq, Cost.hold, List.length_append] at h2 h3 ⊢
        exact ⟨Nat.le_trans h1 hb₁, by omega, by omega⟩

theorem expandHookD_cost (cfg : Config) :
    ∀ fuel parents budget name,
      CostSpec (max 1 (maxHookGroupDepth + 1 - parents.length)) budget
        (expandHookD Limits.code cfg fuel parents budget name) := by
  intro fuel
  induction fuel using Nat.strongRecOn with
  | _ fuel ih =>
    intro parents budget name
    rcases expandHookD_cases Limits.code cfg fuel parents budget name with
      ⟨e, h⟩ | ⟨hk, hin, h⟩ | ⟨g, f, rfl, hin, hr, h⟩
    · rw [h]
      exact ⟨Nat.le_max_left _ _, Nat.zero_le _, Nat.le_add_left 1 budget, fun _ _ h' => nomatch h'⟩
    · obtain ⟨b, rfl⟩ := code_budget_succ hin
      rw [h, spend_code]
      refine ⟨Nat.le_max_left _ _, Nat.le_add_left 1 b, Nat.le_add_left 1 (b + 1), fun hs b' h' => ?_⟩
      cases h'
      exact ⟨Nat.le_of_eq (Nat.add_comm 1 b), by simp only [Cost.leaf]; omega⟩
    · obtain ⟨b, rfl⟩ := code_budget_succ hin
      have hd : parents.length < maxHookGroupDepth := by simpa [reached_code] using hr
      obtain ⟨ld, lp, lc, lok⟩ := groupLoopD_cost (gname := name) (fun b' n => by
        have := ih f (Nat.lt_succ_self f) (parents ++ [name]) b' n
        rwa [List.length_append, List.length_singleton] at this) g.hooks [] b Cost.zero
        (maxHookGroupDepth - parents.length) b (Nat.zero_le _) (by omega) (Nat.zero_le _)
        (Nat.le_of_eq (Nat.zero_add b))
      rw [h, spend_code]
      refine ⟨Nat.le_trans (by simp only [Cost.frame]; omega) (Nat.le_max_right _ _),
        Nat.le_succ_of_le lp, by simp only [Cost.frame, Cost.zero] at lc ⊢; omega, fun r b' h' => ?_⟩
      obtain ⟨h1, h2, h3⟩ := lok r b' h'
      simp only [Cost.frame, Cost.zero, List.length_nil] at h2 h3 ⊢
      exact ⟨by omega, by omega⟩

theorem hook_recursion_depth_bounded_at (cfg : Config) (fuel : Nat) (parents : List String) (budget : Nat)
    (name : String) :
    (expandHookD Limits.code cfg fuel parents budget name).2.depth ≤
      max 1 (maxHookGroupDepth + 1 - parents.length) :=
  (expandHookD_cost cfg fuel parents budget name).1

/-- **(a) `hook_recursion_depth_bounded`**: for EVERY configuration, every name, every fuel and every
budget, expanding a name from the top (`Config::get_hook`: `parents = []`) never has more than
`MAX_HOOK_GROUP_DEPTH + 1` frames of `get_hook_rec` on the stack — whatever the number of groups and
however they nest — and the function whose depth is counted returns exactly what `Config.expandHook`
returns.  (The bound is attained: `chain_at_limit`.) -/
theorem hook_recursion_depth_bounded (cfg : Config) (fuel budget : Nat) (name : String) :
    (expandHookD Limits.code cfg fuel [] budget name).1 = expandHook cfg fuel [] budget name ∧
    (expandHookD Limits.code cfg fuel [] budget name).2.depth ≤ maxHookGroupDepth + 1 := by
  have := hook_recursion_depth_bounded_at cfg fuel [] budget name
  exact ⟨expandHookD_code_result cfg fuel [] budget name, by rw [List.length_nil] at this; omega⟩

/-- **(c) `hook_work_bounded`**: for EVERY configuration, a call of `get_hook_rec` that is handed the
budget `b` enters `get_hook_rec` at most `b + 1` times in all (itself included) — exactly `b − b'`
times when it succeeds leaving `b'` — so one `Config::get_hook` costs at most
`MAX_HOOK_GROUP_MEMBERS + 1` calls, whatever the groups contain (empty groups included: compare
`sizelimit_work_exponential`).  The bound is attained (`doubling_at_budget`). -/
theorem hook_work_bounded (cfg : Config) (fuel : Nat) (parents : List String) (budget : Nat) (name : String) :
    (expandHookD Limits.code cfg fuel parents budget name).2.calls ≤ budget + 1 ∧
    (∀ r b', (expandHookD Limits.code cfg fuel parents budget name).1 = .ok (r, b') →
      b' ≤ budget ∧ (expandHookD Limits.code cfg fuel parents budget name).2.calls = budget - b') := by
  obtain ⟨_, _, hc, hok⟩ := expandHookD_cost cfg fuel parents budget name
  exact ⟨hc, fun r b' hr => by have := hok r b' hr; omega⟩

theorem getHook_work_bounded (cfg : Config) (name : String) :
    (getHookD Limits.code cfg name).2.calls ≤ maxHookGroupMembers + 1 :=
  (hook_work_bounded cfg _ [] _ name).1

def hookRefs (cfg : Config) : List String :=
  cfg.accounts.flatMap (·.hooks) ++ cfg.certificates.flatMap (·.hooks)

/-- One `get_hook` per name in `hookRefs` (every name an account or a certificate lists: the calls
`MainEventLoop::new` makes unless it stops at an error; `hookRefs` is not tied to `build` by a theorem) enters
`get_hook_rec` at most `(number of hook references) × (MAX_HOOK_GROUP_MEMBERS + 1)` times: LINEAR in the
configuration. -/
theorem startup_hook_work_bounded (cfg : Config) :
    ((hookRefs cfg).map fun n => (getHookD Limits.code cfg n).2.calls).sum ≤
      (hookRefs cfg).length * (maxHookGroupMembers + 1) := by
  induction hookRefs cfg with
  | nil => simp
  | cons n ns ih =>
    have := getHook_work_bounded cfg n
    simp only [List.map_cons, List.sum_cons, List.length_cons, Nat.succ_mul]
    omega

/-- **(c) `expanded_hooks_bounded`**: every list `get_hook_rec` returns — at every level, for every
configuration — has at most as many hooks as the budget went down: `|r| + b' ≤ b`; a group itself costs
one, so a group never denotes more than `b − 1` hooks.  Hence `Config::get_hook` never returns more
than `MAX_HOOK_GROUP_MEMBERS` hooks (`MAX_HOOK_GROUP_MEMBERS − 1` for a group). -/
theorem expanded_hooks_bounded (cfg : Config) :
    ∀ fuel parents budget name r b', expandHook cfg fuel parents budget name = .ok (r, b') →
      r.length + b' ≤ budget ∧ (findHook cfg name = none → r.length + b' + 1 ≤ budget) := by
  intro fuel parents budget name r b' h
  obtain ⟨_, k, _, hb, hl, hg⟩ := expandHook_ok_spec cfg fuel parents budget name r b' h
  exact ⟨by omega, fun hn => by have := hg hn; omega⟩

theorem getHook_len_bounded (cfg : Config) (name : String) (r : List Hook)
    (h : getHook cfg name = .ok r) : r.length ≤ maxHookGroupMembers := by
  obtain ⟨b, hb⟩ := getHook_ok h
  have := (expanded_hooks_bounded cfg _ _ _ _ _ _ hb).1
  omega

/-- **(c)**, lists held: whatever the configuration, no `Vec<Hook>` that a call of `get_hook_rec` with
budget `b` ever holds — its accumulated `ret` after any `append`, the lists its members return — is
longer than `b`; for `Config::get_hook`: `MAX_HOOK_GROUP_MEMBERS`.  (Before 537f12e: `2^n` for `n`
groups, `old_expansion_exponential`.) -/
theorem held_hooks_bounded (cfg : Config) :
    ∀ fuel parents budget name, (expandHookD Limits.code cfg fuel parents budget name).2.peak ≤ budget :=
  fun fuel parents budget name => (expandHookD_cost cfg fuel parents budget name).2.1

/-! ## (b) `read_cnf`: `readCnfD_code_result`, `readCnfD_none_result`,
`include_recursion_depth_bounded(_at)` -/

abbrev IncD := Path → List Path → Except Err (Config × List Path) × Cost

theorem includeLoopD_error {rec : IncD} {p : Path} {loaded : List Path} {e : Err} {cp : Cost}
    (h : rec p loaded = (.error e, cp)) (ps : List Path) (cfg : Config) (c : Cost) :
    includeLoopD rec (p :: ps) cfg loaded c = (.error e, c.seq cp) := by
  simp only [includeLoopD, h]

theorem includeLoopD_ok {rec : IncD} {p : Path} {loaded loaded' : List Path} {add : Config} {cp : Cost}
    (h : rec p loaded = (.ok (add, loaded'), cp)) (ps : List Path) (cfg : Config) (c : Cost) :
    includeLoopD rec (p :: ps) cfg loaded c = includeLoopD rec ps (mergeCfg cfg add) loaded' (c.seq cp) := by
  simp only [includeLoopD, h]

theorem exceeded_code_inc (n : Nat) :
    exceeded Limits.code.includeDepth n = decide (n > maxIncludeDepth) := rfl
theorem exceeded_none_inc (n : Nat) : exceeded Limits.none.includeDepth n = false := rfl

theorem includeLoopD_result {recD : IncD} {rec : Path → List Path → Except Err (Config × List Path)}
    (hrec : ∀ p l, (recD p l).1 = rec p l) :
    ∀ ps cfg loaded c, (includeLoopD recD ps cfg loaded c).1 = includeLoop rec ps cfg loaded := by
  intro ps
  induction ps with
  | nil => intro cfg loaded c; rfl
  | cons p ps ih =>
    intro cfg loaded c
    rcases h : recD p loaded with ⟨r, cp⟩
    have hr : rec p loaded = r := by rw [← hrec p loaded, h]
    cases r with
    | error e => rw [includeLoopD_error h]; simp only [includeLoop, hr]
    | ok res =>
      obtain ⟨add, loaded'⟩ := res
      rw [includeLoopD_ok h]; simp only [includeLoop, hr]
      exact ih _ _ _

theorem readCnfD_code_result {π : Type} (files : Files π) (resolve : Path → π → List Path) :
    ∀ fuel depth path loaded,
      (readCnfD Limits.code files resolve fuel depth path loaded).1 =
        readCnf files resolve fuel depth path loaded := by
  intro fuel
  induction fuel using Nat.strongRecOn with
  | _ fuel ih =>
    intro depth path loaded
    unfold readCnfD
    rw [readCnf_eq, exceeded_code_inc]
    cases lookupFile files path with
    | none => rfl
    | some fc =>
      by_cases hd : depth > maxIncludeDepth
      · simp [hd]
      · by_cases hm : path ∈ loaded
        · simp [hd, hm]
        · simp only [hd, hm, if_false, decide_false, Bool.false_eq_true]
          cases fuel with
          | zero => rfl
          | succ f => exact includeLoopD_result (ih f (Nat.lt_succ_self f) (depth + 1)) _ _ _ _

theorem readCnfD_none_result {π : Type} (files : Files π) (resolve : Path → π → List Path) :
    ∀ fuel depth path loaded,
      (readCnfD Limits.none files resolve fuel depth path loaded).1 =
        readCnfNoLimit files resolve fuel path loaded := by
  intro fuel
  induction fuel using Nat.strongRecOn with
  | _ fuel ih =>
    intro depth path loaded
    unfold readCnfD readCnfNoLimit
    rw [exceeded_none_inc]
    cases lookupFile files path with
    | none => rfl
    | some fc =>
      by_cases hm : path ∈ loaded
      · simp [hm]
      · simp only [hm, if_false, Bool.false_eq_true]
        cases fuel with
        | zero => rfl
        | succ f => exact includeLoopD_result (ih f (Nat.lt_succ_self f) (depth + 1)) _ _ _ _

theorem includeLoopD_depth_le {rec : IncD} {B : Nat} (hrec : ∀ p l, (rec p l).2.depth ≤ B) :
    ∀ ps cfg loaded c, c.depth ≤ B → (includeLoopD rec ps cfg loaded c).2.depth ≤ B := by
  intro ps
  induction ps with
  | nil => intro cfg loaded c hc; exact hc
  | cons p ps ih =>
    intro cfg loaded c hc
    have hp := hrec p loaded
    rcases h : rec p loaded with ⟨r, cp⟩
    rw [h] at hp
    have hseq : (c.seq cp).depth ≤ B := by simp only [Cost.seq]; exact Nat.max_le.mpr ⟨hc, hp⟩
    cases r with
    | error e => rw [includeLoopD_error h]; exact hseq
    | ok res =>
      obtain ⟨add, loaded'⟩ := res
      rw [includeLoopD_ok h]
      exact ih _ _ _ hseq

theorem include_recursion_depth_bounded_at {π : Type} (files : Files π) (resolve : Path → π → List Path)
    (fuel depth : Nat) (path : Path) (loaded : List Path) :
    (readCnfD Limits.code files resolve fuel depth path loaded).2.depth ≤
      max 1 (maxIncludeDepth + 2 - depth) := by
  induction fuel using Nat.strongRecOn generalizing depth path loaded with
  | _ fuel ih =>
    unfold readCnfD
    rw [exceeded_code_inc]
    cases lookupFile files path with
    | none => exact Nat.le_max_left _ _
    | some fc =>
      by_cases hd : depth > maxIncludeDepth
      · simp only [hd, decide_true, if_true]
        exact Nat.le_max_left _ _
      · by_cases hm : path ∈ loaded
        · simp only [hd, hm, decide_false, Bool.false_eq_true, if_false, if_true]
          exact Nat.le_max_left _ _
        · simp only [hd, hm, if_false, decide_false, Bool.false_eq_true]
          cases fuel with
          | zero => exact Nat.le_max_left _ _
          | succ f =>
            have := includeLoopD_depth_le (rec := readCnfD Limits.code files resolve f (depth + 1))
              (fun p l => ih f (Nat.lt_succ_self f) (depth + 1) p l)
              (includePaths resolve path fc) fc.toConfig (loaded ++ [path]) Cost.zero (Nat.zero_le _)
            simp only [Cost.frame]
            omega

/-- **(b) `include_recursion_depth_bounded`**: for EVERY tree of files (chains, cycles, repeats, missing
files), loading from the main file (`from_file`: `depth = 0`) never has more than
`MAX_INCLUDE_DEPTH + 2` frames of `read_cnf` on the stack (the files at nesting levels
`0 … MAX_INCLUDE_DEPTH`, plus the frame that refuses a file met one level deeper) — and the function
whose depth is counted returns exactly what `Config.readCnf` returns.  (Attained: `include_chain_at_limit`.) -/
theorem include_recursion_depth_bounded {π : Type} (files : Files π) (resolve : Path → π → List Path)
    (fuel : Nat) (main : Path) (loaded : List Path) :
    (readCnfD Limits.code files resolve fuel 0 main loaded).1 = readCnf files resolve fuel 0 main loaded ∧
    (readCnfD Limits.code files resolve fuel 0 main loaded).2.depth ≤ maxIncludeDepth + 2 := by
  have := include_recursion_depth_bounded_at files resolve fuel 0 main loaded
  exact ⟨readCnfD_code_result files resolve fuel 0 main loaded, by omega⟩

/-! ## (e) `hook_limits_only_add_limit_errors`, `include_limits_only_add_limit_errors`,
`VisitsList.conservative`, `limits_conservative`, `getHook_conservative`, `getHook_ok_was_ok`,
`include_limits_conservative(_result)` -/

/-- The errors only the three limits produce. -/
def IsLimitErr : Err → Prop
  | .groupTooDeep _ => True
  | .tooManyMembers _ => True
  | .includeTooDeep _ => True
  | _ => False

theorem groupLoop_only_adds_limit_errors {rec : Nat → String → Except Err (List Hook × Nat)}
    {recOld : String → Except Err (List Hook)}
    (hrec : ∀ b n, (∃ e, rec b n = .error e ∧ IsLimitErr e) ∨ untag (rec b n) = recOld n) :
    ∀ (ns : List String) (acc : List Hook) (b : Nat),
      (∃ e, groupLoop rec ns acc b = .error e ∧ IsLimitErr e) ∨
      untag (groupLoop rec ns acc b) = withAcc acc (expandNames recOld ns) := by
  intro ns
  induction ns with
  | nil => intro acc b; right; simp [groupLoop, expandNames, withAcc, untag]
  | cons n ns ih =>
    intro acc b
    rcases hrec b n with ⟨e, he, hl⟩ | heq
    · left; exact ⟨e, by simp only [groupLoop, he], hl⟩
    · cases hn : rec b n with
      | error e =>
        right
        rw [hn] at heq; simp only [untag] at heq
        simp only [groupLoop, hn, expandNames, ← heq, untag, withAcc]
      | ok res =>
        obtain ⟨hs, b'⟩ := res
        rw [hn] at heq; simp only [untag] at heq
        simp only [groupLoop, hn, expandNames, ← heq]
        rcases ih (acc ++ hs) b' with hl | heq'
        · exact .inl hl
        · right
          rw [heq']
          cases expandNames recOld ns with
          | error e => rfl
          | ok rest => simp [withAcc]

theorem expandHookNoLimit_hook {cfg : Config} {name : String} {h : Hook} (hh : findHook cfg name = some h)
    (fuel : Nat) (parents : List String) : expandHookNoLimit cfg fuel parents name = .ok [h] := by
  unfold expandHookNoLimit
  rw [hh]

theorem expandHookNoLimit_on_path {cfg : Config} {name : String} {g : Group} {parents : List String}
    (hh : findHook cfg name = none) (hg : findGroup cfg name = some g) (hm : name ∈ parents) (fuel : Nat) :
    expandHookNoLimit cfg fuel parents name = .error (.groupCycle name) := by
  unfold expandHookNoLimit
  rw [hh, hg]
  exact if_pos hm

theorem expandHookNoLimit_group {cfg : Config} {name : String} {g : Group} {parents : List String}
    (hh : findHook cfg name = none) (hg : findGroup cfg name = some g) (hm : name ∉ parents) :
    expandHookNoLimit cfg 0 parents name = .error .outOfFuel ∧
    ∀ fuel, expandHookNoLimit cfg (fuel + 1) parents name =
      expandNames (expandHookNoLimit cfg fuel (parents ++ [name])) g.hooks := by
  constructor
  · unfold expandHookNoLimit
    rw [hh, hg]
    exact if_neg hm
  · intro fuel
    unfold expandHookNoLimit
    rw [hh, hg]
    exact if_neg hm

/-- **(e) `hook_limits_only_add_limit_errors`**: for every configuration, fuel, path and budget, the
current `get_hook_rec` either reports one of the two new errors ("nested too deeply", "too many
members") or answers — hooks or error — exactly as the code before 537f12e did. -/
theorem hook_limits_only_add_limit_errors (cfg : Config) :
    ∀ fuel parents budget name,
      (∃ e, expandHook cfg fuel parents budget name = .error e ∧ IsLimitErr e) ∨
      untag (expandHook cfg fuel parents budget name) = expandHookNoLimit cfg fuel parents name := by
  intro fuel
  induction fuel using Nat.strongRecOn with
  | _ fuel ih =>
    intro parents budget name
    cases budget with
    | zero => exact .inl ⟨.tooManyMembers name, by unfold expandHook; rfl, trivial⟩
    | succ b =>
      cases hh : findHook cfg name with
      | some h => right; rw [expandHook_hook hh, expandHookNoLimit_hook hh]; rfl
      | none =>
        cases hg : findGroup cfg name with
        | none => right; unfold expandHook; cases fuel <;> simp only [expandHookNoLimit, hh, hg] <;> rfl
        | some g =>
          by_cases hm : name ∈ parents
          · right
            rw [expandHook_on_path hh hg hm fuel b, expandHookNoLimit_on_path hh hg hm]
            rfl
          · by_cases hd : parents.length ≥ maxHookGroupDepth
            · exact .inl ⟨.groupTooDeep name,
                by unfold expandHook; simp only [hh, hg, hm, hd, if_true, if_false], trivial⟩
            · have hd' := Nat.lt_of_not_le hd
              cases fuel with
              | zero => right; rw [expandHook_no_fuel hh hg hm hd', (expandHookNoLimit_group hh hg hm).1]; rfl
              | succ f =>
                rw [expandHook_group hh hg hm hd', (expandHookNoLimit_group hh hg hm).2]
                have := groupLoop_only_adds_limit_errors (ih f (Nat.lt_succ_self f) (parents ++ [name])) g.hooks [] b
                rwa [withAcc_nil] at this

theorem includeLoop_only_adds_limit_errors {rec recOld : Path → List Path → Except Err (Config × List Path)}
    (hrec : ∀ p l, (∃ e, rec p l = .error e ∧ IsLimitErr e) ∨ rec p l = recOld p l) :
    ∀ ps cfg loaded,
      (∃ e, includeLoop rec ps cfg loaded = .error e ∧ IsLimitErr e) ∨
      includeLoop rec ps cfg loaded = includeLoop recOld ps cfg loaded := by
  intro ps
  induction ps with
  | nil => intro cfg loaded; right; rfl
  | cons p ps ih =>
    intro cfg loaded
    rcases hrec p loaded with ⟨e, he, hl⟩ | heq
    · left; exact ⟨e, by simp only [includeLoop, he], hl⟩
    · simp only [includeLoop, ← heq]
      cases rec p loaded with
      | error e => right; rfl
      | ok res => exact ih _ _

/-- **(e)** (includes): the current `read_cnf` either reports "includes are nested too deeply" or
answers exactly as the code before 537f12e did. -/
theorem include_limits_only_add_limit_errors {π : Type} (files : Files π) (resolve : Path → π → List Path) :
    ∀ fuel depth path loaded,
      (∃ e, readCnf files resolve fuel depth path loaded = .error e ∧ IsLimitErr e) ∨
      readCnf files resolve fuel depth path loaded = readCnfNoLimit files resolve fuel path loaded := by
  intro fuel
  induction fuel using Nat.strongRecOn with
  | _ fuel ih =>
    intro depth path loaded
    unfold readCnf readCnfNoLimit
    cases lookupFile files path with
    | none => exact .inr rfl
    | some fc =>
      by_cases hd : depth > maxIncludeDepth
      · exact .inl ⟨.includeTooDeep path, if_pos hd, trivial⟩
      · simp only [hd, if_false]
        by_cases hm : path ∈ loaded
        · exact .inr (by simp only [hm, if_true])
        · simp only [hm, if_false]
          cases fuel with
          | zero => exact .inr rfl
          | succ f => exact includeLoop_only_adds_limit_errors (ih f (Nat.lt_succ_self f) (depth + 1)) _ _ _

theorem _root_.AcmedVerif.Spec.C14.VisitsList.conservative {cfg : Config} {d : Nat} {ns : List String}
    {k : Nat} (h : VisitsList cfg d ns k) :
    ∀ fuel parents acc b, parents.length = d → k ≤ b →
      groupLoop (expandHook cfg fuel parents) ns acc b =
        tag (b - k) (withAcc acc (expandNames (expandHookNoLimit cfg fuel parents) ns)) := by
  induction h with
  | nil => intro fuel parents acc b _ _; simp [groupLoop, expandNames, withAcc, tag]
  | @hook d n ns hk k hh _ ih =>
    intro fuel parents acc b hlen hb
    obtain ⟨b0, rfl⟩ := Nat.exists_eq_add_one_of_ne_zero (Nat.ne_of_gt (Nat.lt_of_lt_of_le (Nat.succ_pos k) hb))
    simp only [groupLoop, expandHook_hook hh, expandNames, expandHookNoLimit_hook hh]
    rw [ih fuel parents (acc ++ [hk]) b0 hlen (Nat.le_of_succ_le_succ hb)]
    cases expandNames (expandHookNoLimit cfg fuel parents) ns with
    | error e => rfl
    | ok rest => simp only [withAcc, tag, List.append_assoc, Nat.add_sub_add_right]
  | @group d n ns g k₁ k₂ hh hg hdepth _ _ ih₁ ih₂ =>
    intro fuel parents acc b hlen hb
    obtain ⟨b0, rfl⟩ : ∃ b0, b = b0 + 1 := ⟨b - 1, by omega⟩
    have hd : parents.length < maxHookGroupDepth := hlen ▸ hdepth
    by_cases hm : n ∈ parents
    · simp only [groupLoop, expandHook_on_path hh hg hm fuel b0, expandNames,
        expandHookNoLimit_on_path hh hg hm, withAcc, tag]
    · cases fuel with
      | zero =>
        simp only [groupLoop, expandHook_no_fuel hh hg hm hd, expandNames,
          (expandHookNoLimit_group hh hg hm).1, withAcc, tag]
      | succ fuel =>
        have h1 := ih₁ fuel (parents ++ [n]) [] b0 (by simp [hlen]) (by omega)
        rw [withAcc_nil] at h1
        simp only [groupLoop, expandHook_group hh hg hm hd, h1, expandNames,
          (expandHookNoLimit_group hh hg hm).2]
        cases hx : expandNames (expandHookNoLimit cfg fuel (parents ++ [n])) g.hooks with
        | error e => simp only [tag, withAcc]
        | ok r₁ =>
          simp only [tag]
          rw [ih₂ (fuel + 1) parents (acc ++ r₁) (b0 - k₁) hlen (by omega)]
          cases expandNames (expandHookNoLimit cfg (fuel + 1) parents) ns with
          | error e => rfl
          | ok rest =>
            simp only [withAcc, tag, List.append_assoc, Except.ok.injEq, Prod.mk.injEq, true_and]
            omega

/-- **(e) `limits_conservative`** (hooks): a name whose expansion, met under `|parents|` enclosing groups,
enters no group under MAX_HOOK_GROUP_DEPTH or more groups and visits `k` members in all
(`VisitsList`, defined without the procedures), expanded with a budget of at least `k`: the current
`get_hook_rec` answers — for every fuel and path — exactly what the code before 537f12e answered, and
the budget goes down by `k`.  So nothing that loaded before and is within the limits changes. -/
theorem limits_conservative (cfg : Config) (fuel : Nat) (parents : List String) (budget : Nat)
    (name : String) (k : Nat) (hv : VisitsList cfg parents.length [name] k) (hk : k ≤ budget) :
    expandHook cfg fuel parents budget name =
      tag (budget - k) (expandHookNoLimit cfg fuel parents name) := by
  have := hv.conservative fuel parents [] budget rfl hk
  rwa [groupLoop_single, expandNames_single, withAcc_nil] at this

theorem getHook_conservative (cfg : Config) (name : String) (h : ResolvesWithin cfg name) :
    getHook cfg name = getHookNoLimit cfg name := by
  obtain ⟨k, hv, hk⟩ := h
  have := limits_conservative cfg (expandFuel cfg) [] maxHookGroupMembers name k hv hk
  unfold getHook getHookNoLimit
  rw [this]
  cases expandHookNoLimit cfg (expandFuel cfg) [] name <;> rfl

theorem getHook_ok_was_ok (cfg : Config) (name : String) (r : List Hook) (h : getHook cfg name = .ok r) :
    getHookNoLimit cfg name = .ok r := by
  rw [← getHook_conservative cfg name (getHook_isOk.mp ⟨r, h⟩)]; exact h

theorem includeLoopD_depth_ge {rec : IncD} :
    ∀ ps cfg l c, c.depth ≤ (includeLoopD rec ps cfg l c).2.depth := by
  intro ps
  induction ps with
  | nil => intro cfg l c; exact Nat.le_refl _
  | cons p ps ih =>
    intro cfg l c
    rcases hp : rec p l with ⟨r, cp⟩
    cases r with
    | error e => rw [includeLoopD_error hp]; exact Nat.le_max_left _ _
    | ok res =>
      obtain ⟨add, l'⟩ := res
      rw [includeLoopD_ok hp]
      exact Nat.le_trans (Nat.le_max_left c.depth cp.depth) (ih (mergeCfg cfg add) l' (c.seq cp))

theorem includeLoopD_eq_of_shallow {rec rec' : IncD} {B : Nat}
    (h : ∀ p l, (rec' p l).2.depth ≤ B → rec p l = rec' p l) :
    ∀ ps cfg l c, (includeLoopD rec' ps cfg l c).2.depth ≤ B →
      includeLoopD rec ps cfg l c = includeLoopD rec' ps cfg l c := by
  intro ps
  induction ps with
  | nil => intro cfg l c _; rfl
  | cons p ps ih =>
    intro cfg l c hc
    rcases hp : rec' p l with ⟨r, cp⟩
    cases r with
    | error e =>
      rw [includeLoopD_error hp] at hc ⊢
      have := h p l (by rw [hp]; exact Nat.le_trans (Nat.le_max_right c.depth cp.depth) hc)
      rw [hp] at this
      rw [includeLoopD_error this]
    | ok res =>
      obtain ⟨add, l'⟩ := res
      rw [includeLoopD_ok hp] at hc ⊢
      have := h p l (by
        rw [hp]
        exact Nat.le_trans (Nat.le_trans (Nat.le_max_right c.depth cp.depth)
          (includeLoopD_depth_ge ps _ l' (c.seq cp))) hc)
      rw [hp] at this
      rw [includeLoopD_ok this]
      exact ih _ _ _ hc

/-- **(e) `include_limits_conservative`**: if the run of the code before 537f12e recurses, from nesting
level `depth`, through at most `MAX_INCLUDE_DEPTH + 1 − depth` frames (from the main file: the tree is
at most `MAX_INCLUDE_DEPTH` levels deep below it), the current `read_cnf` does and answers the same,
at the same cost. -/
theorem include_limits_conservative {π : Type} (files : Files π) (resolve : Path → π → List Path) :
    ∀ fuel depth path loaded,
      (readCnfD Limits.none files resolve fuel depth path loaded).2.depth + depth ≤ maxIncludeDepth + 1 →
      readCnfD Limits.code files resolve fuel depth path loaded =
        readCnfD Limits.none files resolve fuel depth path loaded := by
  intro fuel
  induction fuel using Nat.strongRecOn with
  | _ fuel ih =>
    intro depth path loaded hd
    unfold readCnfD at hd ⊢
    rw [exceeded_code_inc, exceeded_none_inc]
    cases hf : lookupFile files path with
    | none => rfl
    | some fc =>
      simp only [hf, exceeded_none_inc, Bool.false_eq_true, if_false] at hd
      -- every answer costs at least one frame, so the hypothesis puts `depth` within the limit
      have hdd : ¬ depth > maxIncludeDepth := by
        by_cases hm : path ∈ loaded
        · simp only [hm, if_true, Cost.leaf] at hd; omega
        · cases fuel <;> simp only [hm, if_false, Cost.leaf, Cost.frame] at hd <;> omega
      simp only [hdd, decide_false, Bool.false_eq_true, if_false]
      by_cases hm : path ∈ loaded
      · simp only [hm, if_true]
      · cases fuel with
        | zero => rfl
        | succ f =>
          simp only [hm, if_false, Cost.frame] at hd ⊢
          rw [includeLoopD_eq_of_shallow (rec' := readCnfD Limits.none files resolve f (depth + 1))
            (B := maxIncludeDepth - depth) (fun p l hp => ih f (Nat.lt_succ_self f) (depth + 1) p l (by omega)) _ _ _ _ (by omega)]

theorem include_limits_conservative_result {π : Type} (files : Files π) (resolve : Path → π → List Path)
    (fuel depth : Nat) (path : Path) (loaded : List Path)
    (h : (readCnfD Limits.none files resolve fuel depth path loaded).2.depth + depth ≤ maxIncludeDepth + 1) :
    readCnf files resolve fuel depth path loaded = readCnfNoLimit files resolve fuel path loaded := by
  rw [← readCnfD_code_result, ← readCnfD_none_result files resolve fuel depth,
    include_limits_conservative files resolve fuel depth path loaded h]

/-! ## (d) The families without the limits: `old_depth_unbounded`, `old_expansion_exponential`,
`sizelimit_work_exponential` -/

theorem gname_inj {a b : Nat} : gname a = gname b ↔ a = b := by
  unfold gname
  rw [String.ofList_inj]
  constructor
  · intro h
    have := congrArg List.length h
    simpa using this
  · rintro rfl; rfl

theorem gname_ne_h (a : Nat) : ("h" == gname a) = false := by
  have : "h" ≠ gname a := by
    intro h
    have h' : String.ofList ['h'] = gname a := h
    unfold gname at h'
    rw [String.ofList_inj] at h'
    simp at h'
  simpa using this

theorem findHook_nested_g (w n k : Nat) : findHook (nestedCfg w n) (gname k) = none := by
  simp [findHook, nestedCfg, leafHook, gname_ne_h]

theorem findHook_nested_h (w n : Nat) : findHook (nestedCfg w n) "h" = some leafHook := by
  simp [findHook, nestedCfg, leafHook]

theorem find_gname {mk : Nat → Group} (hname : ∀ k, (mk k).name = gname k) {l : Nat → List Group}
    (hs : ∀ n, l (n + 1) = mk n :: l n) :
    ∀ n k, k < n → (l n).find? (·.name == gname k) = some (mk k) := by
  intro n
  induction n with
  | zero => intro k hk; exact absurd hk (Nat.not_lt_zero k)
  | succ n ih =>
    intro k hk
    rw [hs, List.find?_cons, hname]
    by_cases hkn : k = n
    · subst hkn; simp
    · have : (gname n == gname k) = false := by
        simp only [beq_eq_false_iff_ne, ne_eq, gname_inj]; exact fun h => hkn h.symm
      rw [this]
      exact ih k (Nat.lt_of_le_of_ne (Nat.le_of_lt_succ hk) hkn)

theorem findGroup_nested (w n k : Nat) (hk : k < n) :
    findGroup (nestedCfg w n) (gname k) =
      some { name := gname k, hooks := List.replicate w (if k = 0 then "h" else gname (k - 1)) } :=
  find_gname (mk := fun k => { name := gname k, hooks := List.replicate w (if k = 0 then "h" else gname (k - 1)) })
    (fun _ => rfl) (l := nested w) (fun _ => rfl) n k hk

theorem findGroup_hollow (w n k : Nat) (hk : k < n) :
    findGroup (hollowCfg w n) (gname k) =
      some { name := gname k, hooks := if k = 0 then [] else List.replicate w (gname (k - 1)) } :=
  find_gname (mk := fun k => { name := gname k, hooks := if k = 0 then [] else List.replicate w (gname (k - 1)) })
    (fun _ => rfl) (l := hollow w) (fun _ => rfl) n k hk

theorem findHook_hollow (w n : Nat) (x : String) : findHook (hollowCfg w n) x = none := by
  simp [findHook, hollowCfg]

/-- The member a group of height `k` of a `nested` family names. -/
def below (k : Nat) : String := if k = 0 then "h" else gname (k - 1)

theorem budget_ok {lim : Limits} {b m : Nat} (h : lim.visitBudget = true → m + 1 ≤ b) :
    (lim.visitBudget && b == 0) = false ∧ (lim.visitBudget = true → m ≤ spend lim b) := by
  cases hv : lim.visitBudget with
  | false => exact ⟨rfl, fun h => Bool.noConfusion h⟩
  | true =>
    have := h hv
    refine ⟨?_, fun _ => ?_⟩
    · simp; omega
    · simp only [spend, hv, if_true]; omega

theorem gname_not_mem_snoc {j m : Nat} {parents : List String} (h : gname j ∉ parents) (hne : j ≠ m) :
    gname j ∉ parents ++ [gname m] := by
  simp only [List.mem_append, List.mem_singleton, gname_inj, not_or]
  exact ⟨h, hne⟩

/-- The chain under any variant whose tests do not fire on the way: the group of height `k` is expanded
through `k + 2` frames and `k + 2` visits (the depth test is passed at every level `|parents| + j`, the
budget — where there is one — covers the visits, a result of one hook is allowed). -/
theorem chain_expands (lim : Limits) (hsize : exceeded lim.resultSize 1 = false) (n : Nat) :
    ∀ k, k < n → ∀ fuel, k + 1 ≤ fuel → ∀ parents b,
    (∀ j, j ≤ k → gname j ∉ parents) →
    (∀ j, j ≤ k → reached lim.hookGroupDepth (parents.length + j) = false) →
    (lim.visitBudget = true → k + 2 ≤ b) →
    ∃ b', expandHookD lim (chainCfg n) fuel parents b (gname k) =
      (.ok ([leafHook], b'), { depth := k + 2, peak := 1, calls := k + 2 }) := by
  intro k
  unfold chainCfg
  induction k with
  | zero =>
    intro hk fuel hf parents b hp hr hb
    cases fuel with
    | zero => exact absurd hf (Nat.not_succ_le_zero 0)
    | succ f =>
      obtain ⟨hin, hb'⟩ := budget_ok hb
      rw [expandHookD_group hin (findHook_nested_g 1 n 0) (findGroup_nested 1 n 0 hk) (hp 0 (Nat.le_refl _))
        (hr 0 (Nat.le_refl _)) f]
      simp only [List.replicate, if_true]
      rw [groupLoopD_ok (expandHookD_hook (budget_ok hb').1 (findHook_nested_h 1 n) f _),
        List.nil_append, List.length_singleton, hsize]
      exact ⟨_, rfl⟩
  | succ k ih =>
    intro hk fuel hf parents b hp hr hb
    cases fuel with
    | zero => exact absurd hf (Nat.not_succ_le_zero _)
    | succ f =>
      obtain ⟨hin, hb'⟩ := budget_ok hb
      obtain ⟨b', hrec⟩ := ih (Nat.lt_of_succ_lt hk) f (Nat.le_of_succ_le_succ hf) (parents ++ [gname (k + 1)])
        (spend lim b)
        (fun j hj => gname_not_mem_snoc (hp j (Nat.le_succ_of_le hj)) (Nat.ne_of_lt (Nat.lt_succ_of_le hj)))
        (fun j hj => by
          have := hr (j + 1) (Nat.succ_le_succ hj)
          rwa [List.length_append, List.length_singleton, Nat.add_assoc, Nat.add_comm 1 j])
        hb'
      rw [expandHookD_group hin (findHook_nested_g 1 n (k + 1)) (findGroup_nested 1 n (k + 1) hk)
        (hp (k + 1) (Nat.le_refl _)) (hr 0 (Nat.zero_le _)) f]
      simp only [List.replicate, Nat.add_one_ne_zero, if_false, Nat.add_sub_cancel]
      rw [groupLoopD_ok hrec, List.nil_append, List.length_singleton, hsize]
      refine ⟨b', ?_⟩
      simp only [groupLoopD, Cost.seq, Cost.zero, Cost.hold, Cost.frame, Bool.false_eq_true, if_false,
        Prod.mk.injEq, Cost.mk.injEq, true_and]
      omega

/-- The chain met so deep that its lowest group would be entered under exactly as many groups as the
depth test allows: that group is refused, in frame `k + 1`. -/
theorem chain_refused (lim : Limits) (n : Nat) : ∀ k, k < n → ∀ fuel, k + 1 ≤ fuel → ∀ parents b,
    (∀ j, j ≤ k → gname j ∉ parents) → lim.hookGroupDepth = some (parents.length + k) →
    (lim.visitBudget = true → k + 1 ≤ b) →
    expandHookD lim (chainCfg n) fuel parents b (gname k) =
      (.error (.groupTooDeep (gname 0)), { depth := k + 1, peak := 0, calls := k + 1 }) := by
  intro k
  unfold chainCfg
  induction k with
  | zero =>
    intro hk fuel _ parents b hp hlim hb
    exact expandHookD_too_deep (budget_ok hb).1 (findHook_nested_g 1 n 0) (findGroup_nested 1 n 0 hk)
      (hp 0 (Nat.le_refl _)) (by simp [hlim, reached]) fuel
  | succ k ih =>
    intro hk fuel hf parents b hp hlim hb
    cases fuel with
    | zero => exact absurd hf (Nat.not_succ_le_zero _)
    | succ f =>
      obtain ⟨hin, hb'⟩ := budget_ok hb
      have hrec := ih (Nat.lt_of_succ_lt hk) f (Nat.le_of_succ_le_succ hf) (parents ++ [gname (k + 1)])
        (spend lim b)
        (fun j hj => gname_not_mem_snoc (hp j (Nat.le_succ_of_le hj)) (Nat.ne_of_lt (Nat.lt_succ_of_le hj)))
        (by rw [hlim, List.length_append, List.length_singleton, Nat.add_assoc, Nat.add_comm 1 k]) hb'
      rw [expandHookD_group hin (findHook_nested_g 1 n (k + 1)) (findGroup_nested 1 n (k + 1) hk)
        (hp (k + 1) (Nat.le_refl _)) (by simp [hlim, reached]) f]
      simp only [List.replicate, Nat.add_one_ne_zero, if_false, Nat.add_sub_cancel]
      rw [groupLoopD_error hrec]
      simp [Cost.seq, Cost.zero, Cost.frame]

theorem nested_length (w : Nat) : ∀ m, (nested w m).length = m
  | 0 => rfl
  | m + 1 => by simp [nested, nested_length w m]

theorem nested_hooks_length (w : Nat) : ∀ m g, g ∈ nested w m → g.hooks.length = w
  | 0, g, hg => by simp [nested] at hg
  | m + 1, g, hg => by
    simp only [nested, List.mem_cons] at hg
    rcases hg with rfl | hg
    · simp
    · exact nested_hooks_length w m g hg

theorem expandFuel_nestedCfg (w n : Nat) : expandFuel (nestedCfg w n) = n + 1 := by
  simp [expandFuel, nestedCfg, nested_length]

theorem ok_of_tag {b b' : Nat} {x : Except Err (List Hook)} {r : List Hook} (h : tag b x = .ok (r, b')) :
    x = .ok r := by
  cases x <;> simp_all [tag]

theorem getHook_eq_untag (cfg : Config) (name : String) :
    getHook cfg name = untag (getHookD Limits.code cfg name).1 := by
  unfold getHook getHookD
  rw [expandHookD_code_result]
  rcases expandHook cfg (expandFuel cfg) [] maxHookGroupMembers name with _ | ⟨_, _⟩ <;> rfl

theorem getHookNoLimit_of_D {cfg : Config} {name : String} {r : List Hook} {b : Nat} {c : Cost}
    (h : getHookD Limits.none cfg name = (.ok (r, b), c)) : getHookNoLimit cfg name = .ok r :=
  ok_of_tag ((expandHookD_none_result cfg _ [] _ name).symm.trans (congrArg Prod.fst h))

theorem chain_none (n : Nat) :
    ∃ b, getHookD Limits.none (chainCfg (n + 1)) (gname n) =
      (.ok ([leafHook], b), { depth := n + 2, peak := 1, calls := n + 2 }) :=
  chain_expands Limits.none rfl (n + 1) n (Nat.lt_succ_self n) _
    (by rw [chainCfg, expandFuel_nestedCfg]; exact Nat.le_succ _) [] _ (fun _ _ => List.not_mem_nil)
    (fun _ _ => rfl) (fun h => Bool.noConfusion h)

/-- **(d) `old_depth_unbounded`**: before 537f12e, for every `n` there is a configuration with `n + 1`
groups of one member each and one hook — size O(n), acyclic, accepted — whose expansion needs `n + 2`
frames of `get_hook_rec`: no bound on the native stack (15000 groups overflowed it).  With the tests
the same call never needs more than `MAX_HOOK_GROUP_DEPTH + 1` (`hook_recursion_depth_bounded`). -/
theorem old_depth_unbounded (n : Nat) :
    ∃ (cfg : Config) (top : String),
      cfg.groups.length = n + 1 ∧ cfg.hooks.length = 1 ∧ (∀ g, g ∈ cfg.groups → g.hooks.length = 1) ∧
      getHookNoLimit cfg top = .ok [leafHook] ∧
      (getHookD Limits.none cfg top).2.depth = n + 2 :=
  have ⟨_, h⟩ := chain_none n
  ⟨chainCfg (n + 1), gname n, nested_length 1 (n + 1), rfl, nested_hooks_length 1 (n + 1),
    getHookNoLimit_of_D h, by rw [h]⟩

theorem doubling_none (n : Nat) : ∀ k, k < n → ∀ fuel, k + 1 ≤ fuel → ∀ parents b,
    (∀ j, j ≤ k → gname j ∉ parents) →
    ∃ c, expandHookD Limits.none (doublingCfg n) fuel parents b (gname k) =
        (.ok (List.replicate (2 ^ (k + 1)) leafHook, b), c) ∧ c.peak = 2 ^ (k + 1) ∧ c.depth = k + 2 := by
  intro k
  unfold doublingCfg
  induction k with
  | zero =>
    intro hk fuel hf parents b hp
    cases fuel with
    | zero => exact absurd hf (Nat.not_succ_le_zero 0)
    | succ f =>
      have hleaf := expandHookD_hook (none_in b) (findHook_nested_h 2 n) f (parents ++ [gname 0])
      rw [spend_none] at hleaf
      rw [expandHookD_group (none_in b) (findHook_nested_g 2 n 0) (findGroup_nested 2 n 0 hk)
        (hp 0 (Nat.le_refl _)) rfl f, spend_none]
      simp only [List.replicate, if_true]
      rw [groupLoopD_ok hleaf, exceeded_none, if_neg Bool.false_ne_true,
        groupLoopD_ok hleaf, exceeded_none, if_neg Bool.false_ne_true]
      exact ⟨_, rfl, rfl, rfl⟩
  | succ k ih =>
    intro hk fuel hf parents b hp
    cases fuel with
    | zero => exact absurd hf (Nat.not_succ_le_zero _)
    | succ f =>
      obtain ⟨c, hrec, hpeak, hdepth⟩ := ih (Nat.lt_of_succ_lt hk) f (Nat.le_of_succ_le_succ hf)
        (parents ++ [gname (k + 1)]) b
        (fun j hj => gname_not_mem_snoc (hp j (Nat.le_succ_of_le hj)) (Nat.ne_of_lt (Nat.lt_succ_of_le hj)))
      rw [expandHookD_group (none_in b) (findHook_nested_g 2 n (k + 1)) (findGroup_nested 2 n (k + 1) hk)
        (hp (k + 1) (Nat.le_refl _)) rfl f, spend_none]
      simp only [List.replicate, Nat.add_one_ne_zero, if_false, Nat.add_sub_cancel]
      rw [groupLoopD_ok hrec, exceeded_none, if_neg Bool.false_ne_true,
        groupLoopD_ok hrec, exceeded_none, if_neg Bool.false_ne_true]
      have hpow : 2 ^ (k + 1) + 2 ^ (k + 1) = 2 ^ (k + 1 + 1) := ((Nat.pow_succ 2 (k + 1)).trans (Nat.mul_two _)).symm
      simp only [groupLoopD_nil, List.nil_append, List.replicate_append_replicate, hpow]
      refine ⟨_, rfl, ?_, ?_⟩
      · simp only [Cost.seq, Cost.zero, Cost.hold, Cost.frame, List.length_replicate]
        omega
      · simp only [Cost.seq, Cost.zero, Cost.hold, Cost.frame]
        omega

/-- **(d) `old_expansion_exponential`**: before 537f12e, `n + 1` groups of two members each (size O(n),
acyclic, accepted) expand to a list of `2^(n+1)` hooks: no bound on memory (30 groups: 2^30 hooks).
With the budget no list ever held exceeds `MAX_HOOK_GROUP_MEMBERS` (`held_hooks_bounded`). -/
theorem old_expansion_exponential (n : Nat) :
    ∃ (cfg : Config) (top : String),
      cfg.groups.length = n + 1 ∧ (∀ g, g ∈ cfg.groups → g.hooks.length = 2) ∧
      (∃ r, getHookNoLimit cfg top = .ok r ∧ r.length = 2 ^ (n + 1)) ∧
      (getHookD Limits.none cfg top).2.peak = 2 ^ (n + 1) := by
  obtain ⟨c, h, hpeak, _⟩ := doubling_none (n + 1) n (Nat.lt_succ_self n) (expandFuel (doublingCfg (n + 1)))
    (by rw [doublingCfg, expandFuel_nestedCfg]; exact Nat.le_succ _) [] maxHookGroupMembers
    (fun _ _ => List.not_mem_nil)
  exact ⟨doublingCfg (n + 1), gname n, nested_length 2 (n + 1), nested_hooks_length 2 (n + 1),
    ⟨_, getHookNoLimit_of_D h, List.length_replicate⟩, by rw [getHookD, h]; exact hpeak⟩

/-- Geometric sum `1 + f + … + f^k`: the number of nodes of a tree of fan-out `f` and height `k`. -/
def geom (f : Nat) : Nat → Nat
  | 0 => 1
  | k + 1 => 1 + f * geom f k

theorem pow_le_geom (f k : Nat) : f ^ k ≤ geom f k := by
  induction k with
  | zero => simp [geom]
  | succ k ih =>
    simp only [geom, Nat.pow_succ]
    have := Nat.mul_le_mul_left f ih
    rw [Nat.mul_comm (f ^ k) f]; omega

theorem hollow_loop {gname' : String} {rec : RecD} {x : String} {cx : Cost}
    (hrec : ∀ b, rec b x = (.ok ([], b), cx)) :
    ∀ (w : Nat) (c : Cost),
      ∃ c', c'.calls = c.calls + w * cx.calls ∧
        ∀ b, groupLoopD Limits.v537f12e gname' rec (List.replicate w x) [] b c = (.ok ([], b), c') := by
  intro w
  induction w with
  | zero => intro c; exact ⟨c, by simp, fun b => rfl⟩
  | succ w ih =>
    intro c
    obtain ⟨c', h2, h1⟩ := ih ((c.seq cx).seq (Cost.hold 0))
    refine ⟨c', ?_, ?_⟩
    · rw [h2]; simp only [Cost.seq, Cost.hold, Nat.succ_mul]; omega
    · intro b
      simp only [List.replicate]
      rw [groupLoopD_ok (hrec b), exceeded_v537]
      simp only [List.append_nil, List.length_nil, Nat.not_lt_zero, decide_false, Bool.false_eq_true, if_false]
      exact h1 b

/-- The hollow family under 537f12e: the group of height `k` costs `1 + w + … + w^k` calls and expands
to nothing — as long as the nesting stays below MAX_HOOK_GROUP_DEPTH the size test never fires. -/
theorem hollow_v537 (w n : Nat) : ∀ k, k < n → ∀ fuel, k + 1 ≤ fuel → ∀ parents,
    (∀ j, j ≤ k → gname j ∉ parents) → parents.length + k < maxHookGroupDepth →
    ∃ c, c.calls = geom w k ∧
      ∀ b, expandHookD Limits.v537f12e (hollowCfg w n) fuel parents b (gname k) = (.ok ([], b), c) := by
  intro k
  induction k with
  | zero =>
    intro hk fuel hf parents hp hd
    cases fuel with
    | zero => exact absurd hf (Nat.not_succ_le_zero 0)
    | succ f =>
      refine ⟨Cost.zero.frame, rfl, fun b => ?_⟩
      rw [expandHookD_group (v537_in b) (findHook_hollow w n _) (findGroup_hollow w n 0 hk)
        (hp 0 (Nat.le_refl _)) (by rw [reached_v537]; exact decide_eq_false (Nat.not_le_of_lt hd)) f, spend_v537]
      rfl
  | succ k ih =>
    intro hk fuel hf parents hp hd
    cases fuel with
    | zero => exact absurd hf (Nat.not_succ_le_zero _)
    | succ f =>
      obtain ⟨cx, hcalls, hsame⟩ := ih (Nat.lt_of_succ_lt hk) f (Nat.le_of_succ_le_succ hf)
        (parents ++ [gname (k + 1)])
        (fun j hj => gname_not_mem_snoc (hp j (Nat.le_succ_of_le hj)) (Nat.ne_of_lt (Nat.lt_succ_of_le hj)))
        (by rw [List.length_append, List.length_singleton]; omega)
      obtain ⟨c', h2, h1⟩ := hollow_loop (gname' := gname (k + 1)) hsame w Cost.zero
      refine ⟨c'.frame, by simp only [Cost.frame, h2, Cost.zero, hcalls, geom]; omega, fun b => ?_⟩
      rw [expandHookD_group (v537_in b) (findHook_hollow w n _) (findGroup_hollow w n (k + 1) hk)
        (hp (k + 1) (Nat.le_refl _))
        (by rw [reached_v537]; exact decide_eq_false (Nat.not_le_of_lt (Nat.lt_of_le_of_lt (Nat.le_add_right _ _) hd))) f,
        spend_v537]
      simp only [Nat.add_one_ne_zero, if_false, Nat.add_sub_cancel]
      rw [h1 b]

/-- **(d) `sizelimit_work_exponential`**: in 537f12e (depth test and a test on the size of the RESULT),
`n ≤ MAX_HOOK_GROUP_DEPTH` groups naming the next one `w` times and ending in an EMPTY group — size
O(n·w), accepted, expanding to nothing — cost `1 + w + … + w^(n-1) ≥ w^(n-1)` calls of
`get_hook_rec`: exponential in the depth constant (`w = 3`, `n = 32`: more than 3^31 calls, the
start-up hang a9033b3 repaired).  With the budget: at most `MAX_HOOK_GROUP_MEMBERS + 1`
(`hook_work_bounded`). -/
theorem sizelimit_work_exponential (w n : Nat) (hn : n + 1 ≤ maxHookGroupDepth) :
    (hollowCfg w (n + 1)).groups.length = n + 1 ∧
    (∀ g, g ∈ (hollowCfg w (n + 1)).groups → g.hooks.length ≤ w) ∧
    expandHookSizeLimit (hollowCfg w (n + 1)) (expandFuel (hollowCfg w (n + 1))) [] (gname n) = .ok [] ∧
    (getHookD Limits.v537f12e (hollowCfg w (n + 1)) (gname n)).2.calls = geom w n ∧
    w ^ n ≤ geom w n := by
  have hlen : ∀ m, (hollow w m).length = m := by
    intro m; induction m with
    | zero => rfl
    | succ m ih => simp [hollow, ih]
  have hhooks : ∀ m g, g ∈ hollow w m → g.hooks.length ≤ w := by
    intro m; induction m with
    | zero => intro g hg; cases hg
    | succ m ih =>
      intro g hg
      rcases List.mem_cons.mp hg with rfl | hg
      · by_cases hm : m = 0 <;> simp [hm]
      · exact ih g hg
  obtain ⟨c, hcalls, h⟩ := hollow_v537 w (n + 1) n (Nat.lt_succ_self n) (expandFuel (hollowCfg w (n + 1)))
    (by simp [expandFuel, hollowCfg, hlen]) [] (fun _ _ => List.not_mem_nil) (by simpa using Nat.lt_of_succ_le hn)
  replace h := h maxHookGroupMembers
  exact ⟨hlen (n + 1), hhooks (n + 1),
    ok_of_tag ((expandHookD_v537_result _ _ [] _ _).symm.trans (congrArg Prod.fst h)),
    by rw [getHookD, h]; exact hcalls, pow_le_geom w n⟩

/-! ## The limits met exactly, at the constants of the current source -/

section Examples

def errOf {α : Type} : Except Err α → Option Err
  | .error e => some e
  | .ok _ => none

def okOf {α : Type} : Except Err α → Option α
  | .ok a => some a
  | .error _ => none

theorem eq_ok_of_okOf {α : Type} {x : Except Err α} {a : α} (h : okOf x = some a) : x = .ok a := by
  cases x <;> simp_all [okOf]

theorem eq_error_of_errOf {α : Type} {x : Except Err α} {e : Err} (h : errOf x = some e) : x = .error e := by
  cases x <;> simp_all [errOf]

private def idResolve : Path → List Nat → List Path := fun _ ps => ps

/-- A chain of exactly MAX_HOOK_GROUP_DEPTH groups is accepted and needs MAX_HOOK_GROUP_DEPTH + 1 frames
(the bound of `hook_recursion_depth_bounded` is attained) … -/
theorem chain_at_limit :
    okOf (getHook (chainCfg maxHookGroupDepth) (gname (maxHookGroupDepth - 1))) = some [leafHook] ∧
    (getHookD Limits.code (chainCfg maxHookGroupDepth) (gname (maxHookGroupDepth - 1))).2.depth =
      maxHookGroupDepth + 1 := by
  have hD : 1 ≤ maxHookGroupDepth := by decide
  have hM : maxHookGroupDepth + 1 ≤ maxHookGroupMembers := by decide
  obtain ⟨_, h⟩ : ∃ b, getHookD Limits.code (chainCfg maxHookGroupDepth) (gname (maxHookGroupDepth - 1)) = _ :=
    chain_expands Limits.code rfl maxHookGroupDepth (maxHookGroupDepth - 1) (by omega) _
      (by rw [chainCfg, expandFuel_nestedCfg]; omega) [] _
      (fun _ _ => List.not_mem_nil)
      (fun j hj => by simp only [reached_code, List.length_nil, decide_eq_false_iff_not]; omega)
      (fun _ => by omega)
  rw [getHook_eq_untag, h]
  exact ⟨rfl, by simp only []; omega⟩

/-- … one group more is refused, in the frame that would have been the MAX_HOOK_GROUP_DEPTH + 1-st group
frame, although every name resolves (and the code before 537f12e accepted it). -/
theorem chain_rejected_above_limit :
    errOf (getHook (chainCfg (maxHookGroupDepth + 1)) (gname maxHookGroupDepth)) = some (.groupTooDeep (gname 0)) ∧
    (getHookD Limits.code (chainCfg (maxHookGroupDepth + 1)) (gname maxHookGroupDepth)).2.depth =
      maxHookGroupDepth + 1 ∧
    okOf (getHookNoLimit (chainCfg (maxHookGroupDepth + 1)) (gname maxHookGroupDepth)) = some [leafHook] := by
  have hM : maxHookGroupDepth + 1 ≤ maxHookGroupMembers := by decide
  have h : getHookD Limits.code (chainCfg (maxHookGroupDepth + 1)) (gname maxHookGroupDepth) = _ :=
    chain_refused Limits.code (maxHookGroupDepth + 1) maxHookGroupDepth (by omega) _
      (by rw [chainCfg, expandFuel_nestedCfg]; omega) [] _ (fun j _ => by simp)
      (by simp [Limits.code]) (fun _ => hM)
  obtain ⟨_, h'⟩ := chain_none maxHookGroupDepth
  rw [getHook_eq_untag, h, getHookNoLimit_of_D h']
  exact ⟨rfl, rfl, rfl⟩

/-- `cfg` with one certificate that names the hook or group `top`. -/
private def withCert (cfg : Config) (top : String) : Config :=
  { cfg with endpoints := [{ name := "le" }], accounts := [{ name := "acc" }],
             certificates := [{ crtId := "a_rsa2048", account := "acc", endpoint := "le", hooks := [top] }] }

theorem build_withCert_error (cfg : Config) (top : String) (e : Err) (h : errOf (getHook cfg top) = some e) :
    build (withCert cfg top) = .error e := by
  have hget : getHook (withCert cfg top) top = .error e :=
    (getHook_congr (cfg := cfg) (cfg' := withCert cfg top) rfl rfl top).trans (eq_error_of_errOf h)
  have hep : findEndpoint (withCert cfg top) "le" = some { name := "le" } := by simp [findEndpoint, withCert]
  simp only [build, withCert, buildAccounts, getHooks, expandNames, buildCerts, buildCert] at hget hep ⊢
  simp only [hep, resolveRateLimits, hget]

theorem build_withCert_ok (cfg : Config) (top : String) (hs : List Hook) (h : okOf (getHook cfg top) = some hs) :
    (build (withCert cfg top)).isOk = true := by
  have hget : getHook (withCert cfg top) top = .ok hs :=
    (getHook_congr (cfg := cfg) (cfg' := withCert cfg top) rfl rfl top).trans (eq_ok_of_okOf h)
  have hep : findEndpoint (withCert cfg top) "le" = some { name := "le" } := by simp [findEndpoint, withCert]
  simp only [build, withCert, buildAccounts, getHooks, expandNames, buildCerts, buildCert] at hget hep ⊢
  simp only [hep, resolveRateLimits, hget, effectiveFileNameFormat, effectiveRandomEarlyRenew,
    effectiveRenewDelay, certLevel]
  rfl

/-- The same through `build`: the chain at the limit starts; one group more and the configuration is refused
although every reference resolves. -/
example : (build (withCert (chainCfg maxHookGroupDepth) (gname (maxHookGroupDepth - 1)))).isOk = true :=
  build_withCert_ok _ _ _ chain_at_limit.1
example : errOf (build (withCert (chainCfg (maxHookGroupDepth + 1)) (gname maxHookGroupDepth))) =
    some (.groupTooDeep (gname 0)) := by rw [build_withCert_error _ _ _ chain_rejected_above_limit.1]; rfl

/-- The budget met exactly: the doubling family of 2 groups visits 7 members for 4 hooks; a budget of
7 is used up, a budget of 6 is refused at the 7th member, after 6 + 1 calls (`hook_work_bounded`
attained). -/
theorem doubling_at_budget :
    okOf (expandHook (doublingCfg 2) 3 [] 7 (gname 1)) = some (List.replicate 4 leafHook, 0) ∧
    errOf (expandHook (doublingCfg 2) 3 [] 6 (gname 1)) = some (.tooManyMembers "h") ∧
    (expandHookD Limits.code (doublingCfg 2) 3 [] 6 (gname 1)).2.calls = 6 + 1 ∧
    (expandHookD Limits.code (doublingCfg 2) 3 [] 7 (gname 1)).2.peak = 4 := by
  rw [← expandHookD_code_result, ← expandHookD_code_result]
  decide +kernel

/-- Groups of empty groups: 121 calls under 537f12e for 5 groups of fan-out 3 (40 for 4: more than any
small budget), cut at budget + 1 by the current code. -/
example : (getHookD Limits.v537f12e (hollowCfg 3 5) (gname 4)).2.calls = 121 := by decide +kernel
example : (expandHookD Limits.code (hollowCfg 3 4) 5 [] 20 (gname 3)).2.calls = 21 ∧
    errOf (expandHookD Limits.code (hollowCfg 3 4) 5 [] 20 (gname 3)).1 = some (.tooManyMembers (gname 0)) := by
  decide +kernel
example : okOf (expandHook (hollowCfg 3 4) 5 [] 40 (gname 3)) = some ([], 0) := by decide +kernel

/-- `ResolvesWithin` is satisfiable (a chain of two groups: 3 visits). -/
example : ResolvesWithin (chainCfg 2) (gname 1) :=
  getHook_isOk.mp ⟨[leafHook], eq_ok_of_okOf (by decide +kernel)⟩

/-- A chain of MAX_INCLUDE_DEPTH included files below the main file loads through
MAX_INCLUDE_DEPTH + 1 frames; one more is refused in frame MAX_INCLUDE_DEPTH + 2
(`include_recursion_depth_bounded` attained); the code before 537f12e loaded it. -/
theorem include_chain_at_limit :
    (readCnf (chainFiles 0 maxIncludeDepth) idResolve (maxIncludeDepth + 2) 0 0 []).isOk = true ∧
    (readCnfD Limits.code (chainFiles 0 maxIncludeDepth) idResolve (maxIncludeDepth + 2) 0 0 []).2.depth =
      maxIncludeDepth + 1 ∧
    errOf (readCnf (chainFiles 0 (maxIncludeDepth + 1)) idResolve (maxIncludeDepth + 3) 0 0 []) =
      some (.includeTooDeep (maxIncludeDepth + 1)) ∧
    (readCnfD Limits.code (chainFiles 0 (maxIncludeDepth + 1)) idResolve (maxIncludeDepth + 3) 0 0 []).2.depth =
      maxIncludeDepth + 2 ∧
    (readCnfNoLimit (chainFiles 0 (maxIncludeDepth + 1)) idResolve (maxIncludeDepth + 3) 0 []).isOk = true := by
  -- through the cost-counting twins, so that each chain is walked once for its result and its depth
  rw [← readCnfD_code_result, ← readCnfD_code_result, ← readCnfD_none_result _ _ _ 0]
  decide +kernel

/-- A chain of `k` files whose last one includes the first again. -/
private def cycleFiles (k : Nat) : List (Nat × FileContent (List Nat)) :=
  (chainFiles 0 k).dropLast ++ [(k, { includes := [[0]] })]

/-- A cycle that closes deeper than the limit is refused although the file is already loaded (the
depth test comes first); closing one level higher it is skipped. -/
example : errOf (loadTree (cycleFiles maxIncludeDepth) 0) = some (.includeTooDeep 0) := by decide +kernel
example : (loadTree (cycleFiles (maxIncludeDepth - 1)) 0).isOk = true := by decide +kernel

end Examples

end AcmedVerif.Props.C19Depth
