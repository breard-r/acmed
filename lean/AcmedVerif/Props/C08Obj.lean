/-
C08 (also C03, C07) — the clause "malformed or missing fields and headers, invalid object statuses,
non-JSON error bodies, unknown / absent error type": theorems about `Model/AcmeObj.lean`, the model of
how the TEXT of an answer becomes the objects the flow models take as inputs.

Reading guide.  `lex` is the JSON grammar serde_json demands of every text; `rOrder`, `rAuthorization` …
are serde's derived readers on the lexed value `J`; `parseOrder s = fromText rOrder s` is
`serde_json::from_str::<Order>(s)`.  `Spec.C08Obj.validOrder` … say member by member what a well-formed
object is.  `classifyAnswer` / `stepOutcome` are what `http.rs` / `acme_proto/http.rs` make of one
answer.  All statements are for every text, status and content type.
-/
import AcmedVerif.Model.Http
import AcmedVerif.Lemmas.AcmeObj
import AcmedVerif.Gen.Tables
import AcmedVerif.Spec.C08Obj

namespace AcmedVerif.Props.C08Obj
open AcmedVerif.AcmeObj AcmedVerif.Spec.C08Obj

open Lean in
/-- `chars! "text"`: the list of the characters of a string literal, written out at elaboration time.
The kernel is slow at `"…".toList` (UTF-8 encoded, then decoded again): texts to be evaluated are given
as character lists, and where a statement holds a literal its `toList` is rewritten with
`String.toList_ofList` first (a literal unifies with `String.ofList _` for free). -/
macro "chars!" s:str : term => do
  let elems := s.getString.toList.toArray.map fun c => Syntax.mkCharLit c
  `([$elems,*])

/-- A non-2xx answer is never classified as a success, whatever its content type and body — neither by
`post` nor by `get` — and the step never proceeds on it. -/
theorem non_2xx_never_success (aw : Awaited) (status : Nat) (ct : Option String) (body : String)
    (h : is2xx status = false) :
    classifyAnswer status ct body ≠ .success ∧ classifyGet status ct body ≠ .success ∧
    stepOutcome aw status ct body ≠ .proceeds ∧ stepOutcomeGet aw status ct body ≠ .proceeds := by
  have h1 : classifyAnswer status ct body ≠ .success := by
    unfold classifyAnswer
    simp only [h, Bool.false_eq_true, if_false]
    cases parseProblem body <;> simp
  have h2 : classifyGet status ct body ≠ .success := by
    simp [classifyGet, h]
  refine ⟨h1, h2, ?_, ?_⟩
  · unfold stepOutcome
    cases hc : classifyAnswer status ct body with
    | success => exact absurd hc h1
    | acmeError ty r => cases r <;> simp
    | otherFailure => simp
  · simp [stepOutcomeGet, classifyGet, h]

/-- A 2xx answer whose body does not read as the awaited object makes the step FAIL (it is neither
used nor retried): POST steps and the directory GET alike. -/
theorem unparsable_2xx_fails (aw : Awaited) (status : Nat) (ct : Option String) (body : String)
    (h : is2xx status = true) (hb : bodyParses aw body = false) :
    stepOutcome aw status ct body = .fails ∧ stepOutcomeGet aw status ct body = .fails := by
  simp [stepOutcome, stepOutcomeGet, classifyAnswer, classifyGet, h, hb]

/-- … and a 2xx answer whose body does read lets it proceed: the hypothesis of the previous theorem is
exactly what decides. -/
theorem parsable_2xx_proceeds (aw : Awaited) (status : Nat) (ct : Option String) (body : String)
    (h : is2xx status = true) (hb : bodyParses aw body = true) :
    stepOutcome aw status ct body = .proceeds ∧ stepOutcomeGet aw status ct body = .proceeds := by
  simp [stepOutcome, stepOutcomeGet, classifyAnswer, classifyGet, h, hb]

/-- The model's step satisfies the judge `Spec.C08Obj.neverSuccess`, where "the body reads" is replaced
by the member-by-member definition of a well-formed object. -/
theorem step_never_success (aw : Awaited) (status : Nat) (ct : Option String) (body : String) :
    neverSuccess aw status body (stepOutcome aw status ct body) = true ∧
    neverSuccess aw status body (stepOutcomeGet aw status ct body) = true := by
  unfold neverSuccess
  rw [← bodyParses_eq_validBody]
  cases h : is2xx status
  · obtain ⟨_, _, h3, h4⟩ := non_2xx_never_success aw status ct body h
    simp [h3, h4]
  · cases hb : bodyParses aw body
    · obtain ⟨h1, h2⟩ := unparsable_2xx_fails aw status ct body h hb
      simp [h1, h2]
    · simp

/-- The `Content-Type` of an answer plays no part (RFC 8555 §6.7 wants `application/problem+json` on
errors; the code reads ANY non-2xx body as a problem document and any 2xx body as the object). -/
theorem content_type_ignored (aw : Awaited) (status : Nat) (ct ct' : Option String) (body : String) :
    classifyAnswer status ct body = classifyAnswer status ct' body ∧
    stepOutcome aw status ct body = stepOutcome aw status ct' body := by
  simp [stepOutcome, classifyAnswer]

/-- What a POST step does with a non-2xx answer, in full: retried iff the body reads as a problem
document whose `type` is a recoverable error; otherwise it fails. -/
theorem non_2xx_retry_iff (aw : Awaited) (status : Nat) (ct : Option String) (body : String)
    (h : is2xx status = false) :
    stepOutcome aw status ct body = .retries ↔
      ∃ p, parseProblem body = .ok p ∧ isRecoverable p.acmeType = true := by
  unfold stepOutcome classifyAnswer
  simp only [h, Bool.false_eq_true, if_false]
  cases hp : parseProblem body with
  | error e => simp
  | ok p => cases hr : isRecoverable p.acmeType <;> simp [hr]

/-- `serde_json::from_str::<Order>` succeeds iff the text is JSON and the value is a well-formed order:
every key decodes, none of the nine known members twice, `status` one of the five RFC 8555 words (lower
case; or `{"word": null}`), `identifiers` an array of identifiers, `authorizations` an array of
strings, `finalize` a string — these four present —, `expires` / `notBefore` / `notAfter` /
`certificate` strings or `null` or absent, `error` a problem document or `null` or absent; or the array
of exactly these nine in declaration order. -/
theorem order_parse_iff (j : J) : isOk (rOrder j) = validOrder j := isOk_rOrder j

/-- The other readers likewise, each against its predicate of `Spec/C08Obj.lean`; the "iff" is an equation
of Booleans.  `rem` is the nesting budget left (128 for a text of its own). -/
theorem authorization_parse_iff (rem : Nat) (j : J) :
    isOk (rAuthorization rem j) = validAuthorization rem j := isOk_rAuthorization rem j

theorem challenge_parse_iff (rem : Nat) (j : J) : isOk (rChallenge rem j) = validChallenge rem j :=
  isOk_rChallenge rem j

theorem directory_parse_iff (j : J) : isOk (rDirectory j) = validDirectory j := isOk_rDirectory j

theorem account_parse_iff (rem : Nat) (j : J) : isOk (rAccount rem j) = validAccount rem j :=
  isOk_rAccount rem j

theorem problem_parse_iff (j : J) : isOk (rProblem j) = validProblem j := isOk_rProblem j

theorem identifier_parse_iff (j : J) : isOk (rIdentifier j) = validIdentifier j := isOk_rIdentifier j

theorem body_parse_iff (aw : Awaited) (body : String) : bodyParses aw body = validBody aw body :=
  bodyParses_eq_validBody aw body

/-- A text that is not JSON (as far as `ignore_value` demands) is no object of any kind. -/
theorem non_json_fails (s : String) (h : lex s = none) :
    parseOrder s = .error .syntax ∧ parseAuthorization s = .error .syntax ∧
    parseDirectory s = .error .syntax ∧ parseAccountResponse s = .error .syntax ∧
    parseChallenge s = .error .syntax ∧ parseProblem s = .error .syntax := by
  have h' : lexChars s.toList = none := h
  simp [parseOrder, parseAuthorization, parseDirectory, parseAccountResponse, parseChallenge, parseProblem,
    fromText, fromChars, h']

/-- Consequences spelled out for an order given as an object: each required member must be there. -/
theorem order_requires (ms : List (List Char × J)) (h : isOk (rOrder (.obj ms)) = true) :
    present "status" ms = true ∧ present "identifiers" ms = true ∧ present "authorizations" ms = true ∧
    present "finalize" ms = true := by
  rw [order_parse_iff] at h
  simp only [validOrder, orderRequired, List.all_cons, List.all_nil, Bool.and_true, Bool.and_eq_true] at h
  exact h.2

/-- … and its `status` member, wherever it stands, is one of the five RFC 8555 words. -/
theorem order_status_rfc8555 (ms : List (List Char × J)) (kv : List Char × J)
    (h : isOk (rOrder (.obj ms)) = true) (hm : kv ∈ ms) (hk : keyOf kv = some "status") :
    isWord false ["pending", "ready", "processing", "valid", "invalid"] kv.2 = true := by
  rw [order_parse_iff] at h
  simp only [validOrder, membersOk, Bool.and_eq_true, List.all_eq_true] at h
  simpa [memberOk, hk, orderFields, orderMemberOk, orderStatusNames] using h.1.2 kv hm

/-- A status word is matched exactly: the readers accept the lower-case RFC 8555 words and nothing else
(in particular no other case), and give the variant of that name. -/
theorem status_table_total :
    (∀ st : OrderStatus, rOrderStatus (.str st.name.toList) = .ok st) ∧
    (∀ st : AuthzStatus, rAuthzStatus (.str st.name.toList) = .ok st) ∧
    (∀ st : ChalStatus, rChalStatus (.str st.name.toList) = .ok st) ∧
    (∀ raw, isOk (rOrderStatus (.str raw)) = decodesTo raw ["pending", "ready", "processing", "valid", "invalid"]) ∧
    (∀ raw, isOk (rAuthzStatus (.str raw)) =
      decodesTo raw ["pending", "valid", "invalid", "deactivated", "expired", "revoked"]) ∧
    (∀ raw, isOk (rChalStatus (.str raw)) = decodesTo raw ["pending", "processing", "valid", "invalid"]) ∧
    [0, 1, 2, 3, 4].map (OrderStatus.name ∘ OrderStatus.ofIndex) = orderStatusNames ∧
    [0, 1, 2, 3, 4, 5].map (AuthzStatus.name ∘ AuthzStatus.ofIndex) = authzStatusNames ∧
    [0, 1, 2, 3].map (ChalStatus.name ∘ ChalStatus.ofIndex) = chalStatusNames := by
  refine ⟨?_, ?_, ?_, ?_, ?_, ?_, rfl, rfl, rfl⟩
  · intro st; cases st <;> rw [OrderStatus.name, String.toList_ofList] <;> decide +kernel
  · intro st; cases st <;> rw [AuthzStatus.name, String.toList_ofList] <;> decide +kernel
  · intro st; cases st <;> rw [ChalStatus.name, String.toList_ofList] <;> decide +kernel
  · intro raw; rw [isOk_rOrderStatus]; rfl
  · intro raw; rw [isOk_rAuthzStatus]; rfl
  · intro raw; rw [isOk_rChalStatus]; rfl

/-- A member whose name the struct does not know is ignored — wherever it stands and whatever its
value (any JSON value `lex` accepts: an unpaired surrogate, `1e999`, any nesting depth) — for orders,
authorizations, directories and problem documents: the RESULT (object or error) is the same as
without it; for accounts the `status` and `orders` read are the same.  (No `deny_unknown_fields` anywhere.) -/
theorem unknown_members_ignored (ms1 ms2 : List (List Char × J)) (k kc : List Char) (v : J)
    (hk : decodeStr k = some kc) :
    (orderFields.contains (String.ofList kc) = false →
      rOrder (.obj (ms1 ++ (k, v) :: ms2)) = rOrder (.obj (ms1 ++ ms2))) ∧
    (authzFields.contains (String.ofList kc) = false → ∀ rem,
      rAuthorization rem (.obj (ms1 ++ (k, v) :: ms2)) = rAuthorization rem (.obj (ms1 ++ ms2))) ∧
    (directoryFields.contains (String.ofList kc) = false →
      rDirectory (.obj (ms1 ++ (k, v) :: ms2)) = rDirectory (.obj (ms1 ++ ms2))) ∧
    (accountFields.contains (String.ofList kc) = false → ∀ rem,
      (rAccount rem (.obj (ms1 ++ (k, v) :: ms2))).toOption.map (fun a => (a.status, a.orders)) =
        (rAccount rem (.obj (ms1 ++ ms2))).toOption.map (fun a => (a.status, a.orders))) ∧
    (problemFields.contains (String.ofList kc) = false →
      rProblem (.obj (ms1 ++ (k, v) :: ms2)) = rProblem (.obj (ms1 ++ ms2))) := by
  refine ⟨fun hu => ?_, fun hu rem => ?_, fun hu => ?_, fun hu rem => ?_, fun hu => ?_⟩
  -- every reader starts with the scan, and the scan skips the member
  all_goals
    simp only [rOrder, rAuthorization, rDirectory, rAccount, rProblem, problemMap,
      scanFields_unknown_member _ _ _ ms1 ms2 k kc v hk hu]

/-- Inside a challenge object an unknown member is NOT free: serde buffers the whole object, so the
member must be fully readable; an unreadable one makes a challenge — and with it the authorization —
fail, although the same member in an order is ignored. -/
theorem challenge_unknown_member_is_read :
    isOk (fromChars (rChallenge 128) (chars! "{\"type\":\"http-01\",\"url\":\"u\",\"token\":\"t\",\"x\":1e999}")) = false ∧
    isOk (fromChars (rChallenge 128) (chars! "{\"type\":\"http-01\",\"url\":\"u\",\"token\":\"t\",\"x\":1e99}")) = true ∧
    isOk (fromChars rOrder (chars! "{\"status\":\"ready\",\"identifiers\":[],\"authorizations\":[],\"finalize\":\"f\",\"x\":1e999}")) = true ∧
    isOk (fromChars rProblem (chars! "{\"type\":\"urn:ietf:params:acme:error:dns\",\"x\":1e999}")) = true := by
  decide +kernel

/-- Exactly seven error types are recoverable; the model's `acmeErrorOfType` / `isRecoverable`
reproduce the table generated from the COMPILED Rust code row by row (URN suffix, variant name,
`is_recoverable`), and agree with `Model/Http.lean`'s `ErrType` (the type the retry theorems of
`Props/C08.lean` are about). -/
theorem recoverable_exactly_seven :
    AcmeError.all.filter isRecoverable =
      [.badNonce, .connection, .dns, .malformed, .rateLimited, .serverInternal, .tls] ∧
    (Gen.acmeErrors.filter (·.2.2)).map (·.1) =
      ["badNonce", "connection", "dns", "malformed", "rateLimited", "serverInternal", "tls"] ∧
    (∀ row ∈ Gen.acmeErrors,
      (acmeErrorOfType ("urn:ietf:params:acme:error:" ++ row.1)).rustName = row.2.1 ∧
      isRecoverable (acmeErrorOfType ("urn:ietf:params:acme:error:" ++ row.1)) = row.2.2) ∧
    (∀ t ∈ Http.ErrType.all,
      (acmeErrorOfType (Http.ErrType.urnPrefix ++ t.suffix)).rustName = t.rustName ∧
      isRecoverable (acmeErrorOfType (Http.ErrType.urnPrefix ++ t.suffix)) = Http.recoverable t) := by
  -- `Http.ErrType` lists the rows of the generated table, so one sweep of that table serves for both
  have rows : Http.ErrType.all.map (fun t => (t.suffix, t.rustName, Http.recoverable t)) = Gen.acmeErrors := rfl
  exact ⟨by decide +kernel, rfl,
    (fun sweep => ⟨sweep, List.forall_mem_map.1 (rows ▸ sweep)⟩) (by decide +kernel)⟩

theorem acmeError_all_complete (e : AcmeError) : e ∈ AcmeError.all := by
  cases e <;> decide +kernel

/-- A problem document without a `type` (absent or `null`) is `about:blank`, hence `Unknown`, hence
not recoverable: a non-2xx answer carrying it makes the step fail at once. -/
theorem problem_without_type_is_not_recoverable (p : Problem) (h : p.type = none) :
    p.getType = "about:blank" ∧ p.acmeType = .unknown ∧ isRecoverable p.acmeType = false := by
  have h1 : p.getType = "about:blank" := by simp [Problem.getType, h]
  have h2 : p.acmeType = .unknown := by
    simp only [Problem.acmeType, h1]
    decide +kernel
  exact ⟨h1, h2, by rw [h2]; rfl⟩

theorem untyped_problem_fails (aw : Awaited) (status : Nat) (ct : Option String) (body : String) (p : Problem)
    (h : is2xx status = false) (hp : parseProblem body = .ok p) (ht : p.type = none) :
    classifyAnswer status ct body = .acmeError .unknown false ∧ stepOutcome aw status ct body = .fails := by
  obtain ⟨_, h2, _⟩ := problem_without_type_is_not_recoverable p ht
  simp [stepOutcome, classifyAnswer, h, hp, h2, isRecoverable]

/-- A type that is no URN of the table (a near miss in case, with a space, a bare suffix) is `Unknown`,
not recoverable. -/
theorem unknown_type_is_not_recoverable :
    acmeErrorOfType "urn:ietf:params:acme:error:BadNonce" = .unknown ∧
    acmeErrorOfType "urn:ietf:params:acme:error:badNonce " = .unknown ∧
    acmeErrorOfType "badNonce" = .unknown ∧ acmeErrorOfType "" = .unknown ∧
    isRecoverable .unknown = false ∧ isRecoverable .unauthorized = false := by
  decide +kernel

/-- `parseOrder s` is `fromChars rOrder s.toList` (and so on) by definition: the examples below give the
characters directly. -/
theorem parse_is_fromChars (s : String) :
    parseOrder s = fromChars rOrder s.toList ∧ parseAuthorization s = fromChars (rAuthorization 128) s.toList ∧
    parseDirectory s = fromChars rDirectory s.toList ∧ parseProblem s = fromChars rProblem s.toList ∧
    parseChallenge s = fromChars (rChallenge 128) s.toList ∧
    parseAccountResponse s = fromChars (rAccount 128) s.toList :=
  ⟨rfl, rfl, rfl, rfl, rfl, rfl⟩

def leOrder : List Char := chars!
  "{\n  \"status\": \"ready\",\n  \"expires\": \"2026-10-04T21:06:43Z\",\n  \"identifiers\": [\n    {\"type\": \"dns\", \"value\": \"example.org\"},\n    {\"type\": \"dns\", \"value\": \"www.example.org\"}\n  ],\n  \"authorizations\": [\n    \"https://acme-v02.api.letsencrypt.org/acme/authz/1234/5678\",\n    \"https://acme-v02.api.letsencrypt.org/acme/authz/1234/5679\"\n  ],\n  \"finalize\": \"https://acme-v02.api.letsencrypt.org/acme/finalize/1234/91011\",\n  \"profile\": \"classic\"\n}"

def leOrderObj : Order where
  status := .ready
  expires := some "2026-10-04T21:06:43Z"
  identifiers := [{ idType := .dns, value := "example.org" }, { idType := .dns, value := "www.example.org" }]
  notBefore := none
  notAfter := none
  error := none
  authorizations := ["https://acme-v02.api.letsencrypt.org/acme/authz/1234/5678",
                     "https://acme-v02.api.letsencrypt.org/acme/authz/1234/5679"]
  finalize := "https://acme-v02.api.letsencrypt.org/acme/finalize/1234/91011"
  certificate := none

/-- The order is read, the unknown member `profile` ignored. -/
example : fromChars rOrder leOrder = .ok leOrderObj := by decide +kernel

/-- Mutations that must fail: `finalize` missing, an upper-case status, a status that is no RFC 8555
word, a duplicate `status`, `finalize: null`, a truncated text; each with the error serde names. -/
example :
    fromChars rOrder (chars! "{\"status\":\"ready\",\"identifiers\":[],\"authorizations\":[]}") = .error (.missingField "finalize") ∧
    fromChars rOrder (chars! "{\"status\":\"READY\",\"identifiers\":[],\"authorizations\":[],\"finalize\":\"f\"}") = .error .unknownVariant ∧
    fromChars rOrder (chars! "{\"status\":\"done\",\"identifiers\":[],\"authorizations\":[],\"finalize\":\"f\"}") = .error .unknownVariant ∧
    fromChars rOrder (chars! "{\"status\":\"ready\",\"status\":\"ready\",\"identifiers\":[],\"authorizations\":[],\"finalize\":\"f\"}")
      = .error (.duplicateField "status") ∧
    fromChars rOrder (chars! "{\"status\":\"ready\",\"identifiers\":[],\"authorizations\":[],\"finalize\":null}") = .error .invalidType ∧
    fromChars rOrder (chars! "{\"status\":\"ready\",\"identifiers\":[],\"authorizations\":[],\"finali") = .error .syntax := by
  decide +kernel

/-- serde's alternative notations ARE accepted: an order as the array of its nine fields, a status as
`{"ready": null}`; a member name written with an escape is the member. -/
example :
    isOk (fromChars rOrder (chars! "[\"ready\",null,[[\"dns\",\"a.example\"]],null,null,null,[],\"f\",null]")) = true ∧
    isOk (fromChars rOrder (chars! "{\"status\":{\"ready\":null},\"identifiers\":[],\"authorizations\":[],\"finalize\":\"f\"}")) = true ∧
    fromChars rOrder (chars! "{\"st\\u0061tus\":\"ready\",\"status\":\"ready\",\"identifiers\":[],\"authorizations\":[],\"finalize\":\"f\"}")
      = .error (.duplicateField "status") := by
  decide +kernel

/-- The step: a 2xx answer with a good body proceeds; the same body under 500 fails; an upper-case status
under 200 fails (strings, short because the kernel is slow at `String.toList`). -/
example :
    stepOutcome .order 200 none "{\"status\":\"ready\",\"identifiers\":[],\"authorizations\":[],\"finalize\":\"f\"}" = .proceeds ∧
    stepOutcome .order 500 none "{\"status\":\"ready\",\"identifiers\":[],\"authorizations\":[],\"finalize\":\"f\"}" = .fails ∧
    stepOutcome .order 200 none "{\"status\":\"READY\",\"identifiers\":[],\"authorizations\":[],\"finalize\":\"f\"}" = .fails := by
  refine ⟨?_, ?_, ?_⟩
  all_goals
    rw [stepOutcome, classifyAnswer, bodyParses, parseOrder, parseProblem, fromText, fromText, String.toList_ofList]
    decide +kernel

def leAuthz : List Char := chars!
  "{\"identifier\":{\"type\":\"dns\",\"value\":\"example.org\"},\"status\":\"pending\",\"expires\":\"2026-10-04T21:06:43Z\",\"challenges\":[{\"type\":\"http-01\",\"url\":\"https://acme-v02.api.letsencrypt.org/acme/chall/1/2/AbC\",\"status\":\"pending\",\"token\":\"LoqXcYV8q5ONbJQxbmR7SCTNo3tiAXDfowyjxAjEuX0\"},{\"type\":\"dns-account-01\",\"url\":\"https://acme-v02.api.letsencrypt.org/acme/chall/1/2/DeF\",\"status\":\"pending\",\"token\":\"LoqXcYV8q5ONbJQxbmR7SCTNo3tiAXDfowyjxAjEuX0\"}]}"

/-- An authorization with a challenge type the code does not know: the flow's reader
(`response.json::<Authorization>()`, the derive alone) KEEPS it as `Challenge::Unknown`; only
`Authorization::from_str` (used by the crate's unit tests alone) filters it out. -/
example :
    ((fromChars (rAuthorization 128) leAuthz).toOption.map fun a => a.challenges.length) = some 2 ∧
    ((fromChars (rAuthorization 128) leAuthz).toOption.map fun a => a.challenges.getLast?) = some (some .unknown) ∧
    ((fromChars (rAuthorization 128) leAuthz).toOption.map fun a =>
      (a.challenges.filter (· ≠ .unknown)).length) = some 1 := by
  decide +kernel

/-- Problem documents: a recoverable type is retried, `unauthorized` fails, an untyped / non-JSON /
ill-typed body fails; the content type does not matter; `get` never reads the body. -/
example :
    classifyAnswer 400 (some "application/problem+json") "{\"type\":\"urn:ietf:params:acme:error:badNonce\",\"status\":400}"
      = .acmeError .badNonce true ∧
    stepOutcome .order 400 (some "text/html") "{\"type\":\"urn:ietf:params:acme:error:badNonce\",\"status\":400}" = .retries ∧
    stepOutcome .order 403 none "{\"type\":\"urn:ietf:params:acme:error:unauthorized\"}" = .fails ∧
    stepOutcome .order 500 none "{\"detail\":\"no type\"}" = .fails ∧
    classifyAnswer 502 none "<html>Bad Gateway</html>" = .otherFailure ∧
    classifyAnswer 400 none "{\"type\":\"urn:ietf:params:acme:error:badNonce\",\"status\":\"400\"}" = .otherFailure ∧
    classifyGet 404 none "{\"type\":\"urn:ietf:params:acme:error:badNonce\"}" = .otherFailure := by
  decide +kernel

def leDirectory : List Char := chars!
  "{\"keyChange\":\"https://acme-v02.api.letsencrypt.org/acme/key-change\",\"meta\":{\"caaIdentities\":[\"letsencrypt.org\"],\"termsOfService\":\"https://letsencrypt.org/documents/LE-SA-v1.5.pdf\",\"website\":\"https://letsencrypt.org\"},\"newAccount\":\"https://acme-v02.api.letsencrypt.org/acme/new-acct\",\"newNonce\":\"https://acme-v02.api.letsencrypt.org/acme/new-nonce\",\"newOrder\":\"https://acme-v02.api.letsencrypt.org/acme/new-order\",\"renewalInfo\":\"https://acme-v02.api.letsencrypt.org/acme/renewal-info\",\"revokeCert\":\"https://acme-v02.api.letsencrypt.org/acme/revoke-cert\"}"

example : isOk (fromChars rDirectory leDirectory) = true ∧
    fromChars rDirectory (chars! "{\"newNonce\":\"a\",\"newAccount\":\"b\",\"revokeCert\":\"d\",\"keyChange\":\"e\"}")
      = .error (.missingField "newOrder") := by
  decide +kernel

end AcmedVerif.Props.C08Obj
