/-
C18 — "An https endpoint is used only if its certificate chain validates for the URL's host name
against the system trust store extended by exactly the root certificates given with --root-cert, in
the endpoint's root_certificates and in the global root_certificates; otherwise the attempt fails and
no ACME request, hence no signature by the account key, reaches that server."

PARTIAL CLAIM.  These theorems are about acmed's wiring (`Model/Trust.lean`).  X.509 path validation,
the host-name check and "no application data before the handshake completes" are native-tls/OpenSSL's:
they are the uninterpreted parameter `validates` and the assumption built into `Trust.transfer`
(modelled, not verified; exercised by the harness's TLS grid).  `no_danger_calls` ties the assumption
"the library's validation is switched on" to a scan of the source.
-/
import AcmedVerif.Model.Trust
import AcmedVerif.Lemmas.Trust
import AcmedVerif.Spec.C18
import AcmedVerif.Gen.Trust

namespace AcmedVerif.Props.C18
open AcmedVerif.Trust

/-- **C18.1, "exactly the root certificates given".** The list handed to every client is the
concatenation command line ++ endpoint ++ global (an absent key contributes nothing): same order,
same multiplicity, and a file is listed iff one of the three sources names it. -/
theorem roots_exact (cli ep gl : List Path) (es gs : Bool) :
    rootList cli ep gl es gs = cli ++ (if es then ep else []) ++ (if gs then gl else []) ∧
    (∀ p, p ∈ rootList cli ep gl es gs ↔
      p ∈ cli ∨ (es = true ∧ p ∈ ep) ∨ (gs = true ∧ p ∈ gl)) ∧
    (∀ p, (rootList cli ep gl es gs).count p =
      cli.count p + (if es then ep.count p else 0) + (if gs then gl.count p else 0)) := by
  refine ⟨rootList_eq cli ep gl es gs, ?_, ?_⟩
  · intro p
    rw [rootList_eq]
    cases es <;> cases gs <;> simp
  · intro p
    rw [rootList_eq]
    cases es <;> cases gs <;> simp [List.count_append, Nat.add_assoc]

/-- … and the store of a client that could be built is the system store plus exactly those files
(`fs` = what the file system holds at each path, any function). -/
theorem store_exact (fs : Path → RootFile) (cli ep gl : List Path) (es gs : Bool) (st : Store)
    (h : getClient (withFs fs (rootList cli ep gl es gs)) = some st) :
    st = { builtin := true, added := rootList cli ep gl es gs } ∧
    ∀ p ∈ rootList cli ep gl es gs, fs p = RootFile.readablePem := by
  rw [getClient_eq, withFs_map_fst] at h
  split at h
  · exact ⟨(Option.some.inj h).symm, fun p hp =>
      (rootFilesOk_iff _).1 ‹_› (p, fs p) (List.mem_map.2 ⟨p, hp, rfl⟩)⟩
  · cases h

section
variable {Chain Host : Type} (validates : Chain → Host → Store → Bool) (maxRounds : Nat)

/-- **C18.2 (bad root file).** If any listed root file is unreadable or malformed then, for every
sequence of attempts, every sequence of calls in them and whatever the network presents: nothing is
transmitted (not even a handshake is started: every event is `clientFailed`), and every attempt
that makes at least one call fails. -/
theorem bad_root_file_no_request (roots : List (Path × RootFile))
    (hbad : ∃ r ∈ roots, r.2 ≠ RootFile.readablePem) (as : List (List (Call Chain Host))) :
    sentCount (attempts validates maxRounds roots as) = 0 ∧
    signedSentCount (attempts validates maxRounds roots as) = 0 ∧
    (∀ e ∈ attempts validates maxRounds roots as, e = Ev.clientFailed) ∧
    (∀ a ∈ as, a ≠ [] → (attempt validates maxRounds roots a).2 = false) := by
  have hs := getClient_none_of_bad roots hbad
  have hsil := attempts_noClient_silent validates maxRounds roots hs as
  refine ⟨hsil.sentCount, hsil.signedSentCount, ?_,
    fun a _ => (attempt_untrusted validates maxRounds roots a
      fun _ hst => nomatch hs.symm.trans hst).2⟩
  clear hsil
  induction as with
  | nil => exact fun _ he => nomatch he
  | cons a rest ih =>
    intro e he
    rcases List.mem_append.mp he with he | he
    · rw [attempt_noClient validates maxRounds roots hs a] at he
      cases a with
      | nil => cases he
      | cons c cs => exact List.mem_singleton.mp he
    · exact ih e he

/-- **C18.1 (wiring).** In every trace of any number of attempts, every transmitted request is
immediately preceded — same exchange, same connection — by a successful handshake, and that
connection's chain validates for its host against system ∪ (command line ++ endpoint ++ global). -/
theorem request_implies_validated (fs : Path → RootFile) (cli ep gl : List Path) (es gs : Bool)
    (as : List (List (Call Chain Host)))
    (pre post : List (Ev Chain Host)) (c : Conn Chain Host) (s : Bool)
    (h : attempts validates maxRounds (withFs fs (rootList cli ep gl es gs)) as =
      pre ++ Ev.requestSent c s :: post) :
    (∃ pre', pre = pre' ++ [Ev.handshakeOk c]) ∧
    validates c.chain c.host { builtin := true, added := rootList cli ep gl es gs } = true := by
  have hb : Blocks (Valid validates { builtin := true, added := rootList cli ep gl es gs })
      (attempts validates maxRounds (withFs fs (rootList cli ep gl es gs)) as) := by
    cases hs : getClient (withFs fs (rootList cli ep gl es gs)) with
    | none => exact (attempts_noClient_silent validates maxRounds _ hs as).blocks
    | some st =>
      have := (store_exact fs cli ep gl es gs st hs).1
      subst this
      exact attempts_blocks validates maxRounds _ _ hs as
  obtain ⟨pre', hp, hv⟩ := hb.sent_preceded pre post c s h
  exact ⟨⟨pre', hp⟩, hv⟩

/-- **C18.2 (no signature without trust), per connection.** A connection whose chain does not
validate against system ∪ configured roots never carries a request, signed or not, in any trace of
any number of attempts — whatever else happens on other connections. -/
theorem no_signature_without_trust (fs : Path → RootFile) (cli ep gl : List Path) (es gs : Bool)
    (as : List (List (Call Chain Host))) (c : Conn Chain Host)
    (hbad : validates c.chain c.host { builtin := true, added := rootList cli ep gl es gs } = false)
    (s : Bool) :
    Ev.requestSent c s ∉ attempts validates maxRounds (withFs fs (rootList cli ep gl es gs)) as := by
  intro hmem
  obtain ⟨pre, post, h⟩ := List.append_of_mem hmem
  have := (request_implies_validated validates maxRounds fs cli ep gl es gs as pre post c s h).2
  rw [hbad] at this
  cases this

/-- **C18.2 (no signature without trust), whole endpoint.** If none of the connections the attempts
may open presents a chain that validates against system ∪ configured roots (the endpoint is not
trusted), then in any trace of any number of attempts NO request at all — signed or unsigned — is
transmitted, and every attempt that makes at least one call fails.  (Root files may be good or
bad: the bad case is `bad_root_file_no_request`.) -/
theorem untrusted_endpoint_no_request (fs : Path → RootFile) (cli ep gl : List Path) (es gs : Bool)
    (as : List (List (Call Chain Host)))
    (hbad : ∀ a ∈ as, ∀ cl ∈ a, ∀ c ∈ cl.conns,
      validates c.chain c.host { builtin := true, added := rootList cli ep gl es gs } = false) :
    sentCount (attempts validates maxRounds (withFs fs (rootList cli ep gl es gs)) as) = 0 ∧
    signedSentCount (attempts validates maxRounds (withFs fs (rootList cli ep gl es gs)) as) = 0 ∧
    (∀ a ∈ as, a ≠ [] →
      (attempt validates maxRounds (withFs fs (rootList cli ep gl es gs)) a).2 = false) := by
  -- a client, if one can be built, has exactly that store
  have hbad' : ∀ st, getClient (withFs fs (rootList cli ep gl es gs)) = some st →
      ∀ a ∈ as, ∀ cl ∈ a, ∀ c ∈ cl.conns, validates c.chain c.host st = false :=
    fun st hst => (store_exact fs cli ep gl es gs st hst).1 ▸ hbad
  have hsil := attempts_untrusted validates maxRounds _ as hbad'
  exact ⟨hsil.sentCount, hsil.signedSentCount, fun a ha =>
    (attempt_untrusted validates maxRounds _ a (fun st hst => hbad' st hst a ha)).2⟩

end

/-- The library's validation is never switched off and the built-in (system) roots are kept: the
source scan (regenerated on every run) finds no `danger_accept_invalid_certs`,
`danger_accept_invalid_hostnames` or `tls_built_in_root_certs(false)` call. -/
theorem no_danger_calls : Gen.dangerCalls = [] ∧ Gen.builtinRootsDisabled = false := by
  decide

/-- acmed/src adds trust anchors (or touches the TLS back end at all) in at most ONE place — the loop over
the endpoint's configured root files that `Trust.loadRoots` transliterates (in
`http::get_client`; the name is not part of the claim) — source scan, regenerated on every run. -/
theorem roots_added_in_one_place : Gen.rootAdders.length ≤ 1 := by
  decide

/-- The model's prediction for a grid scenario always satisfies the judge: with the scenario's
ground truth as `validates`, whatever the root files and the (non-empty) call sequence. -/
theorem model_satisfies_spec (chainValid : Bool) (files : List (Path × RootFile))
    (calls : List (Call Unit Unit)) (hne : calls ≠ []) :
    Spec.C18.holds
      { chainValid := chainValid, rootFilesOk := rootFilesOk files,
        requestsSeen := (predict chainValid files calls).1,
        signedRequestsSeen := (predict chainValid files calls).2.1,
        attemptOk := (predict chainValid files calls).2.2 } = true := by
  unfold Spec.C18.holds
  split
  next hcond =>
    simp only [predict]
    have key := attempt_untrusted (fun (_ _ : Unit) (_ : Store) => chainValid) 10 files calls
      (fun st hst _ _ _ _ => by
        have hok : rootFilesOk files = true := by rw [← getClient_isSome, hst]; rfl
        rw [hok] at hcond
        cases chainValid
        · rfl
        · cases hcond)
    simp [key.1.sentCount, key.1.signedSentCount, key.2 hne]
  next => rfl

/-! ## Non-vacuity -/

private def c0 : Conn Unit Unit := ⟨(), (), true⟩
private def r0 : Round Unit Unit := ⟨true, c0, true, c0, false⟩

/-- Trusted chain, good files: requests do flow (3 transfers, 1 signed), the attempt succeeds. -/
example : predict true [("/etc/ca.pem", .readablePem)] [.get c0, .post [r0]] = (3, 1, true) := by
  decide +kernel

/-- Untrusted chain: nothing flows. -/
example : predict false [("/etc/ca.pem", .readablePem)] [.get c0, .post [r0]] = (0, 0, false) := by
  decide +kernel

/-- A bad file among good ones: nothing flows although the chain would validate. -/
example : predict true [("/a.pem", .readablePem), ("/b.pem", .malformed)] [.get c0, .post [r0]]
    = (0, 0, false) := by decide +kernel

/-- `hbad` of `bad_root_file_no_request` is satisfiable. -/
example : ∃ r ∈ [(("/a.pem" : Path), RootFile.readablePem), ("/b.pem", .unreadable)],
    r.2 ≠ RootFile.readablePem := ⟨("/b.pem", .unreadable), by simp, by simp⟩

/-- What C18 does NOT say (and the code does not guarantee): with a nonce cached from an earlier,
trusted exchange, `post` calls the data builder BEFORE it connects, so a JWS is built locally even
when the handshake then fails; it is never transmitted. -/
example :
    (attempt (fun (_ _ : Unit) (_ : Store) => false) 10 [] [.post [⟨false, c0, true, c0, false⟩]]).1
      = [.clientBuilt, .jwsBuilt, .handshakeFailed c0] := by decide +kernel

/-- The three sources really are concatenated in that order, duplicates kept. -/
example : rootList ["/cli.pem"] ["/ep.pem", "/cli.pem"] ["/gl.pem"] true true
    = ["/cli.pem", "/ep.pem", "/cli.pem", "/gl.pem"] := by decide +kernel
example : rootList ["/cli.pem"] ["/ep.pem"] ["/gl.pem"] false true = ["/cli.pem", "/gl.pem"] := by
  decide +kernel

end AcmedVerif.Props.C18
