/-
C07 — failures are contained and reported; the per-certificate loop keeps going, pauses after a
failure, runs the post-operation hooks exactly once per attempt.
Theorems about `Flow.attempt`, `Flow.renewOnce`, `Flow.renewLoop`; lemmas in `Lemmas/Flow.lean`.
For EVERY world (scripts of any length, any configuration, any files, any account state).

Not in this file: survival of the process at sites that are not modelled (validated by the fault
grid), and non-interference between certificates (needs `Locks`, C12).
-/
import AcmedVerif.Lemmas.Flow

namespace AcmedVerif.Props.C07
open AcmedVerif.Flow

def isPostOp : LoopEv → Bool
  | .postOp _ _ => true
  | _ => false

def isAttempt : LoopEv → Bool
  | .attempt _ _ => true
  | _ => false

/-- **Exactly one post-operation call per attempt, after it.**  Every round produced by the loop,
whatever the variant and the scripts, is: scheduling events, ONE attempt, ONE post-operation event
carrying `is_success = (result = ok)`, then at most a pause.  (A post-operation hook failure is
recorded in `hookOk` and changes nothing else: `main_event_loop.rs:212-221`.) -/
theorem post_op_exactly_once (v : Variant) (fw : Nat) (cfg : Cfg) (n : Nat) (w : World)
    (round : List LoopEv) (h : round ∈ renewLoop v fw cfg n w) :
    (∃ sevs r tr hk tail, round = sevs ++ [.attempt r tr, .postOp (r == .ok) hk] ++ tail ∧
      (∀ e ∈ sevs, isSched e = true) ∧ (tail = [] ∨ tail = [.pause fw])) ∧
    (round.filter isPostOp).length = 1 ∧ (round.filter isAttempt).length = 1 := by
  obtain ⟨w0, w', hr⟩ := renewLoop_mem n w h
  obtain ⟨sevs, scheds', r, tr, w1, hk, hks', hs, _, _, _, _, he⟩ := renewOnce_shape hr
  have hsev := scheduleLoop_events _ _ _ _ _ hs
  have hp : sevs.filter isPostOp = [] := by
    rw [List.filter_eq_nil_iff]
    intro e he'
    have := hsev e he'
    cases e <;> first | exact Bool.false_ne_true | cases this
  have ha : sevs.filter isAttempt = [] := by
    rw [List.filter_eq_nil_iff]
    intro e he'
    have := hsev e he'
    cases e <;> first | exact Bool.false_ne_true | cases this
  generalize htl : (if (!(r == Result.ok) && v.pauseAfterFail) = true then [LoopEv.pause fw]
      else []) = tail at he
  have ht : tail = [] ∨ tail = [.pause fw] := by
    rw [← htl]; split
    · exact .inr rfl
    · exact .inl rfl
  refine ⟨⟨sevs, r, tr, hk, tail, he, hsev, ht⟩, ?_, ?_⟩
  · rw [he]
    simp only [List.filter_append, hp]
    rcases ht with rfl | rfl <;> simp [List.filter, isPostOp]
  · rw [he]
    simp only [List.filter_append, ha]
    rcases ht with rfl | rfl <;> simp [List.filter, isAttempt]

/-- What "the new certificate and key have been installed" looks like on the trace: the
certificate was written and the last event is the successful post hook of that write. -/
def Installed (tr : List Ev) : Prop :=
  (∃ c, .writeCert c ∈ tr) ∧ tr.getLast? = some (.hooks .filePost true)

/-- **Success is reported iff installed** (any variant, any scripts that do not run out): the
attempt returns `ok` — which is exactly what `is_success` reports, see `post_op_exactly_once` — iff
the trace ends with the certificate write and its successful post hook. -/
theorem success_iff_installed (v : Variant) (cfg : Cfg) (w : World)
    (hs : (attempt v cfg w).1 ≠ .stuck) :
    (attempt v cfg w).1 = .ok ↔ Installed (attempt v cfg w).2.1 := by
  constructor
  · intro h
    obtain ⟨w', hr, hw⟩ := attempt_ok_inv h
    obtain ⟨_, _, body, _, _, _, _, htr, _⟩ := attempt_ok_trace hr
    rw [hw, htr]
    exact ⟨⟨body.certClass.content, by simp⟩,
      by rw [List.getLast?_append, List.getLast?_append]; rfl⟩
  · rintro ⟨⟨c, hc⟩, hl⟩
    rw [attempt_result_tag] at hs ⊢
    change Ev.writeCert c ∈ (attemptM v cfg { w with trace := [] }).2.trace at hc
    change (attemptM v cfg { w with trace := [] }).2.trace.getLast? = _ at hl
    rcases attempt_cases v cfg { w with trace := [] } with
      ⟨k, isNew, c', w1, _, ha⟩ | ⟨_, _, hw⟩
    · rw [ha] at hs hl ⊢
      rcases install_outcome v k isNew c' w1 with e | e | ⟨_, hf⟩
      · exact e
      · exact absurd e hs
      · exact absurd hl hf
    · rw [hw] at hc
      obtain ⟨es, he, hall⟩ := (NoCertWrite.obtainM v cfg).run { w with trace := [] }
      rw [he] at hc
      simp only [List.nil_append] at hc
      exact absurd (hall _ hc) (by simp [NoCertWrite])

/-- In the current tree a reported success moreover means: the certificate written is a chain for
the CSR key `k`, and `k` is the key beside it — written in this attempt, or the reused one. -/
theorem success_means_pair_installed (cfg : Cfg) (w : World)
    (h : (attempt .current cfg w).1 = .ok) :
    ∃ k, .csr k ∈ (attempt .current cfg w).2.1 ∧ .writeCert (.chain k) ∈ (attempt .current cfg w).2.1 ∧
      (.writeKey k ∈ (attempt .current cfg w).2.1 ∨ .readKey k ∈ (attempt .current cfg w).2.1) := by
  obtain ⟨w', hr, hw⟩ := attempt_ok_inv h
  obtain ⟨k, isNew, body, _, _, _, _, htr, _, _, hcsr, _, hwk, _, _, hpb⟩ := attempt_ok_trace hr
  rw [hw, htr, hpb rfl]
  refine ⟨k, by simp [hcsr], by simp [CertBody.content], ?_⟩
  cases isNew
  · exact .inr (by simp)
  · exact .inl (by simp [hwk rfl])

/-- **Bounded.** If every order the CA serves lists at most `A` authorisations and every
authorisation offers at most `c` challenges, one attempt makes at most
`11 + 2·P + A·(1 + c + P)` logical exchanges, `P = DEFAULT_POOL_NB_TRIES` (= `51 + A·(21 + c)`):
directory 1, account ≤ 5 (since 1fb1c1a a key roll-over is preceded by a check of the account),
newOrder ≤ 3, per authorisation 1 + c + P, order polls 2·P, finalize 1,
download 1.  With `Model/Http`'s bound on transmissions per exchange and the waits of `Gen/Consts`
this bounds the time of an attempt in which every request is answered or cut. -/
theorem attempt_bounded (v : Variant) (cfg : Cfg) (w : World) (A c : Nat)
    (h : ∀ r ∈ w.exs, SizeOk A c r) :
    exCount (attempt v cfg w).2.1 ≤ attemptBound A c := by
  show exCount (attemptM v cfg { w with trace := [] }).2.trace ≤ _
  obtain ⟨_, ⟨es, he, hc⟩, _⟩ := (SatB.attemptM (A := A) (c := c) v cfg).run { w with trace := [] } h
  rw [he]
  simpa using hc

theorem attemptBound_value (A c : Nat) : attemptBound A c = 51 + A * (21 + c) := by
  unfold attemptBound
  have : (1 + c + Gen.DEFAULT_POOL_NB_TRIES) = 21 + c := by
    simp [Gen.DEFAULT_POOL_NB_TRIES]; omega
  rw [this]
  simp [Gen.DEFAULT_POOL_NB_TRIES]

/-- Monitor for the pause clause over the events of one certificate, in order: after a failed
attempt no new attempt may start before a pause of at least `minSecs`. -/
def pauseOK (minSecs : Nat) : Bool → List LoopEv → Bool
  | _, [] => true
  | need, .attempt r _ :: rest => !need && pauseOK minSecs (r != .ok) rest
  | need, .pause s :: rest => pauseOK minSecs (need && decide (s < minSecs)) rest
  | need, _ :: rest => pauseOK minSecs need rest

theorem pauseOK_append_sched (m : Nat) (need : Bool) (sevs rest : List LoopEv)
    (h : ∀ e ∈ sevs, isSched e = true) :
    pauseOK m need (sevs ++ rest) = pauseOK m need rest := by
  induction sevs with
  | nil => rfl
  | cons e tl ih =>
    have ih' := ih fun x hx => h x (List.mem_cons_of_mem _ hx)
    cases e with
    | scheduled | scheduleErr => exact ih'
    | _ => exact absurd (h _ List.mem_cons_self) Bool.false_ne_true

/-- **Pause after failure (current tree), per round**: a failed attempt is followed, in its own
round, by the post-operation event and then a pause of the configured length. -/
theorem pause_after_failure_round (v : Variant) (hv : v.pauseAfterFail = true) (fw : Nat)
    (cfg : Cfg) (n : Nat) (w : World) (round : List LoopEv) (h : round ∈ renewLoop v fw cfg n w)
    (r : Result) (tr : List Ev) (hm : .attempt r tr ∈ round) (hr : r ≠ .ok) :
    ∃ sevs hk, round = sevs ++ [.attempt r tr, .postOp false hk, .pause fw] := by
  obtain ⟨w0, w', hro⟩ := renewLoop_mem n w h
  obtain ⟨sevs, scheds', r', tr', w1, hk, hks', hs, _, _, _, _, he⟩ := renewOnce_shape hro
  have hsev := scheduleLoop_events _ _ _ _ _ hs
  rw [he] at hm
  simp only [List.mem_append, List.mem_cons, List.not_mem_nil, or_false] at hm
  have hmm : LoopEv.attempt r tr = .attempt r' tr' := by
    rcases hm with (hm | hm | hm) | hm
    · have := hsev _ hm; simp [isSched] at this
    · exact hm
    · cases hm
    · split at hm <;> simp at hm
  simp only [LoopEv.attempt.injEq] at hmm
  obtain ⟨rfl, rfl⟩ := hmm
  have hb : (r == Result.ok) = false := by simpa using hr
  refine ⟨sevs, hk, ?_⟩
  rw [he, hb, hv]
  simp

/-- **Pause after failure (current tree), whole loop**: over any number of consecutive rounds, for
any pause constant `fw ≥ 1` s, no attempt starts after a failed attempt before a pause of at least
one second has been taken.  (The same induction gives `pauseOK fw`, the configured length, without
the bound on `fw`.) -/
theorem pause_after_failure (v : Variant) (hv : v.pauseAfterFail = true) (fw : Nat) (hfw : 1 ≤ fw)
    (cfg : Cfg) (n : Nat) (w : World) :
    pauseOK 1 false (renewLoop v fw cfg n w).flatten = true := by
  induction n generalizing w with
  | zero => simp [renewLoop, pauseOK]
  | succ n ih =>
    unfold renewLoop
    split
    · simp [pauseOK]
    · rename_i evs w' hro
      obtain ⟨sevs, scheds', r, tr, w1, hk, hks', hs, _, _, _, _, he⟩ := renewOnce_shape hro
      have hsev := scheduleLoop_events _ _ _ _ _ hs
      rw [List.flatten_cons, he, List.append_assoc, List.append_assoc,
        pauseOK_append_sched _ _ _ _ hsev]
      have h0 : decide (fw = 0) = false := by simp; omega
      cases hb : (r == Result.ok)
      · have hne : (r != Result.ok) = true := by simp [bne, hb]
        simp [pauseOK, hv, h0, ih, hne]
      · have hne : (r != Result.ok) = false := by simp [bne, hb]
        simp [pauseOK, ih, hne]

/-- Erase the inner trace of attempt events (to display a loop log). -/
def skel : LoopEv → LoopEv
  | .attempt r _ => .attempt r []
  | e => e

/-- **Historical behaviour violates the pause clause** (variant `old`, before d9677a7): no
certificate on disk, newOrder refused ⇒ the failed attempt is followed at once (zero scheduled
wait, no pause) by the next one. -/
theorem pause_old_is_false :
    ∃ cfg w, w.files.certFile = none ∧
      pauseOK 1 false (renewLoop .old 60 cfg 2 w).flatten = false ∧
      (renewLoop .old 60 cfg 2 w).flatten.map skel =
        [.scheduled 0, .attempt (.failed .newOrder) [], .postOp false true,
         .scheduled 0, .attempt (.failed .newOrder) [], .postOp false true] :=
  ⟨⟨false, [⟨1, false, .http01⟩]⟩,
   ⟨[.ok (.directory true), .acmeErr .other, .ok (.directory true), .acmeErr .other],
    [true, true], [], ⟨none, none⟩, 0, true, ⟨true, true, true, false, 100, 100, 100, true⟩, []⟩,
   by decide +kernel⟩

/-- The same script in the current tree: the pause is there. -/
example : (renewLoop .current 60 ⟨false, [⟨1, false, .http01⟩]⟩ 1
    ⟨[.ok (.directory true), .acmeErr .other], [true], [], ⟨none, none⟩, 0, true,
     ⟨true, true, true, false, 100, 100, 100, true⟩, []⟩).flatten.getLast? = some (.pause 60) := by
  decide +kernel

end AcmedVerif.Props.C07
