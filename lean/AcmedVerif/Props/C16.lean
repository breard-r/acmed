/-
C16 — "a TLS client offering acme-tls/1 receives a self-signed, currently valid certificate whose
only subjectAltName is the A-label dNSName of the domain and which carries the critical
acmeIdentifier extension holding exactly that digest, with acme-tls/1 negotiated. A client that
offers only other protocols is refused."
Theorems about `Model/Tacd.lean`. (`ext_bytes_exact` is composed in `Props/C16Ext.lean` from `parseDerConf`.)
-/
import AcmedVerif.Lemmas.Tacd
import AcmedVerif.Spec.C16

namespace AcmedVerif.Props.C16
open AcmedVerif.Idna AcmedVerif.Tacd

/-- **`alpn_selected_iff_offered`.** For EVERY byte string handed to the callback as client
protocol list, well formed or not:
* the answer is either `acme-tls/1` or a refusal (`ALERT_FATAL`), never anything else;
* it is `acme-tls/1` iff the list STARTS with a well-formed non-empty element (OpenSSL's first
  check, `ssl_lib.c:3545-3551`) and `acme-tls/1` is among the elements of its well-formed prefix
  (`parsePrefix`: the walk by length prefixes stops silently at the first truncated element;
  bytes after that point are ignored; an empty element in the middle is skipped over).
So a malformed list is refused unless its well-formed prefix already offers `acme-tls/1` and does
not begin with an empty name. (Such lists never reach the callback in a real handshake: see
`malformed_never_negotiates`.) -/
theorem alpn_selected_iff_offered (client : List UInt8) :
    (alpnSelect client = some acmeProto ∨ alpnSelect client = none) ∧
    (alpnSelect client = some acmeProto ↔
      (∃ first, firstProto client = some first ∧ first ≠ []) ∧
        acmeProto ∈ parsePrefix client) := by
  rw [alpnSelect_eq, firstProto_eq]
  cases h : getLP1 client with
  | none => exact ⟨.inr rfl, (fun h' => nomatch h'), fun ⟨⟨_, h', _⟩, _⟩ => nomatch h'⟩
  | some pr =>
    obtain ⟨first, rest⟩ := pr
    simp only [Option.map_some, Option.some.injEq]
    by_cases hf : first.length = 0
    · rw [if_pos hf]
      exact ⟨.inr rfl, (fun h' => nomatch h'),
        fun ⟨⟨x, hx, hne⟩, _⟩ => absurd (hx ▸ List.eq_nil_of_length_eq_zero hf) hne⟩
    · rw [if_neg hf]
      by_cases hc : clientLoop client.length client acmeProto = true
      · rw [if_pos hc]
        exact ⟨.inl rfl, fun _ => ⟨⟨first, rfl, fun e => hf (e ▸ rfl)⟩, (clientLoop_iff _ _ _).1 hc⟩, fun _ => rfl⟩
      · rw [if_neg hc]
        exact ⟨.inr rfl, (fun h' => nomatch h'), fun ⟨_, hm⟩ => absurd ((clientLoop_iff _ _ _).2 hm) hc⟩

/-- For a list of protocol names that fits the wire format (every name 1..255 bytes): negotiated
iff offered, refused otherwise (so the empty list is refused). -/
theorem alpn_names (names : List (List UInt8)) (h : NamesOk names) :
    (alpnSelect (encodeProtos names) = some acmeProto ↔ acmeProto ∈ names) ∧
    (acmeProto ∉ names → alpnSelect (encodeProtos names) = none) := by
  have hiff : alpnSelect (encodeProtos names) = some acmeProto ↔ acmeProto ∈ names := by
    rw [(alpn_selected_iff_offered _).2, parsePrefix_encode names h]
    constructor
    · exact fun h' => h'.2
    · intro hm
      refine ⟨?_, hm⟩
      unfold firstProto
      rw [parsePrefix_encode names h]
      cases names with
      | nil => simp at hm
      | cons p ps =>
        refine ⟨p, rfl, ?_⟩
        intro e
        have := (h p List.mem_cons_self).1
        rw [e] at this
        simp at this
  refine ⟨hiff, fun hn => ?_⟩
  rcases (alpn_selected_iff_offered (encodeProtos names)).1 with h' | h'
  · exact absurd (hiff.1 h') hn
  · exact h'

/-- Server side, well-formed offer: `acme-tls/1` is negotiated if offered, else the fatal alert. -/
theorem alpn_outcome_names (names : List (List UInt8)) (h : NamesOk names) (hne : names ≠ []) :
    alpnOutcome (some (encodeProtos names)) =
      if acmeProto ∈ names then .negotiated acmeProto else .fatalNoApplicationProtocol := by
  simp only [alpnOutcome, wireValid_encode names h hne, if_true]
  by_cases hm : acmeProto ∈ names
  · rw [(alpn_names names h).1.2 hm, if_pos hm]
  · rw [(alpn_names names h).2 hm, if_neg hm]

/-- A ClientHello whose ALPN extension is malformed is never answered with a negotiated protocol
(it is refused with `decode_error` before the callback); one without ALPN extension goes on with
no protocol negotiated. -/
theorem malformed_never_negotiates (client : List UInt8) (h : wireValid client = false) :
    alpnOutcome (some client) = .fatalDecodeError ∧ alpnOutcome none = .noExtension := by
  simp [alpnOutcome, h]

/-- Examples of the boundary cases of `SSL_select_next_proto` (bytes as the callback would see
them): trailing garbage after a valid offer is ignored; a leading empty name hides a later
`acme-tls/1`; garbage in front hides it as well; an empty list is refused. -/
example :
    alpnSelect (encodeProtos [[104, 50], acmeProto] ++ [200, 1]) = some acmeProto ∧
    alpnSelect (0 :: encodeProtos [acmeProto]) = none ∧
    alpnSelect ([200, 1] ++ encodeProtos [acmeProto]) = none ∧
    alpnSelect [] = none ∧
    alpnSelect (encodeProtos [[104, 50], [104, 116, 116, 112, 47, 49, 46, 49]]) = none := by
  decide +kernel

/-- **`inputs_equivalent`.** What holds exactly:
* a value given by FLAG is used as is (NOT trimmed);
* a FILE gives `trim` of its whole content (interior line breaks are kept);
* STDIN gives `trim` of its first line only.
Hence, for a value `v` that is already trimmed and has no line feed inside, the three sources
yield `v`: the file may carry any white space (line feeds included) before and after, stdin any
white space other than a line feed before, any white space after, and anything at all after the
first line feed. -/
theorem inputs_equivalent (v pre post pre' post' rest : List Char)
    (hv : Trimmed v) (hnl : '\n' ∉ v)
    (hpre : AllWs pre) (hpost : AllWs post)
    (hpre' : AllWs pre') (hpre'nl : '\n' ∉ pre') (hpost' : AllWs post') (hpost'nl : '\n' ∉ post') :
    sourceValue (.flag v) = v ∧
    sourceValue (.file (pre ++ v ++ post)) = v ∧
    sourceValue (.stdin (pre' ++ v ++ post')) = v ∧
    sourceValue (.stdin (pre' ++ v ++ post' ++ '\n' :: rest)) = v := by
  have hnl' : '\n' ∉ pre' ++ v ++ post' := fun hm =>
    (List.mem_append.1 hm).elim (fun hm => (List.mem_append.1 hm).elim hpre'nl hnl) hpost'nl
  refine ⟨rfl, trim_eq pre v post hpre hpost hv, ?_, ?_⟩
  · simp only [sourceValue]
    rw [firstLine_of_no_nl _ hnl']
    exact trim_eq pre' v post' hpre' hpost' hv
  · simp only [sourceValue]
    rw [firstLine_append _ _ hnl', show firstLine ('\n' :: rest) = ['\n'] by simp [firstLine],
      List.append_assoc]
    refine trim_eq pre' v (post' ++ ['\n']) hpre' (fun c hc => ?_) hv
    rcases List.mem_append.1 hc with hc | hc
    · exact hpost' c hc
    · rw [List.mem_singleton.1 hc]; decide

/-- The sources are NOT equivalent beyond that: the flag value keeps surrounding white space
(`--domain " example.org"` is used with the blank, the same text in a file is trimmed), and a
two-line file keeps its line break where stdin stops at it. -/
theorem inputs_not_equivalent_in_general :
    sourceValue (.flag " a".toList) ≠ sourceValue (.file " a".toList) ∧
    sourceValue (.file "a\nb".toList) = "a\nb".toList ∧
    sourceValue (.stdin "a\nb".toList) = "a".toList := by
  -- the kernel would decode a literal's `toList` from its UTF-8 bytes, quadratically
  repeat rw [String.toList_ofList]
  decide +kernel

/-- Hypotheses of `inputs_equivalent` are satisfiable. -/
example : Trimmed "example.org".toList ∧ '\n' ∉ "example.org".toList ∧ AllWs " \t\n".toList := by
  repeat rw [String.toList_ofList]
  refine ⟨⟨fun c hc => ?_, fun c hc => ?_⟩, by decide +kernel, by unfold AllWs; decide +kernel⟩
  · cases hc; decide
  · cases hc; decide

/-- **`san_is_alabel`.** Whenever `init` gets as far as building the certificate: the only
subjectAltName handed to the builder is the result of `to_idna` on the (source-dependent, see above)
domain value; the extension is the `name=value` split, not `invalid`; self-signed, valid 7 days.
The A-label shape of that SAN is `Props/C01Ident.idna_label_shape` / `Props/C01Lower.tacd_san_full`. -/
theorem san_is_alabel (lowerStr : List Char → List Char) (p : Profile) (domain ext : Source)
    (spec : CertSpec) (h : certSpec lowerStr p domain ext = .ok spec) :
    toIdnaStr lowerStr p (sourceValue domain) = .ok spec.sanDns ∧
    spec.ext = splitExt (sourceValue ext) ∧ spec.ext ≠ .invalid ∧
    spec.selfSigned = true ∧ spec.validityDays = 7 := by
  unfold certSpec at h
  split at h
  · rename_i d hd
    split at h
    · exact absurd h (by simp)
    · rename_i e he
      simp only [InitRes.ok.injEq] at h
      subst h
      exact ⟨hd, rfl, fun e' => he e', rfl, rfl⟩
  · exact absurd h (by simp)
  · exact absurd h (by simp)

/-- **`split_ext_exact`.** For every extension text: it is accepted as `name=value` iff it contains
exactly one `=`; then `name` and `value` are the two sides. The empty text is accepted too and
means NO extension; everything else is "invalid acmeIdentifier extension". -/
theorem split_ext_exact (s : List Char) :
    (∀ name value, splitExt s = .ok name value ↔
      s = name ++ '=' :: value ∧ '=' ∉ name ∧ '=' ∉ value) ∧
    ((∃ name value, splitExt s = .ok name value) ↔ s.count '=' = 1) ∧
    (splitExt s = .noExt ↔ s = []) ∧
    (splitExt s = .invalid ↔ s ≠ [] ∧ s.count '=' ≠ 1) := by
  have hno : splitExt s = .noExt ↔ s = [] := by
    unfold splitExt
    cases s with
    | nil => simp
    | cons c cs =>
      simp only [List.isEmpty_cons, Bool.false_eq_true, if_false]
      constructor
      · intro h; split at h <;> exact absurd h (by simp)
      · intro h; exact absurd h (by simp)
  refine ⟨fun n v => splitExt_ok_iff s n v, splitExt_ok_iff_count s, hno, ?_⟩
  constructor
  · intro h
    refine ⟨fun e => ?_, fun hc => ?_⟩
    · rw [hno.2 e] at h; exact absurd h (by simp)
    · obtain ⟨n, v, h'⟩ := (splitExt_ok_iff_count s).2 hc
      rw [h'] at h; exact absurd h (by simp)
  · rintro ⟨hne, hc⟩
    cases hs : splitExt s with
    | noExt => exact absurd (hno.1 hs) hne
    | ok n v => exact absurd ((splitExt_ok_iff_count s).1 ⟨n, v, hs⟩) hc
    | invalid => rfl

/-- The text `acmed` renders for tls-alpn-01 splits as intended (prefix of a real value). -/
example : splitExt "1.3.6.1.5.5.7.1.31=critical,DER:04:20:ab".toList =
    .ok "1.3.6.1.5.5.7.1.31".toList "critical,DER:04:20:ab".toList := by
  repeat rw [String.toList_ofList]
  decide +kernel

def sampleDigest : List UInt8 := List.replicate 32 0xAB

def goodCert : Spec.C16.CertObs :=
  { dnsSans := ["xn--bcher-kva.example".toList], ipSanCount := 0, acmeExtPresent := true,
    acmeCritical := true, acmeValue := 0x04 :: 0x20 :: sampleDigest, selfSigned := true,
    notBeforeOk := true, notAfterOk := true }

def rawDomain : List Char := ['B', Char.ofNat 0xFC, 'c', 'h', 'e', 'r'] ++ ".Example\n".toList

/-- The model's constant and the judge's independent constant are the same protocol name, and it
is what RFC 8737 section 6.2 registers. -/
example : acmeProto = Spec.C16.acme ∧ acmeProto = "acme-tls/1".toList.map (fun c => UInt8.ofNat c.toNat) := by
  rw [String.toList_ofList]
  decide +kernel

/-- Accepted: the A-label SAN, critical extension with `04 20 ‖ digest`, acme-tls/1 negotiated;
a client offering only `h2` that was refused; a client without ALPN (no demand).
Rejected: the raw (non-IDNA) domain as SAN, a non-critical extension, a missing length prefix in
the extension value, no negotiated protocol, an extra IP SAN, a served `h2`-only client. -/
example :
    let alabel := "xn--bcher-kva.example".toList
    let ok : Spec.C16.Obs := { handshakeOk := true, negotiated := some Spec.C16.acme, cert := some goodCert }
    Spec.C16.holds rawDomain alabel sampleDigest [[104, 50], Spec.C16.acme] ok = true ∧
    Spec.C16.holds rawDomain alabel sampleDigest [[104, 50]]
      { handshakeOk := false, negotiated := none, cert := none } = true ∧
    Spec.C16.holds rawDomain alabel sampleDigest [] ok = true ∧
    Spec.C16.holds rawDomain alabel sampleDigest [Spec.C16.acme]
      { ok with cert := some { goodCert with dnsSans := [rawDomain] } } = false ∧
    Spec.C16.holds rawDomain alabel sampleDigest [Spec.C16.acme]
      { ok with cert := some { goodCert with acmeCritical := false } } = false ∧
    Spec.C16.holds rawDomain alabel sampleDigest [Spec.C16.acme]
      { ok with cert := some { goodCert with acmeValue := sampleDigest } } = false ∧
    Spec.C16.holds rawDomain alabel sampleDigest [Spec.C16.acme] { ok with negotiated := none } = false ∧
    Spec.C16.holds rawDomain alabel sampleDigest [Spec.C16.acme]
      { ok with cert := some { goodCert with ipSanCount := 1 } } = false ∧
    Spec.C16.holds rawDomain alabel sampleDigest [[104, 50]] ok = false := by
  rw [goodCert, rawDomain]
  repeat rw [String.toList_ofList]
  decide +kernel

end AcmedVerif.Props.C16
