/-
C13 with file hooks that ACT on the written file (`Model/StorageFx.lean`): a pre hook may leave the
file, remove it, move it away, replace it by another file or create it; post hooks likewise.
"Created" means created by THIS write: the path was absent when `open` ran (`atOpen = none`),
whatever existed before the hooks.  Judged is the file the post hooks see (`afterWrite`); when the
post hooks do nothing that is the file `write_file` leaves (`final_is_what_post_hooks_saw`).
`ModeArg.always` is the code; `ModeArg.whenIsNew` the variant that hands the mode to `open` only
`if is_new` (decided before the pre hooks).
-/
import AcmedVerif.Spec.C13Fx
import AcmedVerif.Lemmas.StorageFx
import AcmedVerif.Props.C13

namespace AcmedVerif.Props.C13Fx
open AcmedVerif.Fs AcmedVerif.Storage AcmedVerif.StorageFx

/-- Conservative extension: with hooks that do nothing `writeFileFx` IS `Storage.writeFile` (file
system, result, events), in both `ModeArg` variants — which is why a check whose hooks never touch
the file system cannot tell the variants apart. -/
theorem no_effects_is_writeFile (trunc : Trunc) (ma : ModeArg) (env : Env) (proc : Proc)
    (s : Settings) (fs : Fs) (t : FileType) (p : Path) (data : List UInt8) :
    (writeFileFx trunc ma env noFx proc s fs t p data).fs = (writeFile trunc env proc s fs t p data).fs ∧
    (writeFileFx trunc ma env noFx proc s fs t p data).result =
      (writeFile trunc env proc s fs t p data).result ∧
    (writeFileFx trunc ma env noFx proc s fs t p data).events =
      (writeFile trunc env proc s fs t p data).events ∧
    (writeFileFx trunc ma env noFx proc s fs t p data).atOpen = get fs p := by
  have hm := openCreate_openMode proc fs p ma (modeFor s t) trunc
  unfold writeFileFx writeFile
  simp only [noFx, applyEffects_nil, hm]
  cases env.hookOk (preHook (get fs p).isNone) with
  | false => simp
  | true =>
    simp only [Bool.not_true, Bool.false_eq_true, if_false]
    generalize setOwner env proc s _ t p = r
    cases r with
    | error e => simp
    | ok v =>
      cases v
      cases env.hookOk (postHook (get fs p).isNone) <;> simp

/-- After a `write_file` whose pre hooks passed, the post hooks see a file. -/
theorem written_file_exists_with_hook_effects (trunc : Trunc) (env : Env)
    (fx : HookType → List Effect) (proc : Proc) (s : Settings) (fs : Fs) (t : FileType) (p : Path)
    (data : List UInt8) (hpre : env.hookOk (preHook (get fs p).isNone) = true) :
    (writeFileFx trunc .always env fx proc s fs t p data).afterWrite =
      some (finalFile trunc env proc s (writeFileFx trunc .always env fx proc s fs t p data).atOpen
        t data) := by
  rw [writeFileFx_afterWrite trunc env fx proc s fs t p data hpre, writeFileFx_atOpen,
    get_writeFile_same (env := okEnv env) rfl, finalFile_okEnv]

/-- **Exact characterisation of one write with any hook effects** (all modes, umasks, owners, any
file system before the call, any effects of the pre and post hooks): whenever `set_owner` does not
fail, the `stat` of the file the post hooks see is what the C13 judge expects — with "the file the
write found" taken at OPEN time (`Spec.C13.foundAtOpen`): `i`, `j` are the inode numbers a harness
reads after the pre hooks and when the post hooks start; `open(2)` keeps the inode of a file it
finds (`hino`) and `before` (what existed before the hooks) is arbitrary. -/
theorem stat_meets_spec_with_hook_effects (env : Env) (fx : HookType → List Effect) (proc : Proc)
    (s : Settings) (fs : Fs) (t : FileType) (p : Path) (data : List UInt8) (wu wg : Option Nat)
    (before : Option Spec.C13.Seen) (i j : Nat)
    (hpre : env.hookOk (preHook (get fs p).isNone) = true)
    (hown : ∀ u g, ownerCfg s t = some (u, g) →
      resolve env.lookupUser u = some wu ∧ resolve env.lookupGroup g = some wg ∧
      env.chownOk = true)
    (hino : (writeFileFx .yes .always env fx proc s fs t p data).atOpen.isSome = true → i = j) :
    ∃ f, (writeFileFx .yes .always env fx proc s fs t p data).afterWrite = some f ∧
      Spec.C13.holdsFx
        { ftype := t, certMode := s.certMode, pkMode := s.pkMode, umask := proc.umask,
          procUid := proc.uid, procGid := proc.gid, fsetid := proc.fsetid,
          wantUid := wu, wantGid := wg, dataEmpty := data.isEmpty, before := before,
          afterPre := (writeFileFx .yes .always env fx proc s fs t p data).atOpen.map
            fun g => { ino := i, stat := statOf g },
          written := { ino := j, stat := statOf f } } = true := by
  refine ⟨_, written_file_exists_with_hook_effects .yes env fx proc s fs t p data hpre, ?_⟩
  generalize (writeFileFx .yes .always env fx proc s fs t p data).atOpen = old at hino
  have hfound : Spec.C13.foundAtOpen (old.map fun g => { ino := i, stat := statOf g })
      { ino := j, stat := statOf (finalFile .yes env proc s old t data) } = old.map statOf := by
    cases old with
    | none => rfl
    | some g => simp [Spec.C13.foundAtOpen, hino rfl]
  unfold Spec.C13.holdsFx Spec.C13.holds Spec.C13.Watch.case
  simp only [hfound]
  rw [decide_eq_true_eq]
  exact statOf_finalFile _ hown

/-- The judge does not look at what existed before the hooks. -/
theorem judge_ignores_what_existed_before (w : Spec.C13.Watch) (b : Option Spec.C13.Seen) :
    Spec.C13.holdsFx { w with before := b } = Spec.C13.holdsFx w := rfl

/-- **C13.1 with hook effects.** For every file system before the call and every effect of the
hooks: a file created by the write (the path was absent when `open` ran: first creation, or the
previous file moved away / removed by a `file-pre-edit` hook) has EXACTLY the configured mode of its
type masked by the umask when the post hooks see it, for every configured mode without
set-user-id/set-group-id bit — whatever mode the file had before the hooks, and whatever happens
afterwards in `write_file` (`chown` refused, ids unparsable, post hook failing). -/
theorem created_mode_exact_with_hook_effects (trunc : Trunc) (env : Env)
    (fx : HookType → List Effect) (proc : Proc) (s : Settings) (fs : Fs) (t : FileType) (p : Path)
    (data : List UInt8)
    (hpre : env.hookOk (preHook (get fs p).isNone) = true)
    (hcreated : (writeFileFx trunc .always env fx proc s fs t p data).atOpen = none)
    (hplain : modeFor s t &&& 0o6000 = 0) :
    ∃ f, (writeFileFx trunc .always env fx proc s fs t p data).afterWrite = some f ∧
      f.mode = maskMode (modeFor s t) proc.umask := by
  refine ⟨_, written_file_exists_with_hook_effects trunc env fx proc s fs t p data hpre, ?_⟩
  rw [hcreated]
  exact finalFile_created_mode hplain

/-- …and for EVERY configured mode the permission bits (and the sticky bit) are as configured. -/
theorem created_perm_bits_with_hook_effects (trunc : Trunc) (env : Env)
    (fx : HookType → List Effect) (proc : Proc) (s : Settings) (fs : Fs) (t : FileType) (p : Path)
    (data : List UInt8)
    (hpre : env.hookOk (preHook (get fs p).isNone) = true)
    (hcreated : (writeFileFx trunc .always env fx proc s fs t p data).atOpen = none) :
    ∃ f, (writeFileFx trunc .always env fx proc s fs t p data).afterWrite = some f ∧
      f.mode &&& 0o1777 = maskMode (modeFor s t) proc.umask &&& 0o1777 := by
  refine ⟨_, written_file_exists_with_hook_effects trunc env fx proc s fs t p data hpre, ?_⟩
  rw [hcreated]
  exact finalFile_mode_and (old := none) (by decide) (by decide)

/-- **"Never readable by group or others unless the administrator asked for it", with hook
effects.** If the configured mode of the type has no group/other bit (account files: always), a
file created by the write has none — also when the file that was there before the pre hooks was
world-readable, and also when a pre hook moved a private file away. -/
theorem private_unless_asked_with_hook_effects (trunc : Trunc) (env : Env)
    (fx : HookType → List Effect) (proc : Proc) (s : Settings) (fs : Fs) (t : FileType) (p : Path)
    (data : List UInt8)
    (hpre : env.hookOk (preHook (get fs p).isNone) = true)
    (hcreated : (writeFileFx trunc .always env fx proc s fs t p data).atOpen = none)
    (hcfg : modeFor s t &&& 0o077 = 0) :
    ∃ f, (writeFileFx trunc .always env fx proc s fs t p data).afterWrite = some f ∧
      f.mode &&& 0o077 = 0 := by
  refine ⟨_, written_file_exists_with_hook_effects trunc env fx proc s fs t p data hpre, ?_⟩
  rw [hcreated]
  exact finalFile_created_private hcfg

/-- **C13.2 with hook effects.** The owner and group of a file created by the write, when the post
hooks see it: the configured ones where configured and resolvable, the process' otherwise; account
files: the process' — whoever owned the file the pre hooks took away. -/
theorem created_owner_with_hook_effects (trunc : Trunc) (env : Env)
    (fx : HookType → List Effect) (proc : Proc) (s : Settings) (fs : Fs) (t : FileType) (p : Path)
    (data : List UInt8) (wu wg : Option Nat)
    (hpre : env.hookOk (preHook (get fs p).isNone) = true)
    (hcreated : (writeFileFx trunc .always env fx proc s fs t p data).atOpen = none)
    (hown : ∀ u g, ownerCfg s t = some (u, g) →
      resolve env.lookupUser u = some wu ∧ resolve env.lookupGroup g = some wg ∧
      env.chownOk = true) :
    ∃ f, (writeFileFx trunc .always env fx proc s fs t p data).afterWrite = some f ∧
      (t = .account → f.uid = proc.uid ∧ f.gid = proc.gid) ∧
      (t ≠ .account → f.uid = applyId wu proc.uid ∧ f.gid = applyId wg proc.gid) := by
  refine ⟨_, written_file_exists_with_hook_effects trunc env fx proc s fs t p data hpre, ?_⟩
  rw [hcreated]
  obtain ⟨hu, hg⟩ := finalFile_ids (trunc := trunc) (proc := proc) (old := none) (data := data)
    (ownerIds_of_resolved hown)
  cases t with
  | account => exact ⟨fun _ => ⟨hu, hg⟩, fun ht => absurd rfl ht⟩
  | privateKey => exact ⟨nofun, fun _ => ⟨hu, hg⟩⟩
  | certificate => exact ⟨nofun, fun _ => ⟨hu, hg⟩⟩

/-- A file the write FOUND at open time (left, chmod-ed, replaced or created by a pre hook: acmed
did not create it) keeps its permission bits, and its whole mode when it has no
set-user-id/set-group-id bit — the reading of "rewrite" of `Props.C13.rewrite_keeps_mode`, with
the file taken at open time. -/
theorem found_file_keeps_mode_with_hook_effects (trunc : Trunc) (env : Env)
    (fx : HookType → List Effect) (proc : Proc) (s : Settings) (fs : Fs) (t : FileType) (p : Path)
    (data : List UInt8) (f0 : File)
    (hpre : env.hookOk (preHook (get fs p).isNone) = true)
    (hfound : (writeFileFx trunc .always env fx proc s fs t p data).atOpen = some f0) :
    ∃ f, (writeFileFx trunc .always env fx proc s fs t p data).afterWrite = some f ∧
      f.mode &&& 0o1777 = f0.mode &&& 0o1777 ∧ (f0.mode &&& 0o6000 = 0 → f.mode = f0.mode) := by
  refine ⟨_, written_file_exists_with_hook_effects trunc env fx proc s fs t p data hpre, ?_⟩
  rw [hfound]
  exact finalFile_found_mode f0

/-- When the post hooks do nothing, the file `write_file` leaves is the file they saw (so every
statement above is about the final state then), in both variants. -/
theorem final_is_what_post_hooks_saw (trunc : Trunc) (ma : ModeArg) (env : Env)
    (fx : HookType → List Effect) (proc : Proc) (s : Settings) (fs : Fs) (t : FileType) (p : Path)
    (data : List UInt8) (hpre : env.hookOk (preHook (get fs p).isNone) = true)
    (hpost : fx (postHook (get fs p).isNone) = []) :
    get (writeFileFx trunc ma env fx proc s fs t p data).fs p =
      (writeFileFx trunc ma env fx proc s fs t p data).afterWrite := by
  unfold writeFileFx
  simp only [hpre, hpost, applyEffects_nil, Bool.not_true, Bool.false_eq_true, if_false]
  split <;> rfl

/-! ### the variant "mode only `if is_new`" -/

/-- The archive history: a private key `0o600` of uid 7, a `file-pre-edit` hook `mv key key.bak`,
umask `0o022`, default settings. -/
def archiveFs : Fs := [("k.pem".toList, { content := [9, 9], mode := 0o600, uid := 7, gid := 8 })]
def archiveFx : HookType → List Effect
  | .filePreEdit => [.moveTo "k.pem.bak".toList]
  | _ => []
def archiveProc : Proc := { umask := 0o022, uid := 0, gid := 0 }

/-- **Old-variant witness.** With the mode handed to `open` only `if is_new` — `is_new` computed
before the pre hooks — `created_mode_exact_with_hook_effects` is FALSE: on the archive history the
write creates the key file (nothing at the path at open time) with `0o666 & ~0o022 = 0o644`
instead of `0o600`: group and others can read the private key. -/
theorem mode_from_is_new_before_hooks_is_false :
    ¬ ∀ (trunc : Trunc) (env : Env) (fx : HookType → List Effect) (proc : Proc) (s : Settings)
        (fs : Fs) (t : FileType) (p : Path) (data : List UInt8),
        env.hookOk (preHook (get fs p).isNone) = true →
        (writeFileFx trunc .whenIsNew env fx proc s fs t p data).atOpen = none →
        modeFor s t &&& 0o6000 = 0 →
        ∃ f, (writeFileFx trunc .whenIsNew env fx proc s fs t p data).afterWrite = some f ∧
          f.mode = maskMode (modeFor s t) proc.umask := by
  intro h
  obtain ⟨f, hf, hm⟩ := h .yes Env.allOk archiveFx archiveProc {} archiveFs .privateKey
    "k.pem".toList [1, 2, 3] (by decide) (by decide) (by decide)
  revert hm hf
  decide +revert

/-- The same history in detail, both variants: the code creates `0o600` (and the archived file
keeps its mode and owner), the variant creates `0o644`; the result is `ok` in both. -/
theorem archive_history_both_variants :
    let code := writeFileFx .yes .always Env.allOk archiveFx archiveProc {} archiveFs .privateKey
      "k.pem".toList [1, 2, 3]
    let var := writeFileFx .yes .whenIsNew Env.allOk archiveFx archiveProc {} archiveFs .privateKey
      "k.pem".toList [1, 2, 3]
    code.isNew = false ∧ code.atOpen = none ∧ code.created = true ∧ code.result = .ok ∧
    get code.fs "k.pem".toList = some { content := [1, 2, 3], mode := 0o600, uid := 0, gid := 0 } ∧
    get code.fs "k.pem.bak".toList = some { content := [9, 9], mode := 0o600, uid := 7, gid := 8 } ∧
    var.result = .ok ∧ var.created = true ∧
    get var.fs "k.pem".toList = some { content := [1, 2, 3], mode := 0o644, uid := 0, gid := 0 } ∧
    Spec.C13.isPrivate 0o644 = false := by
  decide +kernel

/-- The variant differs from the code ONLY when a pre hook changed the existence of the file: if
the path is present at open time exactly when it was present before the hooks, both variants leave
the same file system, result and events. -/
theorem variant_agrees_when_pre_hooks_keep_existence (trunc : Trunc) (env : Env)
    (fx : HookType → List Effect) (proc : Proc) (s : Settings) (fs : Fs) (t : FileType) (p : Path)
    (data : List UInt8)
    (hsame : (get (afterPre fx fs p).fs p).isNone = (get fs p).isNone) :
    writeFileFx trunc .whenIsNew env fx proc s fs t p data =
      writeFileFx trunc .always env fx proc s fs t p data := by
  have hm := openCreate_openMode proc (afterPre fx fs p).fs p .whenIsNew (modeFor s t) trunc
  rw [hsame] at hm
  unfold afterPre at hm
  unfold writeFileFx
  simp only [hm]
  rfl

/-- The hypotheses of `created_mode_exact_with_hook_effects` are satisfiable by a REWRITE (the file
existed, world-readable, owned by somebody else) whose pre-edit hook moves the file away; the
created file is `0o600` and owned by the configured user. -/
example :
    let env := Env.ofTables true true true true [("acme".toList, 1000)] [] true
    let fs : Fs := [("k.pem".toList, { content := [9], mode := 0o644, uid := 5, gid := 6 })]
    let out := writeFileFx .yes .always env archiveFx archiveProc
      { pkUser := some "acme".toList } fs .privateKey "k.pem".toList [1]
    out.isNew = false ∧ out.atOpen = none ∧ out.result = .ok ∧
    out.afterWrite = some { content := [1], mode := 0o600, uid := 1000, gid := 0 } ∧
    get out.fs "k.pem.bak".toList = some { content := [9], mode := 0o644, uid := 5, gid := 6 } := by
  decide

/-- A pre-create hook that creates the file (`install -m 0644`): the write finds it
(`found_file_keeps_mode_with_hook_effects` applies, not the creation clause), a post hook then
tightens it; the final file is the post hook's. -/
example :
    let fx : HookType → List Effect := fun
      | .filePreCreate => [.replace { content := [], mode := 0o644, uid := 3, gid := 4 }]
      | .filePostCreate => [.chmod 0o400]
      | _ => []
    let out := writeFileFx .yes .always Env.allOk fx archiveProc {} [] .privateKey "k.pem".toList [1]
    out.isNew = true ∧ out.created = false ∧
    out.afterWrite = some { content := [1], mode := 0o644, uid := 3, gid := 4 } ∧
    get out.fs "k.pem".toList = some { content := [1], mode := 0o400, uid := 3, gid := 4 } ∧
    out.postKept = true := by
  decide

end AcmedVerif.Props.C13Fx
