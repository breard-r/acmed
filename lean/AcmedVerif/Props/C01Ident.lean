/-
C01, identifier clauses — "the newOrder request lists exactly the configured identifiers (DNS names
as lowercase A-labels with wildcards kept, IP addresses in canonical text form), and the CSR has
exactly those names as subjectAltName dNSName/iPAddress entries".
Theorems about `Model/Idna.lean` and `Model/Ident.lean`; helper lemmas in `Lemmas/Idna.lean`,
`Lemmas/Ident.lean`.

Parameters, constrained by hypotheses only as far as each clause needs:
* `LowerAscii lowerStr`   — `str::to_lowercase` is ASCII lower-casing on all-ASCII strings (ASCII
  upper ↦ ASCII lower, other ASCII fixed); nothing is assumed about strings with non-ASCII content;
* `LowerNoUpper lowerStr` — lower-casing never outputs an ASCII upper-case letter (needed only for
  "no upper-case letter" in `xn--` labels: punycode copies the ASCII characters of its input);
* `LowerNoDot lowerStr`   — lower-casing never creates a '.' (needed only for the label count).
* `LowerBounded lowerStr` — lower-casing a label of at most 63 characters gives at most 3855
  characters (Unicode: at most 3 per character); needed only for `idna_total`.
`lowerAsciiOnly` (identity outside ASCII) satisfies all four, see the `example`s.

`chk : Bool` in the statements: `true` = the current tree, `toIdnaStr = toIdnaStrG true` (labels of
more than 63 characters rejected, commit 300bbf4); `false` = the tree before that commit,
`toIdnaStrOld = toIdnaStrG false`. Theorems stated for every `chk` hold of both.
-/
import AcmedVerif.Lemmas.Idna
import AcmedVerif.Lemmas.Ident
import AcmedVerif.Spec.C01Ident

namespace AcmedVerif.Props.C01Ident
open AcmedVerif.Idna AcmedVerif.Ident

/-- **`punycode_ascii`.** For every input and both arithmetic profiles: when the encoder succeeds,
every output character is ASCII; precisely it is an ASCII character copied from the input, the
delimiter `-`, or a digit character `a-z0-9` (so the `assert!` in `encode_digit` never fires); if
the ASCII characters of the input are letters, digits and hyphens only, so is the whole output.
The model's fuel is never exhausted. -/
theorem punycode_ascii (p : Profile) (input : List Char) :
    punycodeEncodeP p input ≠ .fuel ∧
    ∀ out, punycodeEncodeP p input = .ok out →
      (∀ c ∈ out, isAscii c = true) ∧
      (∀ c ∈ out, (c ∈ input ∧ isAscii c = true) ∨ c = '-' ∨ isAsciiLower c = true ∨
        isAsciiDigit c = true) ∧
      ((∀ c ∈ input, isAscii c = true →
          isAsciiLower c = true ∨ isAsciiUpper c = true ∨ isAsciiDigit c = true ∨ c = '-') →
        ∀ c ∈ out,
          isAsciiLower c = true ∨ isAsciiUpper c = true ∨ isAsciiDigit c = true ∨ c = '-') := by
  refine ⟨punycode_fuel_enough p input, fun out h => ⟨?_, ?_, ?_⟩⟩
  · exact fun c hc => (punycode_good p input out h c hc).facts.1
  · exact fun c hc => punycode_good p input out h c hc
  · intro hin c hc
    rcases punycode_good p input out h c hc with h' | h' | h' | h'
    · exact hin c h'.1 h'.2
    · exact Or.inr (Or.inr (Or.inr h'))
    · exact Or.inl h'
    · exact Or.inr (Or.inr (Or.inl h'))

/-- **`punycode_total_partial`** (class: inputs of at most 3855 characters — every DNS label is at
most 63). On that class the encoder succeeds, and does so identically in both arithmetic
profiles: the checked multiplication cannot fail, the two unchecked `delta += 1` cannot overflow,
`min().unwrap()` cannot panic. -/
theorem punycode_total_partial (p : Profile) (input : List Char) (h : input.length ≤ 3855) :
    ∃ out, punycodeEncodeP p input = .ok out ∧ punycodeEncodeP .dev input = .ok out :=
  punycode_short p input h

/-- **`punycode_total_full_is_false`.** Without the length bound the statement is false of the
crate: 4000 × U+0080 followed by U+1061C2 (4001 characters) passes the only overflow check
(`lib.rs:158`) and then overflows the UNCHECKED `delta += 1` of `lib.rs:168` — a panic
("attempt to add with overflow") with overflow checks on (dev profile), which is what the theorem
states.  Observed, not proved here: with checks off (release) the addition wraps and the real crate
returns a wrong 4003-character encoding (same last characters `…aaaaaaaaa29s` as the driver's
`punycodeEncodeP .release`); RFC 3492 section 6.4 asks for a failure there. -/
theorem punycode_total_full_is_false :
    ¬ (∀ input, punycodeEncodeP .dev input ≠ .panic) ∧ overflowWitness.length = 4001 :=
  ⟨fun h => h overflowWitness overflowWitness_panics, overflowWitness_length⟩

/-- **`idna_total`.** For every domain text and both arithmetic profiles the CURRENT `to_idna`
returns `ok` or `err`, never a panic (nor the model's `fuel`): a label of more than 63 characters
is rejected before lower-casing, and the lower-cased form of a shorter one stays inside
`punycode_total_partial`'s class. -/
theorem idna_total (lowerStr : List Char → List Char) (hB : LowerBounded lowerStr) (p : Profile)
    (domain : List Char) :
    (∃ out, toIdnaStr lowerStr p domain = .ok out) ∨ toIdnaStr lowerStr p domain = .err :=
  toIdnaStrG_total hB p domain

/-- **`idna_total_old_is_false`.** Before commit 300bbf4 the same statement was false: the one-label
name of `punycode_total_full_is_false` (4000 × U+0080, U+1061C2; lower-casing leaves it unchanged)
made `to_idna` panic in a dev build — at configuration load, for a `dns` identifier. The current
`to_idna` answers `err` for it in both profiles. -/
theorem idna_total_old_is_false :
    ¬ (∀ domain, toIdnaStrOld (liftLower lowerAsciiOnly) .dev domain ≠ .panic) ∧
    (∀ lowerStr p, toIdnaStr lowerStr p overflowWitness = .err) :=
  ⟨fun h => h overflowWitness (overflowWitness_old_panics overflowWitness_lower_fix),
   fun _ p => overflowWitness_err p⟩

/-- **`idna_label_shape`.** For every domain text for which `to_idna` succeeds: the result is the
'.'-join of one output label per input label (same positions), where each output label
* is ASCII,
* equals the ASCII-lower-cased input label when that label is all-ASCII (in particular `*` stays
  `*`, field `star`),
* equals `xn--` followed by the punycode encoding of the lower-cased label otherwise;
the whole result is ASCII, and contains no upper-case ASCII letter if lower-casing never produces
one; on the current tree (`chk = true`) no input label has more than 63 characters. -/
theorem idna_label_shape (chk : Bool) (lowerStr : List Char → List Char) (hA : LowerAscii lowerStr)
    (p : Profile) (domain out : List Char) (h : toIdnaStrG chk lowerStr p domain = .ok out) :
    ∃ ls, out = joinWith '.' ls ∧ ls.length = (splitOn '.' domain).length ∧
      (∀ x ∈ (splitOn '.' domain).zip ls, LabelShape lowerStr p x.1 x.2) ∧
      (∀ c ∈ out, isAscii c = true) ∧
      (LowerNoUpper lowerStr → ∀ c ∈ out, isAsciiUpper c = false) ∧
      (chk = true → ∀ name ∈ splitOn '.' domain, name.length ≤ 63) := by
  obtain ⟨ls, rfl, hlen, hz⟩ := toIdnaStrG_ok chk p domain out h
  refine ⟨ls, rfl, hlen, fun x hx => (idnaLabel_facts hA chk p x.1 x.2 (hz x hx)).1, ?_, ?_, ?_⟩
  · intro c hc
    rcases mem_joinWith '.' ls c hc with rfl | ⟨l, hl, hcl⟩
    · decide
    · obtain ⟨name, hn⟩ := exists_zip_of_mem_right _ ls hlen l hl
      exact List.all_eq_true.1 (idnaLabel_facts hA chk p name l (hz _ hn)).1.ascii c hcl
  · intro hU c hc
    rcases mem_joinWith '.' ls c hc with rfl | ⟨l, hl, hcl⟩
    · decide
    · obtain ⟨name, hn⟩ := exists_zip_of_mem_right _ ls hlen l hl
      exact (idnaLabel_facts hA chk p name l (hz _ hn)).2.1 hU c hcl
  · intro hc name hn
    subst hc
    obtain ⟨l, hl⟩ := exists_zip_of_mem_left (splitOn '.' domain) ls hlen name hn
    exact idnaLabelG_len p name l (hz _ hl)

/-- **`idna_ascii_idempotent`.** A name that is already ASCII without upper-case letters (and, on
the current tree, without a label of more than 63 characters) is returned unchanged, whatever its
labels look like: empty labels, `*`, digits, … -/
theorem idna_ascii_idempotent (chk : Bool) (lowerStr : List Char → List Char)
    (hA : LowerAscii lowerStr) (p : Profile) (domain : List Char) (h1 : allAscii domain = true)
    (h2 : ∀ c ∈ domain, isAsciiUpper c = false)
    (h3 : chk = true → ∀ name ∈ splitOn '.' domain, name.length ≤ 63) :
    toIdnaStrG chk lowerStr p domain = .ok domain := by
  unfold toIdnaStrG
  rw [idnaLabels_self hA chk p (splitOn '.' domain) ?_ h3]
  · simp only [join_split]
  · intro n hn
    simp only [allAscii, List.all_eq_true] at h1 ⊢
    exact ⟨fun c hc => h1 c (mem_of_mem_splitOn '.' domain n c hn hc),
           fun c hc => h2 c (mem_of_mem_splitOn '.' domain n c hn hc)⟩

/-- Applying `to_idna` twice is the same as applying it once — on the current tree provided no
label of the RESULT is longer than 63 characters (the check of commit 300bbf4 looks at the
original label only: 60 × `é` pass it and give an `xn--` label of more than 63 characters, which
a second application rejects). -/
theorem idna_idempotent (chk : Bool) (lowerStr : List Char → List Char) (hA : LowerAscii lowerStr)
    (hU : LowerNoUpper lowerStr) (p : Profile) (domain out : List Char)
    (h : toIdnaStrG chk lowerStr p domain = .ok out)
    (h3 : chk = true → ∀ l ∈ splitOn '.' out, l.length ≤ 63) :
    toIdnaStrG chk lowerStr p out = .ok out := by
  obtain ⟨_, _, _, _, h4, h5, _⟩ := idna_label_shape chk lowerStr hA p domain out h
  exact idna_ascii_idempotent chk lowerStr hA p out (by simpa [allAscii] using h4) (h5 hU) h3

/-- **`idna_label_count`.** The result has as many labels as the input. -/
theorem idna_label_count (chk : Bool) (lowerStr : List Char → List Char) (hA : LowerAscii lowerStr)
    (hD : LowerNoDot lowerStr) (p : Profile) (domain out : List Char)
    (h : toIdnaStrG chk lowerStr p domain = .ok out) :
    (splitOn '.' out).length = (splitOn '.' domain).length :=
  (toIdnaStrG_split hA hD chk p domain out h).1

/-- **`order_ids_exact`.** For every list of configured identifiers that loads: the identifier
list of the newOrder payload is the configured list mapped through the normalisation
(`to_idna` for `dns`, canonical text for `ip`), entry by entry: same length, same order, same
types. -/
theorem order_ids_exact (P : Params) (raws : List RawId) (ids : List Identifier)
    (h : mkIdentifiers P raws = .ok ids) :
    (orderIds ids).length = raws.length ∧
    (orderIds ids).map (fun x => some (x.1, Except.ok x.2)) =
      raws.map (fun r => r.typed.map fun tv => (tv.1, normValue P tv.1 tv.2)) := by
  refine ⟨?_, orderIds_eq_expected P raws ids h⟩
  simp only [orderIds, List.length_map]
  exact (mkIdentifiers_spec P raws ids h).1

/-- **`csr_sans_perm_order`.** For every identifier list: the dNSName entries followed by the
iPAddress entries handed to the CSR builder are a permutation of the newOrder identifiers (nothing
dropped, nothing duplicated, types kept), and each class is exactly the sub-sequence of the
newOrder identifiers of that type (relative order kept). -/
theorem csr_sans_perm_order (ids : List Identifier) :
    ((csrDomains ids).map (fun v => (IdType.dns, v)) ++
      (csrIps ids).map (fun v => (IdType.ip, v))).Perm (orderIds ids) ∧
    csrDomains ids = ((orderIds ids).filter fun x => x.1 = .dns).map (·.2) ∧
    csrIps ids = ((orderIds ids).filter fun x => x.1 = .ip).map (·.2) :=
  ⟨typed_split_perm ids, csrDomains_eq ids, csrIps_eq ids⟩

/-- The hypotheses on the lower-casing parameter are satisfiable together. -/
example : LowerAscii (liftLower lowerAsciiOnly) ∧ LowerNoUpper (liftLower lowerAsciiOnly) ∧
    LowerNoDot (liftLower lowerAsciiOnly) ∧ LowerBounded (liftLower lowerAsciiOnly) :=
  ⟨liftLower_ascii lowerAsciiOnly_ascii, lowerAsciiOnly_noUpper, lowerAsciiOnly_noDot,
   lowerAsciiOnly_bounded⟩

/-- A label of 64 characters is rejected, one of 63 passes (current tree). -/
example : toIdnaWith lowerAsciiOnly .release (List.replicate 64 'a') = .err ∧
    toIdnaWith lowerAsciiOnly .release (List.replicate 63 'a') = .ok (List.replicate 63 'a') := by
  refine ⟨by decide +kernel, by decide +kernel⟩

/-- RFC 3492 style sample: `bücher` ↦ `bcher-kva`. -/
example : punycodeEncodeP .dev ['b', Char.ofNat 0xFC, 'c', 'h', 'e', 'r'] =
    .ok "bcher-kva".toList := by
  -- left to the kernel, `String.toList` of a literal is decoded from its UTF-8 bytes, quadratically
  rw [String.toList_ofList]
  decide +kernel

/-- A wildcard IDN name in mixed case. -/
example : toIdnaWith lowerConcrete .release
    ['*', '.', 'B', Char.ofNat 0xDC, 'c', 'h', 'e', 'r', '.', 'D', 'E'] =
    .ok "*.xn--bcher-kva.de".toList := by
  rw [String.toList_ofList]
  decide +kernel

/-- DESIGN §1 observation (i): U+212A KELVIN SIGN is not ASCII, lower-cases to ASCII `k`. -/
example : toIdnaWith lowerConcrete .release [Char.ofNat 0x212A, '.', 'e', 'x'] =
    .ok "xn--k-.ex".toList := by
  rw [String.toList_ofList]
  decide +kernel

def sampleParams : Params :=
  { lowerStr := liftLower lowerConcrete, profile := .release,
    ipCanon := fun s => if s = "192.0.2.1".toList then some s else none }

def sampleRaws : List RawId :=
  [ { dns := some "Example.ORG".toList, ip := none, challenge := "HTTP-01".toList, env := [] },
    { dns := none, ip := some "192.0.2.1".toList, challenge := "tls-alpn-01".toList, env := [] },
    { dns := some "*.example.org".toList, ip := none, challenge := "dns-01".toList, env := [] } ]

/-- `mkIdentifiers` succeeds on a mixed list; the CSR split separates the classes. -/
example : ∃ ids, mkIdentifiers sampleParams sampleRaws = .ok ids ∧
    orderIds ids = [(.dns, "example.org".toList), (.ip, "192.0.2.1".toList),
      (.dns, "*.example.org".toList)] ∧
    csrDomains ids = ["example.org".toList, "*.example.org".toList] ∧
    csrIps ids = ["192.0.2.1".toList] := by
  delta sampleRaws sampleParams
  repeat rw [String.toList_ofList]
  refine ⟨_, rfl, ?_⟩
  decide +kernel

/-- dns-01 is refused for an IP identifier (`identifier.rs:65-69`). -/
example : Identifier.new sampleParams .ip "192.0.2.1".toList "dns-01".toList [] = .errUnsupported := by
  delta sampleParams
  repeat rw [String.toList_ofList]
  decide +kernel

/-! ## Consistency of the judge with the model

`Spec.C01Ident.holds` accepts what the model produces (so a run that matches the model is judged
as holding, and the judge's own definition of "lowercase A-label form" is not stricter than what
`to_idna` delivers under the stated hypotheses on lower-casing). -/

open AcmedVerif.Spec.C01Ident in
theorem labelsOk_of_zip (names ls : List (List Char)) (hlen : ls.length = names.length)
    (h : ∀ x ∈ names.zip ls, labelOk x.1 x.2 = true) : labelsOk names ls = true := by
  induction names generalizing ls with
  | nil =>
    have : ls = [] := List.eq_nil_of_length_eq_zero hlen
    subst this; rfl
  | cons n ns ih =>
    cases ls with
    | nil => simp at hlen
    | cons l ls' =>
      simp only [labelsOk, Bool.and_eq_true]
      refine ⟨h (n, l) (by simp), ih ls' (by simpa using hlen) ?_⟩
      intro x hx
      exact h x (by simp only [List.zip_cons_cons]; exact List.mem_cons_of_mem _ hx)

open AcmedVerif.Spec.C01Ident in
/-- The judge's shape definition accepts every result of `to_idna`. -/
theorem judge_accepts_idna (chk : Bool) (lowerStr : List Char → List Char)
    (hA : LowerAscii lowerStr)
    (hU : LowerNoUpper lowerStr) (hD : LowerNoDot lowerStr) (p : Profile) (domain out : List Char)
    (h : toIdnaStrG chk lowerStr p domain = .ok out) : dnsShapeOk domain out = true := by
  obtain ⟨hlen, hz⟩ := toIdnaStrG_split hA hD chk p domain out h
  unfold dnsShapeOk
  apply labelsOk_of_zip _ _ hlen
  intro x hx
  obtain ⟨sh, hup, _⟩ := idnaLabel_facts hA chk p x.1 x.2 (hz x hx)
  have hup := hup hU
  simp only [labelOk, Bool.and_eq_true]
  refine ⟨⟨sh.ascii, ?_⟩, ?_⟩
  · rw [List.all_eq_true]
    intro c hc
    simp [hup c hc]
  · by_cases hn : allAscii x.1 = true
    · simp only [hn, if_true]
      rw [← sh.asciiCase hn]
      exact beq_self_eq_true _
    · simp only [hn, Bool.false_eq_true, if_false]
      obtain ⟨o, _, ho⟩ := sh.idnCase (by simpa using hn)
      rw [ho]
      exact List.isPrefixOf_iff_prefix.2 (List.prefix_append _ _)

/-- The configuration as the judge sees it, with the MODEL's values as expectation. -/
def cfgOf (raws : List RawId) (ids : List Identifier) : List Spec.C01Ident.CfgId :=
  (raws.zip ids).map fun x =>
    { idType := x.2.idType, raw := (x.1.typed.map (·.2)).getD [], expected := x.2.value }

open AcmedVerif.Spec.C01Ident in
/-- For every configuration that loads, the judge accepts the model's newOrder identifiers and CSR
split (given that the canonical IP text has the judge's IP shape). -/
theorem judge_accepts_model (P : Params) (hA : LowerAscii P.lowerStr)
    (hU : LowerNoUpper P.lowerStr) (hD : LowerNoDot P.lowerStr)
    (hip : ∀ s o, P.ipCanon s = some o → ipShapeOk o = true)
    (raws : List RawId) (ids : List Identifier) (h : mkIdentifiers P raws = .ok ids) :
    holds (cfgOf raws ids) (orderIds ids) (csrDomains ids) (csrIps ids) = true := by
  obtain ⟨hlen, hz⟩ := mkIdentifiers_spec P raws ids h
  have hmap : (cfgOf raws ids).map (fun c => (c.idType, c.expected)) = orderIds ids := by
    simp only [cfgOf, List.map_map, orderIds]
    have : ((fun c : CfgId => (c.idType, c.expected)) ∘ fun x : RawId × Identifier =>
        ({ idType := x.2.idType, raw := (x.1.typed.map (·.2)).getD [], expected := x.2.value } : CfgId))
        = (fun i : Identifier => (i.idType, i.value)) ∘ Prod.snd := rfl
    rw [this, ← List.map_map, List.map_snd_zip (by omega)]
  have hexp : ∀ t, expectedOf t (cfgOf raws ids) =
      ((orderIds ids).filter fun x => x.1 = t).map (·.2) := by
    intro t
    rw [← hmap, List.filter_map, List.map_map]
    rfl
  simp only [holds, Bool.and_eq_true]
  refine ⟨⟨⟨?_, ?_⟩, ?_⟩, ?_⟩
  · rw [List.all_eq_true]
    intro c hc
    simp only [cfgOf, List.mem_map] at hc
    obtain ⟨x, hx, rfl⟩ := hc
    obtain ⟨t, v, htv, h1, h2, _⟩ := RawId.toGeneric_ok P x.1 x.2 (hz x hx)
    simp only [shapeOk, htv, Option.map_some, Option.getD_some, h1]
    cases t with
    | dns =>
      simp only [normValue] at h2
      split at h2
      · rename_i o ho
        simp only [Except.ok.injEq] at h2
        subst h2
        exact judge_accepts_idna true P.lowerStr hA hU hD P.profile v _ ho
      · exact absurd h2 (by simp)
      · exact absurd h2 (by simp)
    | ip =>
      simp only [normValue] at h2
      split at h2
      · rename_i o ho
        simp only [Except.ok.injEq] at h2
        subst h2
        exact hip v _ ho
      · exact absurd h2 (by simp)
  · rw [hmap]; exact beq_self_eq_true _
  · rw [hexp, ← csrDomains_eq]
    exact List.isPerm_iff.2 (List.Perm.refl _)
  · rw [hexp, ← csrIps_eq]
    exact List.isPerm_iff.2 (List.Perm.refl _)

/-- The judge rejects a run in which the order of two identifiers is swapped, a name is not
lower-cased, or a SAN is missing. -/
example :
    let cfg : List Spec.C01Ident.CfgId :=
      [ { idType := .dns, raw := "A.example".toList, expected := "a.example".toList },
        { idType := .dns, raw := "b.example".toList, expected := "b.example".toList } ]
    Spec.C01Ident.holds cfg [(.dns, "a.example".toList), (.dns, "b.example".toList)]
      ["b.example".toList, "a.example".toList] [] = true ∧
    Spec.C01Ident.holds cfg [(.dns, "b.example".toList), (.dns, "a.example".toList)]
      ["b.example".toList, "a.example".toList] [] = false ∧
    Spec.C01Ident.holds cfg [(.dns, "A.example".toList), (.dns, "b.example".toList)]
      ["b.example".toList, "a.example".toList] [] = false ∧
    Spec.C01Ident.holds cfg [(.dns, "a.example".toList), (.dns, "b.example".toList)]
      ["a.example".toList] [] = false := by
  repeat rw [String.toList_ofList]
  decide +kernel

end AcmedVerif.Props.C01Ident
