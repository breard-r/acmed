/-
C11 (first two sentences) — accounts are created only when due, and the next renewal first brings
the CA's record into line with the configuration.
Theorems about `Flow.synchronize` and `Flow.attempt`; lemmas in `Lemmas/Flow.lean`.
For EVERY world (scripts of any length, any account state, any variant unless stated).

The persistence clauses (bincode round trip, truncation) are in `Props/C11Store.lean`.
-/
import AcmedVerif.Lemmas.Flow

namespace AcmedVerif.Props.C11
open AcmedVerif.Flow

/-! ### Notions and lemmas for `sync_converges` (`Synced`, `Kept`) and `sync_one_per_item` (`kindCount`, `Reqs`) -/

/-- "In line with the configuration", client side: URL stored and the three fingerprints equal
those of the configuration. -/
def Synced (a : Acc) : Prop :=
  a.hasUrl = true ∧ a.contactsInSync = true ∧ a.keyInSync = true ∧ a.bindingInSync = true

/-- What every account step that returns keeps: the configured key, every item that was in line,
and "the CA holds the recorded key". -/
structure Kept (a a' : Acc) : Prop where
  cur : a'.curKey = a.curKey
  url : a.hasUrl = true → a'.hasUrl = true
  contacts : a.contactsInSync = true → a'.contactsInSync = true
  binding : a.bindingInSync = true → a'.bindingInSync = true
  key : a.keyInSync = true → a'.keyInSync = true
  held : a.caKey = a.recKey → a'.caKey = a'.recKey

theorem Kept.refl (a : Acc) : Kept a a := ⟨rfl, id, id, id, id, id⟩

theorem Kept.trans {a b c : Acc} (h1 : Kept a b) (h2 : Kept b c) : Kept a c :=
  ⟨h2.cur.trans h1.cur, h2.url ∘ h1.url, h2.contacts ∘ h1.contacts, h2.binding ∘ h1.binding,
    h2.key ∘ h1.key, h2.held ∘ h1.held⟩

theorem Kept.regAcc (ex : Bool) (a : Acc) : Kept a (regAcc ex a) :=
  ⟨rfl, fun _ => rfl, fun _ => rfl, fun _ => rfl, fun _ => beq_self_eq_true a.curKey, fun _ => rfl⟩

theorem Kept.keyAcc (a : Acc) : Kept a (keyAcc a) :=
  ⟨rfl, id, id, id, fun _ => beq_self_eq_true a.curKey, fun _ => rfl⟩

theorem Kept.contactsAcc (a : Acc) : Kept a (contactsAcc a) := ⟨rfl, id, fun _ => rfl, id, id, id⟩

theorem Kept.synced {a a' : Acc} (k : Kept a a') (h : Synced a) : Synced a' :=
  ⟨k.url h.1, k.contacts h.2.1, k.key h.2.2.1, k.binding h.2.2.2⟩

theorem register_kept {w w' : World} {u : Unit} (h : register w = (.val u, w')) :
    Kept w.acc w'.acc ∧ Synced w'.acc := by
  obtain ⟨_, ho, ex, _, ha⟩ := register_acc h
  rw [ha]
  exact ⟨.regAcc ex _, rfl, rfl, beq_self_eq_true w.acc.curKey, rfl⟩

theorem optContacts_kept {c : Prop} [Decidable c] {w w' : World} {u : Unit}
    (h : (if c then updateContacts else pure ()) w = (.val u, w')) :
    Kept w.acc w'.acc ∧ (c → w'.acc.contactsInSync = true) := by
  rcases optContacts_eff h with ⟨hc, rfl⟩ | ⟨_, _, _, ha | ⟨_, ex, _, ha⟩⟩
  · exact ⟨.refl _, fun h => absurd h hc⟩
  · rw [ha]; exact ⟨.contactsAcc _, fun _ => rfl⟩
  · rw [ha]; exact ⟨.regAcc ex _, fun _ => rfl⟩

theorem optKey_kept {v : Variant} {c : Prop} [Decidable c] {w w' : World} {u : Unit}
    (h : (if c then updateKey v else pure ()) w = (.val u, w')) :
    Kept w.acc w'.acc ∧ (c → w'.acc.keyInSync = true) := by
  rcases optKey_eff h with ⟨hc, rfl⟩ | ⟨_, _, _, ha | ⟨_, ex, _, ha⟩⟩
  · exact ⟨.refl _, fun h => absurd h hc⟩
  · rw [ha]; exact ⟨.keyAcc _, fun _ => beq_self_eq_true w.acc.curKey⟩
  · rw [ha]; exact ⟨.regAcc ex _, fun _ => beq_self_eq_true w.acc.curKey⟩

/-- Number of requests of kind `k` in a trace. -/
def kindCount (k : ReqKind) (es : List Ev) : Nat :=
  es.countP fun e => match e with
    | .exch k' _ _ _ => k' == k
    | _ => false

theorem kindCount_append (k : ReqKind) (a b : List Ev) :
    kindCount k (a ++ b) = kindCount k a + kindCount k b := List.countP_append

def NoADNE (w : World) : Prop := .acmeErr .accountDoesNotExist ∉ w.exs

theorem NoADNE.mono {w w' : World} (h : NoADNE w) (hc : Consumed w w') : NoADNE w' :=
  fun hm => h (hc.mem hm)

/-- The requests in `es`, by kind: `n` newAccount, `k` keyChange, `u` accountUpdate, `p` account
queries, and no others. -/
structure Reqs (n k u p : Nat) (es : List Ev) : Prop where
  newAccount : kindCount .newAccount es = n
  keyChange : kindCount .keyChange es = k
  accountUpdate : kindCount .accountUpdate es = u
  accountProbe : kindCount .accountProbe es = p
  all : exCount es = kindCount .newAccount es + kindCount .keyChange es +
    kindCount .accountUpdate es + kindCount .accountProbe es

theorem Reqs.append {n k u p n' k' u' p' : Nat} {a b : List Ev} (ha : Reqs n k u p a)
    (hb : Reqs n' k' u' p' b) : Reqs (n + n') (k + k') (u + u') (p + p') (a ++ b) where
  newAccount := by rw [kindCount_append, ha.newAccount, hb.newAccount]
  keyChange := by rw [kindCount_append, ha.keyChange, hb.keyChange]
  accountUpdate := by rw [kindCount_append, ha.accountUpdate, hb.accountUpdate]
  accountProbe := by rw [kindCount_append, ha.accountProbe, hb.accountProbe]
  all := by
    rw [exCount_append, ha.all, hb.all]
    simp only [kindCount_append]
    omega

theorem register_reqs {w w' : World} {u : Unit} (h : register w = (.val u, w')) :
    ∃ es, w'.trace = w.trace ++ es ∧ Reqs 1 0 0 0 es := by
  obtain ⟨ho, ex, rest, _, _, _, ht⟩ := register_val h
  exact ⟨_, ht, rfl, rfl, rfl, rfl, rfl⟩

theorem updateContacts_reqs {w w' : World} {u : Unit} (h : updateContacts w = (.val u, w'))
    (hn : NoADNE w) : ∃ es, w'.trace = w.trace ++ es ∧ Reqs 0 0 1 0 es := by
  rcases updateContacts_val h with ⟨b, rest, _, _, _, ht⟩ | ⟨rest, h1, _⟩
  · exact ⟨_, ht, rfl, rfl, rfl, rfl, rfl⟩
  · exact absurd (by rw [h1]; exact List.mem_cons_self) hn

/-- The roll-over block of the working tree when the CA never answers `accountDoesNotExist`: the
query signed by the recorded key, then the key change (`k = 1`) or — after a `sigRefused` answer —
the query signed by the current key (`k = 0`). -/
theorem updateKey_reqs {w w' : World} {u : Unit} (h : updateKey .current w = (.val u, w'))
    (hn : NoADNE w) : ∃ es k, w'.trace = w.trace ++ es ∧ Reqs 0 k 0 (2 - k) es ∧ k ≤ 1 ∧
      (.acmeErr .sigRefused ∉ w.exs → k = 1) := by
  rcases updateKey_val h with ⟨_, h⟩ | ⟨hv, _⟩
  · obtain ⟨p, rest, hx, ⟨rfl, h1⟩ | ⟨hp, h1⟩⟩ := keyChangeChecked_val h
    · obtain ⟨b, rest2, _, _, _, ht⟩ := checkNewKey_val h1
      exact ⟨_, 0, by rw [ht]; simp only [World.afterExch, List.append_assoc]; rfl,
        ⟨rfl, rfl, rfl, rfl, rfl⟩, Nat.zero_le 1,
        fun hno => absurd (by rw [hx]; exact List.mem_cons_self) hno⟩
    · rcases keyChangeStep_val h1 with ⟨b, rest2, _, _, _, ht⟩ | ⟨rest2, h2, _⟩ | ⟨hca, _⟩
      · exact ⟨_, 1, by rw [ht]; simp only [World.afterExch, List.append_assoc]; rfl,
          ⟨rfl, rfl, rfl, rfl, rfl⟩, Nat.le_refl 1, fun _ => rfl⟩
      · exfalso
        apply hn
        rw [hx]
        simp only [World.afterExch] at h2
        rw [h2]
        exact List.mem_cons_of_mem _ List.mem_cons_self
      · cases hca
  · exact absurd rfl hv

/-! ### The property theorems -/

/-- **An account is created only when due** (any variant, any scripts).  Replaying the signed
requests of an attempt with `regMon` (`Lemmas/Flow.lean`): a newAccount request is the FIRST signed
request and no account URL was stored or the binding changed, or it immediately follows a request
answered `accountDoesNotExist`. -/
theorem register_only_when (v : Variant) (cfg : Cfg) (w : World) :
    regMon (!w.acc.hasUrl || !w.acc.bindingInSync) (attempt v cfg w).2.1 = true := by
  show regMon _ (attemptM v cfg { w with trace := [] }).2.trace = true
  rw [attemptM_eq]
  -- the directory GET, which the monitor skips …
  have hdir : ∀ w0 : World,
      Adds (fun es _ => es = [] ∨ ∃ r, es = [.exch .directory .none 0 r]) refreshDirectory w0 := by
    intro w0
    unfold Adds
    rw [refreshDirectory_run]
    rcases w0.exs with _ | ⟨r, rest⟩
    · exact ⟨[], (List.append_nil _).symm, .inl rfl⟩
    · exact ⟨[_], rfl, .inr ⟨r, rfl⟩⟩
  -- … then the synchronisation, from the state the statement names, and what follows it, accepted
  -- from every state
  obtain ⟨es, he, hs⟩ := TR.bind_at (Φ := fun es _ =>
      regMon (!w.acc.hasUrl || !w.acc.bindingInSync) es = true) (hdir { w with trace := [] })
    (fun _ w1 h1 => TR.bind_at (Φ := fun es _ =>
        regMon (!w.acc.hasUrl || !w.acc.bindingInSync) es = true)
      (refreshDirectory_acc h1 ▸ regMon_synchronize v w1)
      (fun _ w2 _ => (afterSync_sat ΦReg.tlaw v cfg regMon_newOrder regMon_of_rest).run w2)
      (fun h1 h2 => regMon_append h2 _ h1) fun _ h => h)
    (fun ha hb => by
      rcases ha with rfl | ⟨r, rfl⟩
      · exact hb
      · exact (regMon_skip_dir ..).trans hb)
    (fun _ ha => by
      rcases ha with rfl | ⟨r, rfl⟩
      · rfl
      · exact regMon_skip_dir ..)
  rw [he]
  exact hs

/-- Reading of `register_only_when` for one newAccount request of the trace: `regState allow pre`
is `allow` (= no URL stored or binding changed) when no signed request precedes it, and otherwise
says that the last signed request before it was answered `accountDoesNotExist`. -/
theorem register_only_when_explicit (v : Variant) (cfg : Cfg) (w : World) (pre post : List Ev)
    (a : Auth) (s : KeyId) (r : ExRes)
    (h : (attempt v cfg w).2.1 = pre ++ .exch .newAccount a s r :: post) :
    regState (!w.acc.hasUrl || !w.acc.bindingInSync) pre = true := by
  have := register_only_when v cfg w
  rw [h] at this
  exact regMon_sound _ this

/-- **Account state is saved before it is used** (any variant, any scripts): replaying an attempt
with `savedMon`, no request is sent between a successful account request (creation, contact
update, key roll-over) and the save of the account. -/
theorem state_saved_before_use (v : Variant) (cfg : Cfg) (w : World) :
    savedMon false (attempt v cfg w).2.1 = true := by
  exact ((saved_attemptM v cfg).attempt w).1

/-- Reading of `state_saved_before_use`: between a successful account request and the next
request there is a `saveAccount` event. -/
theorem state_saved_before_use_explicit (v : Variant) (cfg : Cfg) (w : World)
    (pre mid post : List Ev) (k k' : ReqKind) (a a' : Auth) (s s' : KeyId) (r r' : ExRes)
    (hk : isAcctKind k = true) (hr : isOkRes r = true)
    (h : (attempt v cfg w).2.1 = pre ++ .exch k a s r :: (mid ++ .exch k' a' s' r' :: post)) :
    .saveAccount ∈ mid := by
  have := state_saved_before_use v cfg w
  rw [h] at this
  exact savedMon_sound hk hr pre false this

/-- **Order of the updates (key first), key out of sync.**  With a URL stored and the binding
unchanged, when the configured key differs from the recorded one (contacts changed or not), for
every tree that rolls the key over first:
1. the first request is `kid`-authenticated and signed by the RECORDED (old) key: the key change,
   or (since 1fb1c1a) the query of the account that precedes it;
2. every contact update is `kid`-authenticated, signed by the CURRENT key, comes after it, and at
   that moment the CA — replayed from "holds the recorded key" — holds exactly that current key;
3. every `kid` request is signed by the key the CA holds, EXCEPT possibly a query of the account
   signed by the current key (`heldMonP`); without that exception (`heldMon`) whenever the tree
   sends no such query from this world (`mayAskCur v w = false`);
4. when the synchronisation returns the CA holds the current key. -/
theorem sync_order_keyFirst (v : Variant) (hv : v.keyFirst = true) (w : World)
    (hu : w.acc.hasUrl = true) (hb : w.acc.bindingInSync = true) (hk : w.acc.keyInSync = false) :
    ∃ es, (synchronize v w).2.trace = w.trace ++ es ∧
      (es = [] ∨ (∃ r rest, es = .exch .keyChange .kid w.acc.recKey r :: rest) ∨
        (v.rolloverCheck = .first ∧ ∃ r rest, es = .exch .accountProbe .kid w.acc.recKey r :: rest)) ∧
      (∀ pre a s r post, es = pre ++ .exch .accountUpdate a s r :: post →
        a = .kid ∧ s = w.acc.curKey ∧ heldEnd w.acc.curKey w.acc.recKey pre = w.acc.curKey ∧
        pre ≠ []) ∧
      heldMonP w.acc.curKey w.acc.recKey es = true ∧
      (mayAskCur v w = false → heldMon w.acc.curKey w.acc.recKey es = true) ∧
      ((synchronize v w).1.tag = .ok →
        heldEnd w.acc.curKey w.acc.recKey es = w.acc.curKey) := by
  obtain ⟨es1, es2, t1, htr, hs1, hus1, hnp1, hcase⟩ := sync_keyFirst_keyChanged v hv w hu hb hk
  obtain ⟨hm1, he1⟩ := hs1.heldP
  have hne : w.acc.recKey ≠ w.acc.curKey := by
    intro h
    simp [Acc.keyInSync, h] at hk
  -- the whole trace is accepted by `heldMonP`, ending with the current key
  have hheld : heldMonP w.acc.curKey w.acc.recKey (es1 ++ es2) = true ∧
      NoProbe es2 ∧
      ((synchronize v w).1.tag = .ok →
        heldEnd w.acc.curKey w.acc.recKey (es1 ++ es2) = w.acc.curKey) := by
    rw [(held_append ..).2.1, (held_append ..).2.2]
    rcases hcase with ⟨rfl, ⟨_, hs2⟩ | ⟨_, rfl, _⟩⟩ | ⟨hne1, rfl, htag⟩
    · obtain ⟨hm2, he2⟩ := hs2.heldP (.inr rfl)
      rw [he1 rfl]
      exact ⟨by rw [hm1, hm2]; rfl, hs2.noProbe_of_accountUpdate, he2⟩
    · exact ⟨by simp [hm1, heldMonP], by simp [NoProbe], fun _ => by simpa [heldEnd] using he1 rfl⟩
    · refine ⟨by simp [hm1, heldMonP], by simp [NoProbe], fun ht => ?_⟩
      rw [htag] at ht
      exact absurd ht hne1
  -- first request
  have hfirst1 : es1 = [] ∨ (∃ r rest, es1 = .exch .keyChange .kid w.acc.recKey r :: rest) ∨
      (v.rolloverCheck = .first ∧ ∃ r rest, es1 = .exch .accountProbe .kid w.acc.recKey r :: rest) := by
    by_cases hf : v.rolloverCheck = .first
    · rcases hs1 with (⟨rfl, _⟩ | ⟨r, rest, rfl, _⟩) | ⟨p, rest, rfl, _⟩
      · exact .inl rfl
      · exact .inr (.inl ⟨r, rest, rfl⟩)
      · exact .inr (.inr ⟨hf, p, rest, rfl⟩)
    · rcases hus1 hf with ⟨rfl, _⟩ | ⟨r, rest, rfl, _⟩
      · exact .inl rfl
      · exact .inr (.inl ⟨r, rest, rfl⟩)
  have hempty : es1 = [] → es2 = [] := by
    rintro rfl
    rcases hcase with ⟨rfl, _⟩ | ⟨_, rfl, _⟩
    · rcases hs1 with (⟨_, ht1⟩ | ⟨_, _, h, _⟩) | ⟨_, _, h, _⟩
      · rcases ht1 with h | h <;> cases h
      · cases h
      · cases h
    · rfl
  have hfirst : (es1 ++ es2 = [] ∨ (∃ r rest, es1 ++ es2 = .exch .keyChange .kid w.acc.recKey r :: rest) ∨
      (v.rolloverCheck = .first ∧
        ∃ r rest, es1 ++ es2 = .exch .accountProbe .kid w.acc.recKey r :: rest)) := by
    rcases hfirst1 with h | ⟨r, rest, rfl⟩ | ⟨hf, r, rest, rfl⟩
    · left; rw [h, hempty h]; rfl
    · exact .inr (.inl ⟨r, rest ++ es2, rfl⟩)
    · exact .inr (.inr ⟨hf, r, rest ++ es2, rfl⟩)
  refine ⟨es1 ++ es2, htr, hfirst, ?_, hheld.1, ?_, hheld.2.2⟩
  · intro pre a s r post hsplit
    have hmem : Ev.exch .accountUpdate a s r ∈ es1 ++ es2 := by rw [hsplit]; simp
    have hsig : a = .kid ∧ s = w.acc.curKey := by
      rcases List.mem_append.mp hmem with h | h
      · exact absurd h hs1.no_accountUpdate
      · rcases hcase with ⟨_, ⟨_, hs2⟩ | ⟨_, rfl, _⟩⟩ | ⟨_, rfl, _⟩
        · exact (hs2.accountUpdate_events h).2
        · cases h
        · cases h
    obtain ⟨rfl, rfl⟩ := hsig
    have hm := hheld.1
    rw [hsplit] at hm
    refine ⟨rfl, rfl, ?_, ?_⟩
    · rcases heldMonP_sound _ _ hm with h | ⟨h, _⟩
      · exact h.symm
      · cases h
    · rintro rfl
      rcases hfirst with h | ⟨r', rest', h⟩ | ⟨_, r', rest', h⟩
      · rw [hsplit] at h; cases h
      · rw [hsplit] at h; cases h
      · rw [hsplit] at h; cases h
  · intro hcond
    refine heldMon_of_heldMonP _ _ _ ?_ hheld.1
    intro a s r hm
    rcases List.mem_append.mp hm with h | h
    · rw [hnp1 hcond a s r h]; exact hne
    · exact absurd h (hheld.2.1 a s r)

/-- **Order of the updates (current tree), key out of sync** — `sync_order_keyFirst` for the working
tree.  Clause 3 holds without exception outside the class of the known finding
(`rolloverProbeAtDeactivatedAccount`: the CA answers the account query signed by the recorded key
with an error a failed signature verification produces); inside it, with the one exception: the
account query signed by the current key (`heldMonP`). -/
theorem sync_order_current (w : World) (hu : w.acc.hasUrl = true)
    (hb : w.acc.bindingInSync = true) (hk : w.acc.keyInSync = false) :
    ∃ es, (synchronize .current w).2.trace = w.trace ++ es ∧
      (es = [] ∨ (∃ r rest, es = .exch .keyChange .kid w.acc.recKey r :: rest) ∨
        ∃ r rest, es = .exch .accountProbe .kid w.acc.recKey r :: rest) ∧
      (∀ pre a s r post, es = pre ++ .exch .accountUpdate a s r :: post →
        a = .kid ∧ s = w.acc.curKey ∧ heldEnd w.acc.curKey w.acc.recKey pre = w.acc.curKey ∧
        pre ≠ []) ∧
      heldMonP w.acc.curKey w.acc.recKey es = true ∧
      (rolloverProbeAtDeactivatedAccount w = false →
        heldMon w.acc.curKey w.acc.recKey es = true) ∧
      ((synchronize .current w).1.tag = .ok →
        heldEnd w.acc.curKey w.acc.recKey es = w.acc.curKey) := by
  obtain ⟨es, h1, h2, h3, h4, h5, h6⟩ := sync_order_keyFirst .current rfl w hu hb hk
  refine ⟨es, h1, ?_, h3, h4, fun h => h5 h, h6⟩
  rcases h2 with h | h | ⟨_, h⟩
  · exact .inl h
  · exact .inr (.inl h)
  · exact .inr (.inr h)

/-- `sync_order_current`, clause 3, as `_partial` over the complement of the finding's class. -/
theorem sync_order_current_partial (w : World) (hu : w.acc.hasUrl = true)
    (hb : w.acc.bindingInSync = true) (hk : w.acc.keyInSync = false)
    (hc : rolloverProbeAtDeactivatedAccount w = false) :
    ∃ es, (synchronize .current w).2.trace = w.trace ++ es ∧
      heldMon w.acc.curKey w.acc.recKey es = true := by
  obtain ⟨es, h1, _, _, _, h5, _⟩ := sync_order_current w hu hb hk
  exact ⟨es, h1, h5 hc⟩

/-- **Clause 3 without the exception is false of the working tree** (known finding
`rollover-probe-at-deactivated-account`): the CA holds the recorded key 100 and answers the account
query signed by 100 with an error of class `sigRefused` (a deactivated account); the next request is
the account query signed by 101 — a key the CA does not hold.  No key change is sent. -/
theorem sync_order_current_full_is_false :
    ∃ w, w.acc.hasUrl = true ∧ w.acc.bindingInSync = true ∧ w.acc.keyInSync = false ∧
      w.acc.caKey = w.acc.recKey ∧ rolloverProbeAtDeactivatedAccount w = true ∧
      heldMon w.acc.curKey w.acc.recKey (synchronize .current w).2.trace = false ∧
      (synchronize .current w).2.trace =
        [.exch .accountProbe .kid 100 (.acmeErr .sigRefused),
         .exch .accountProbe .kid 101 (.acmeErr .sigRefused)] :=
  ⟨⟨[.acmeErr .sigRefused, .acmeErr .sigRefused], [], [], ⟨none, none⟩, 0, true,
     ⟨true, true, true, true, 101, 100, 100, true⟩, []⟩, by decide +kernel⟩

/-- Any OTHER refusal of the account query (userActionRequired, …) is returned as it is: one
request, signed by the key the CA holds. -/
example : (synchronize .current ⟨[.acmeErr .other, .ok .undecodable], [true, true], [],
    ⟨none, none⟩, 0, true, ⟨true, true, true, true, 101, 100, 100, true⟩, []⟩).2.trace =
      [.exch .accountProbe .kid 100 (.acmeErr .other)] := by decide +kernel

/-- The tree before 5ce05e3 (no query of the account at all): EVERY `kid` request is signed by the
key the CA holds, whatever the CA answers: clause 3 of `sync_order_keyFirst` without the exception. -/
theorem sync_order_preFix (w : World) (hu : w.acc.hasUrl = true)
    (hb : w.acc.bindingInSync = true) (hk : w.acc.keyInSync = false) :
    ∃ es, (synchronize .preFix w).2.trace = w.trace ++ es ∧
      heldMon w.acc.curKey w.acc.recKey es = true ∧
      ((synchronize .preFix w).1.tag = .ok →
        heldEnd w.acc.curKey w.acc.recKey es = w.acc.curKey) := by
  obtain ⟨es, h1, _, _, _, h5, h6⟩ := sync_order_keyFirst .preFix rfl w hu hb hk
  exact ⟨es, h1, h5 rfl, h6⟩

/-- **The tree at 5ce05e3 (check AFTER a refused key change) violates it in every world where the CA
genuinely refuses the roll-over**: the CA holds the recorded key 100 and refuses the key change to
101 (any ACME error other than accountDoesNotExist); the next request is the account query signed by
101 — a key the CA does not hold. -/
theorem sync_order_at5ce05e3_is_false :
    ∃ w, w.acc.hasUrl = true ∧ w.acc.bindingInSync = true ∧ w.acc.keyInSync = false ∧
      w.acc.caKey = w.acc.recKey ∧
      heldMon w.acc.curKey w.acc.recKey (synchronize .at5ce05e3 w).2.trace = false ∧
      (synchronize .at5ce05e3 w).2.trace =
        [.exch .keyChange .kid 100 (.acmeErr .other), .exch .accountProbe .kid 101 (.acmeErr .other)] :=
  ⟨⟨[.acmeErr .other, .acmeErr .other], [], [], ⟨none, none⟩, 0, true,
     ⟨true, true, true, true, 101, 100, 100, true⟩, []⟩, by decide +kernel⟩

/-- The same CA (holds 100, refuses the roll-over) seen by the working tree: the account query
signed by 100 is answered, the key change signed by 100 is refused; nothing is signed by 101. -/
example : (synchronize .current ⟨[.ok .undecodable, .acmeErr .other], [], [], ⟨none, none⟩, 0, true,
    ⟨true, true, true, true, 101, 100, 100, true⟩, []⟩).2.trace =
      [.exch .accountProbe .kid 100 (.ok .undecodable), .exch .keyChange .kid 100 (.acmeErr .other)] := by
  decide +kernel

/-- **Historical order violates it** (variant `old`, before e0bc7c2): URL stored, contacts AND key
changed ⇒ the first request is the contact update, signed by the NEW key while the CA still holds
the recorded one. -/
theorem sync_old_is_false :
    ∃ w, w.acc.hasUrl = true ∧ w.acc.bindingInSync = true ∧ w.acc.keyInSync = false ∧
      w.acc.contactsInSync = false ∧ w.acc.caKey = w.acc.recKey ∧
      heldMon w.acc.curKey w.acc.recKey (synchronize .old w).2.trace = false ∧
      (synchronize .old w).2.trace.head? =
        some (.exch .accountUpdate .kid w.acc.curKey (.acmeErr .other)) ∧
      w.acc.curKey ≠ w.acc.recKey :=
  ⟨⟨[.acmeErr .other], [], [], ⟨none, none⟩, 0, true,
     ⟨true, false, true, true, 101, 100, 100, true⟩, []⟩, by decide +kernel⟩

/-- The same world in the current tree: the roll-over block goes first, signed by the recorded key
(its first request is the query of the account). -/
example : (synchronize .current ⟨[.acmeErr .other], [], [], ⟨none, none⟩, 0, true,
    ⟨true, false, true, true, 101, 100, 100, true⟩, []⟩).2.trace.head? =
      some (.exch .accountProbe .kid 100 (.acmeErr .other)) := by decide +kernel

/-- **The synchronisation converges (any variant).**  Whenever it returns: URL stored, the three
recorded fingerprints equal those of the configuration, the current key is unchanged, and — if the
CA held the recorded key before — the CA holds the current key. -/
theorem sync_converges (v : Variant) (w w' : World) (u : Unit)
    (h : synchronize v w = (.val u, w')) :
    Synced w'.acc ∧ w'.acc.curKey = w.acc.curKey ∧
      (w.acc.caKey = w.acc.recKey → w'.acc.caKey = w'.acc.curKey) := by
  -- every step keeps what is in line (`Kept`); it remains to see that each item is brought into line
  suffices hk : Kept w.acc w'.acc ∧ Synced w'.acc from
    ⟨hk.2, hk.1.cur, fun hca => (hk.1.held hca).trans (eq_of_beq hk.2.2.2.1)⟩
  cases hu : w.acc.hasUrl
  · rw [sync_eq_noUrl v w hu] at h
    exact register_kept h
  · cases hb : w.acc.bindingInSync
    · rw [sync_eq_binding v w hu hb] at h
      obtain ⟨u1, w1, h1, h2⟩ := bind_val_inv h
      obtain ⟨k1, s1⟩ := register_kept h1
      obtain ⟨k2, _⟩ := optContacts_kept h2
      exact ⟨k1.trans k2, k2.synced s1⟩
    · -- an item in line at the start is kept by both blocks; one out of line is updated by its block
      have item : ∀ {c : Prop} {x x' : Bool}, (c ↔ x = false) → (x = true → x' = true) →
          (c → x' = true) → x' = true := by
        intro c x x' hc h1 h2
        cases hx : x
        · exact h2 (hc.mpr hx)
        · exact h1 hx
      cases hv : v.keyFirst
      · rw [sync_eq_contactsFirst v w hu hb hv] at h
        obtain ⟨u1, w1, h1, h2⟩ := bind_val_inv h
        obtain ⟨k1, e1⟩ := optContacts_kept h1
        obtain ⟨k2, e2⟩ := optKey_kept h2
        exact ⟨k1.trans k2, k2.url (k1.url hu),
          item (by simp) (k2.contacts ∘ k1.contacts) (k2.contacts ∘ e1),
          item (by simp) (k2.key ∘ k1.key) e2, k2.binding (k1.binding hb)⟩
      · rw [sync_eq_keyFirst v w hu hb hv] at h
        obtain ⟨u1, w1, h1, h2⟩ := bind_val_inv h
        obtain ⟨k1, e1⟩ := optKey_kept h1
        obtain ⟨k2, e2⟩ := optContacts_kept h2
        exact ⟨k1.trans k2, k2.url (k1.url hu),
          item (by simp) (k2.contacts ∘ k1.contacts) e2,
          item (by simp) (k2.key ∘ k1.key) (k2.key ∘ e1), k2.binding (k1.binding hb)⟩

/-- **One request per changed item (current tree).**  When the CA never answers
`accountDoesNotExist` and the synchronisation returns, it made: one newAccount iff no URL was stored
or the binding changed; one accountUpdate iff the contacts changed (and, in the binding-changed
branch, the key did not); and when (URL stored, binding unchanged and) the key changed, exactly TWO
requests for the roll-over (since 1fb1c1a): the query of the account signed by the recorded key,
followed by the key change — or, when that query was answered with an error of class `sigRefused`
(the CA already holds the current key: the answer to an earlier key change was lost), by the query
signed by the current key and NO key change; and nothing else. -/
theorem sync_one_per_item (w w' : World) (u : Unit)
    (h : synchronize .current w = (.val u, w')) (hn : NoADNE w) :
    ∃ es, w'.trace = w.trace ++ es ∧
      kindCount .newAccount es = (if w.acc.hasUrl && w.acc.bindingInSync then 0 else 1) ∧
      kindCount .keyChange es + kindCount .accountProbe es =
        (if w.acc.hasUrl && w.acc.bindingInSync && !w.acc.keyInSync then 2 else 0) ∧
      kindCount .keyChange es ≤ 1 ∧
      (.acmeErr .sigRefused ∉ w.exs → kindCount .keyChange es =
        (if w.acc.hasUrl && w.acc.bindingInSync && !w.acc.keyInSync then 1 else 0)) ∧
      kindCount .accountUpdate es =
        (if w.acc.hasUrl && !w.acc.contactsInSync && (w.acc.bindingInSync || w.acc.keyInSync)
          then 1 else 0) ∧
      exCount es = kindCount .newAccount es + kindCount .keyChange es +
        kindCount .accountUpdate es + kindCount .accountProbe es := by
  have close : ∀ {n k u p : Nat} {es : List Ev} {N KP K1 U : Nat}, w'.trace = w.trace ++ es →
      Reqs n k u p es → n = N → k + p = KP → k ≤ 1 → (.acmeErr .sigRefused ∉ w.exs → k = K1) →
      u = U → ∃ es, w'.trace = w.trace ++ es ∧ kindCount .newAccount es = N ∧
        kindCount .keyChange es + kindCount .accountProbe es = KP ∧ kindCount .keyChange es ≤ 1 ∧
        (.acmeErr .sigRefused ∉ w.exs → kindCount .keyChange es = K1) ∧
        kindCount .accountUpdate es = U ∧
        exCount es = kindCount .newAccount es + kindCount .keyChange es +
          kindCount .accountUpdate es + kindCount .accountProbe es := by
    intro n k u p es N KP K1 U ht R hN hKP hk hK1 hU
    refine ⟨es, ht, R.newAccount.trans hN, ?_, ?_, ?_, R.accountUpdate.trans hU, R.all⟩
    · rw [R.keyChange, R.accountProbe, hKP]
    · rw [R.keyChange]; exact hk
    · intro hno; rw [R.keyChange]; exact hK1 hno
  cases hu : w.acc.hasUrl
  · rw [sync_eq_noUrl _ w hu] at h
    obtain ⟨es, ht, R⟩ := register_reqs h
    exact close ht R rfl rfl (Nat.zero_le 1) (fun _ => rfl) rfl
  · cases hb : w.acc.bindingInSync
    · rw [sync_eq_binding _ w hu hb] at h
      obtain ⟨u1, w1, h1, h2⟩ := bind_val_inv h
      obtain ⟨es1, ht1, R1⟩ := register_reqs h1
      rcases opt_val_inv h2 with ⟨hc, h2⟩ | ⟨hc, rfl⟩
      · obtain ⟨es2, ht2, R2⟩ := updateContacts_reqs h2 (hn.mono (register_acc h1).1)
        have hc' : w.acc.contactsInSync = false ∧ w.acc.keyInSync = true := by
          simpa [Variant.current] using hc
        exact close (by rw [ht2, ht1, List.append_assoc]) (R1.append R2) rfl rfl (Nat.zero_le 1)
          (fun _ => rfl) (by rw [hc'.1, hc'.2]; rfl)
      · refine close ht1 R1 rfl rfl (Nat.zero_le 1) (fun _ => rfl) ?_
        cases hci : w.acc.contactsInSync
        · cases hki : w.acc.keyInSync
          · rfl
          · exact absurd (by rw [hci, hki]; rfl) hc
        · rfl
    · rw [sync_eq_keyFirst _ w hu hb rfl] at h
      obtain ⟨u1, w1, h1, h2⟩ := bind_val_inv h
      obtain ⟨es1, k, p, ht1, R1, hn1, hk1, hkp, hks⟩ : ∃ es1 k p, w1.trace = w.trace ++ es1 ∧
          Reqs 0 k 0 p es1 ∧ NoADNE w1 ∧ k ≤ 1 ∧
          k + p = (if (true && true && !w.acc.keyInSync) = true then 2 else 0) ∧
          (.acmeErr .sigRefused ∉ w.exs →
            k = if (true && true && !w.acc.keyInSync) = true then 1 else 0) := by
        rcases opt_val_inv h1 with ⟨hc, h1⟩ | ⟨hc, hw⟩
        · have hki : w.acc.keyInSync = false := by simpa using hc
          obtain ⟨es1, k, ht1, R1, hk1, hks⟩ := updateKey_reqs h1 hn
          rw [hki]
          exact ⟨es1, k, 2 - k, ht1, R1, hn.mono (updateKey_acc h1).1, hk1,
            (by omega : k + (2 - k) = 2), hks⟩
        · have hki : w.acc.keyInSync = true := by simpa using hc
          rw [hki, hw]
          exact ⟨[], 0, 0, (List.append_nil _).symm, ⟨rfl, rfl, rfl, rfl, rfl⟩, hn, Nat.zero_le 1,
            rfl, fun _ => rfl⟩
      rcases opt_val_inv h2 with ⟨hc, h2⟩ | ⟨hc, rfl⟩
      · have hci : w.acc.contactsInSync = false := by simpa using hc
        obtain ⟨es2, ht2, R2⟩ := updateContacts_reqs h2 hn1
        exact close (by rw [ht2, ht1, List.append_assoc]) (R1.append R2) rfl hkp hk1 hks
          (by rw [hci]; rfl)
      · have hci : w.acc.contactsInSync = true := by simpa using hc
        exact close ht1 R1 rfl hkp hk1 hks (by rw [hci]; rfl)

/-- **"One keyChange iff the key changed, and nothing else" (true of the tree before 5ce05e3) is false
of the working tree**: the CA already holds the current key (the answer to an earlier key change was
lost); the synchronisation returns after two account queries and NO key change. -/
theorem sync_one_per_item_old_statement_is_false :
    ∃ w, (synchronize .current w).1.tag = .ok ∧ NoADNE w ∧ w.acc.keyInSync = false ∧
      kindCount .keyChange (synchronize .current w).2.trace = 0 ∧
      exCount (synchronize .current w).2.trace = 2 ∧
      (synchronize .current w).2.acc.keyInSync = true :=
  ⟨⟨[.acmeErr .sigRefused, .ok .undecodable], [true, true], [], ⟨none, none⟩, 0, true,
     ⟨true, true, true, true, 101, 100, 101, true⟩, []⟩,
   by refine ⟨by decide +kernel, by simp [NoADNE], by decide, by decide +kernel, by decide +kernel,
        by decide +kernel⟩⟩

/-- **The CA's record is brought into line (current tree).**  Assume that before the
synchronisation the CA holds the recorded key, that recorded-in-sync contacts are really the CA's
contacts, that the CA never answers `accountDoesNotExist`, and that it answers newAccount with
"existing account, unchanged" only for a key it knows (URL stored, key unchanged).  Then whenever
the synchronisation returns, the CA holds the current key and the configured contacts. -/
theorem sync_ca_in_line (w w' : World) (u : Unit)
    (h : synchronize .current w = (.val u, w'))
    (hca : w.acc.caKey = w.acc.recKey)
    (hcc : w.acc.contactsInSync = true → w.acc.caContactsOk = true)
    (hn : NoADNE w)
    (hex : ∀ ho hl, .ok (.account ho hl true) ∈ w.exs →
      w.acc.hasUrl = true ∧ w.acc.keyInSync = true) :
    w'.acc.caKey = w'.acc.curKey ∧ w'.acc.caContactsOk = true := by
  refine ⟨(sync_converges _ w w' u h).2.2 hca, ?_⟩
  cases hu : w.acc.hasUrl
  · rw [sync_eq_noUrl _ w hu] at h
    obtain ⟨_, ho, ex, hm, ha⟩ := register_acc h
    cases ex
    · rw [ha]; simp [regAcc]
    · have := (hex ho true hm).1; rw [hu] at this; cases this
  · cases hb : w.acc.bindingInSync
    · rw [sync_eq_binding _ w hu hb] at h
      obtain ⟨u1, w1, h1, h2⟩ := bind_val_inv h
      obtain ⟨hc1, ho, ex, hm, ha⟩ := register_acc h1
      have hn1 : NoADNE w1 := hn.mono hc1
      rcases optContacts_eff h2 with ⟨hcond, rfl⟩ | ⟨_, _, hcx, _⟩
      · rw [ha]
        cases ex
        · simp [regAcc]
        · have hk := (hex ho true hm).2
          have : w.acc.contactsInSync = true := by
            cases hci : w.acc.contactsInSync
            · exact absurd (by simp [Variant.current, hci, hk]) hcond
            · rfl
          simp [regAcc, hcc this]
      · rw [hcx hn1]; simp [contactsAcc]
    · rw [sync_eq_keyFirst _ w hu hb rfl] at h
      obtain ⟨u1, w1, h1, h2⟩ := bind_val_inv h
      have hw1 : NoADNE w1 ∧ w1.acc.caContactsOk = w.acc.caContactsOk := by
        rcases optKey_eff h1 with ⟨_, rfl⟩ | ⟨_, hc1, hkx, _⟩
        · exact ⟨hn, rfl⟩
        · exact ⟨hn.mono hc1, by rw [hkx hn]; rfl⟩
      rcases optContacts_eff h2 with ⟨hcond, rfl⟩ | ⟨_, _, hcx, _⟩
      · rw [hw1.2]
        apply hcc
        simpa using hcond
      · rw [hcx hw1.1]; simp [contactsAcc]

/-- **Behaviour before 549b756 violates it**: URL stored, binding AND contacts changed, key
unchanged; the CA answers newAccount with the existing account ⇒ the synchronisation returns with
every fingerprint "in sync" while the CA still has the old contacts; no contact update is sent. -/
theorem sync_binding_old_is_false :
    ∃ w, (synchronize ⟨false, true, true, true, false, .first⟩ w).1.tag = .ok ∧
      w.acc.caKey = w.acc.recKey ∧ (w.acc.contactsInSync = true → w.acc.caContactsOk = true) ∧
      NoADNE w ∧ (∀ ho hl, .ok (.account ho hl true) ∈ w.exs →
        w.acc.hasUrl = true ∧ w.acc.keyInSync = true) ∧
      Synced (synchronize ⟨false, true, true, true, false, .first⟩ w).2.acc ∧
      (synchronize ⟨false, true, true, true, false, .first⟩ w).2.acc.caContactsOk = false ∧
      kindCount .accountUpdate (synchronize ⟨false, true, true, true, false, .first⟩ w).2.trace = 0 :=
  ⟨⟨[.ok (.account true true true)], [true, true], [], ⟨none, none⟩, 0, true,
     ⟨true, false, false, true, 100, 100, 100, false⟩, []⟩,
   by
    refine ⟨by decide +kernel, rfl, by simp, by simp [NoADNE], ?_, ?_, by decide +kernel,
      by decide +kernel⟩
    · intro ho hl hm
      simp [Acc.keyInSync]
    · unfold Synced
      decide +kernel⟩

/-- Non-vacuity of `sync_ca_in_line` / `sync_one_per_item`: the same world in the current tree
returns, after one newAccount and one accountUpdate, with the CA's contacts updated. -/
example : (synchronize .current ⟨[.ok (.account true true true), .ok .undecodable],
    [true, true, true, true], [], ⟨none, none⟩, 0, true,
    ⟨true, false, false, true, 100, 100, 100, false⟩, []⟩).2.acc.caContactsOk = true := by
  decide +kernel

end AcmedVerif.Props.C11
