/-
C14, clause "glob expansion relative to the including file" (anchor: acmed/src/config.rs `get_cnf_path`):
theorems about Model/Glob.lean (the `glob` crate's `Pattern` and directory walk, `get_cnf_path`), for any file-system
view, fuel and names; then witnesses by evaluation: the construction before 3e3e4c9 (no escape), a path returned
twice, a parent directory that can be searched but not listed.
PARTIAL: "no path twice" is proved for patterns without a `**` component only; "the result depends on the file
system only through what is inside the directory" up to reachability of the directory.
-/
import AcmedVerif.Lemmas.GlobCnf
import AcmedVerif.Lemmas.GlobTree
import AcmedVerif.Lemmas.GlobIndep
import AcmedVerif.Spec.C14Glob

namespace AcmedVerif.Props.C14Glob
open AcmedVerif.Glob
open AcmedVerif.Spec.C14Glob (inDir allInside)

/-- `Pattern::escape`: "The resulting string will, when compiled into a `Pattern`, match the input string and
nothing else" - for every string `s` (separators included) and every text `t`. -/
theorem escape_matches_only_itself (s t : Str) :
    ∃ p, Pattern.new (escape s) = .ok p ∧ (p.matches t = true ↔ t = s) :=
  ⟨escPattern s, new_escape s, escPattern_matches s t⟩

/-- The same on the token level: the escaped string never fails to tokenise. -/
theorem escape_tokens (s t : Str) :
    ∃ ts, tokenize (escape s) = .ok ts ∧ (matchesToks ts t = true ↔ t = s) :=
  ⟨s.map escTok, tokenize_escape s, by simpa [Pattern.matches, escPattern] using escPattern_matches s t⟩

/-- A relative include of a file whose canonical directory has the components `cs` (any proper names: not
empty, no separator, not `.` or `..` - every character else, metacharacters included): whatever the file system
answers (entries with proper names), every returned path is the directory or continues it after a separator. -/
theorem relative_include_stays_in_dir (fs : FsView) (hwf : fs.WF) (cs : List Str)
    (hv : ∀ c ∈ cs, validName c = true) (file : Str) (hrel : file.head? ≠ some '/') (fuel : Nat) (ps : List Str)
    (h : resolve fs fuel (absDir cs) file = .paths ps) :
    ∀ p ∈ ps, inDir (absDir cs) p = true := by
  obtain ⟨fpats, _, hlit, rfl | ⟨d, _, ho⟩⟩ := resolve_outs fs hwf cs hv file hrel fuel ps h
  · simp
  · intro p hp
    rw [inDir_iff]
    exact outs_in fs hwf _ (absDir_ne_nil cs) _ ho (addNext_in fs hwf _ (absDir_ne_nil cs) _ _ hlit (InDir.refl _)) p hp

/-- For every finite listing a real directory tree can give: the part of the judge that says "inside the
including file's directory" accepts what the model returns. -/
theorem relative_include_stays_in_dir_listing (L : Listing) (hL : L.wf = true) (cs : List Str)
    (hv : ∀ c ∈ cs, validName c = true) (file : Str) (hrel : file.head? ≠ some '/') (fuel : Nat) (ps : List Str)
    (h : resolve L.view fuel (absDir cs) file = .paths ps) :
    allInside (absDir cs) ps = true := by
  simp only [allInside, List.all_eq_true]
  exact relative_include_stays_in_dir L.view (view_wf L hL) cs hv file hrel fuel ps h

/-- What a relative include resolves to is the walk that follows the escaped components of the directory -
each matched by the entry with exactly that name, `escape_matches_only_itself` - and then the include's own
component patterns `fpats` (none of whose literal components starts with a separator). -/
theorem relative_include_walk (fs : FsView) (cs : List Str) (hv : ∀ c ∈ cs, validName c = true) (file : Str)
    (hrel : file.head? ≠ some '/') (fuel : Nat) (ps : List Str)
    (h : resolve fs fuel (absDir cs) file = .paths ps) :
    ∃ fpats rd, Lit fpats ∧
      run fs rd fuel (fillTodo fs (cs.map escPattern ++ fpats) (fromPath fs ['/'])) [] = some ps := by
  obtain ⟨pats, hp, hr⟩ := glob_paths_run fs fuel _ ps h
  obtain ⟨fpats, hlit, rfl⟩ := dirPatterns_cnf cs hv file hrel pats hp
  exact ⟨fpats, _, hlit, hr⟩

/-- What a relative include resolves to is nothing (the directory is not reached: a component of it cannot be
listed or found), or exactly what the walk started AT the directory `dir`, with the include's own component
patterns, returns (`finalItems`: the `todo` stack on arrival at `dir`; `Outs`: the depth-first reading of the
stack machine).  `LastTypeOk`: the entry for `dir` in its parent says "directory" exactly when `metadata(dir)`
does (true of a real file system). -/
theorem relative_include_is_walk_from_dir (fs : FsView) (hwf : fs.WF) (cs : List Str)
    (hv : ∀ c ∈ cs, validName c = true) (file : Str) (hrel : file.head? ≠ some '/') (ht : LastTypeOk fs cs)
    (fuel : Nat) (ps : List Str) (h : resolve fs fuel (absDir cs) file = .paths ps) :
    ∃ fpats rd, Lit fpats ∧ (ps = [] ∨ Outs fs rd (finalItems fs cs fpats) ps) := by
  obtain ⟨fpats, _, hlit, hps⟩ := resolve_outs fs hwf cs hv file hrel fuel ps h
  refine ⟨fpats, (cnfPattern (absDir cs) file).getLast? == some '/', hlit, hps.imp_right ?_⟩
  rintro ⟨d, hd, ho⟩
  rw [hd ht] at ho
  exact ho

/-- PARTIAL: two file systems that answer alike for every path inside the including file's directory `dir` - and
may differ in everything else: the siblings of `dir`, of its ancestors, the rest of the world - resolve a
relative include to the same paths, in the same order, unless one of the results is empty.  What is missing
for the full statement ("equal whenever both get to `dir`"): a predicate saying that the walk reaches `dir`;
an empty result on one side only is the case where only the other side reaches it. -/
theorem relative_include_depends_on_dir_only_partial (fs1 fs2 : FsView) (hwf1 : fs1.WF) (hwf2 : fs2.WF)
    (cs : List Str) (hv : ∀ c ∈ cs, validName c = true) (file : Str) (hrel : file.head? ≠ some '/')
    (hag : AgreeIn fs1 fs2 (absDir cs)) (ht1 : LastTypeOk fs1 cs) (ht2 : LastTypeOk fs2 cs)
    (f1 f2 : Nat) (p1 p2 : List Str)
    (h1 : resolve fs1 f1 (absDir cs) file = .paths p1) (h2 : resolve fs2 f2 (absDir cs) file = .paths p2) :
    p1 = [] ∨ p2 = [] ∨ p1 = p2 := by
  obtain ⟨fpats, hd1, hlit, v1⟩ := resolve_outs fs1 hwf1 cs hv file hrel f1 p1 h1
  obtain ⟨fpats2, hd2, _, v2⟩ := resolve_outs fs2 hwf2 cs hv file hrel f2 p2 h2
  obtain rfl : fpats = fpats2 := List.append_cancel_left (Except.ok.inj (hd1.symm.trans hd2))
  rcases v1 with v1 | ⟨d1, e1, v1⟩
  · exact .inl v1
  rcases v2 with v2 | ⟨d2, e2, v2⟩
  · exact .inr (.inl v2)
  -- both walks arrive: from there on they stay inside the directory, where the two views agree
  rw [e1 ht1] at v1
  rw [e2 ht2, ← hag.isDir _ (InDir.refl _)] at v2
  have hd := absDir_ne_nil cs
  have hin := addNext_in fs1 hwf1 _ hd fpats ⟨absDir cs, fs1.isDir (absDir cs)⟩ hlit (InDir.refl _)
  have v1' := outs_agree fs1 fs2 hwf1 _ hd hag _ v1 hin
  rw [addNext_agree fs1 fs2 hwf1 _ hd hag _ _ hlit (InDir.refl _)] at v1'
  exact .inr (.inr (v1'.det v2))

/-- In particular: strip every directory outside `dir` of all entries that are not on the way to `dir` (no
sibling of `dir` or of any of its ancestors is left) - the answer does not change (non-vacuity of
`relative_include_depends_on_dir_only_partial`: the two views differ wherever there was a sibling). -/
theorem relative_include_ignores_siblings_partial (fs : FsView) (hwf : fs.WF) (cs : List Str)
    (hv : ∀ c ∈ cs, validName c = true) (file : Str) (hrel : file.head? ≠ some '/') (ht : LastTypeOk fs cs)
    (f1 f2 : Nat) (p1 p2 : List Str) (h1 : resolve fs f1 (absDir cs) file = .paths p1)
    (h2 : resolve (pruneOutside fs cs) f2 (absDir cs) file = .paths p2) : p1 = [] ∨ p2 = [] ∨ p1 = p2 :=
  relative_include_depends_on_dir_only_partial fs (pruneOutside fs cs) hwf (pruneOutside_wf fs hwf cs) cs hv file hrel
    (pruneOutside_agree fs cs) ht (pruneOutside_lastTypeOk fs cs ht) f1 f2 p1 p2 h1 h2

/-- PARTIAL (the full statement is `resolve_nodup_full_is_false` below): over the class `nonRecursive` - no
component of the globbed pattern is `**` - `glob` returns no path twice, in whatever order the walk defines
(entries of a directory by ascending name, `..` and `.` first).  Missing for the full class: patterns with ONE
`**` group (true, not proved); with two groups it is false. -/
theorem glob_nodup_partial (fs : FsView) (hwf : fs.WF) (fuel : Nat) (pattern : Str) (ps : List Str)
    (hnr : nonRecursive pattern = true) (h : glob fs fuel pattern = .paths ps) : ps.Nodup := by
  obtain ⟨pats, hpats, hrun⟩ := glob_paths_run fs fuel pattern ps h
  exact fillTodo_nodup fs hwf _ pats (.of_nonRecursive hnr hpats) (Lit.of_dirPatterns _ _ hpats) (fromPath fs ['/']) (by simp [fromPath]) _
    (outs_of_run hrun)

/-- `get_cnf_path` returns no path twice when no component of the include (relative or absolute) is `**`. -/
theorem resolve_nodup_partial (fs : FsView) (hwf : fs.WF) (fuel : Nat) (dir file : Str) (ps : List Str)
    (hnr : nonRecursive (cnfPattern dir file) = true) (h : resolve fs fuel dir file = .paths ps) : ps.Nodup :=
  glob_nodup_partial fs hwf fuel _ ps hnr h

/-- Fuel only decides whether the model's walk ends, never what it returns. -/
theorem resolve_fuel_irrelevant (fs : FsView) (f1 f2 : Nat) (dir file : Str) (p1 p2 : List Str)
    (h1 : resolve fs f1 dir file = .paths p1) (h2 : resolve fs f2 dir file = .paths p2) : p1 = p2 := by
  obtain ⟨pats1, hp1, hr1⟩ := glob_paths_run fs f1 _ p1 h1
  obtain ⟨pats2, hp2, hr2⟩ := glob_paths_run fs f2 _ p2 h2
  rw [hp1] at hp2
  simp at hp2; subst hp2
  exact run_fuel_irrelevant fs _ f1 f2 _ _ _ hr1 hr2

/-- Text of a literal. -/
def S (s : String) : Str := s.toList

/-- A readable, searchable directory. -/
def openDir (es : List (String × Kind)) : DirInfo := ⟨true, true, es.map fun e => (S e.1, e.2)⟩

/-- `/r/a*b/{main.toml,inc/x.toml}` next to `/r/aXb/inc/x.toml`. -/
def starTree : Listing :=
  [ ([], openDir [("r", .dir)]),
    ([S "r"], openDir [("a*b", .dir), ("aXb", .dir)]),
    ([S "r", S "a*b"], openDir [("main.toml", .file), ("inc", .dir)]),
    ([S "r", S "a*b", S "inc"], openDir [("x.toml", .file)]),
    ([S "r", S "aXb"], openDir [("inc", .dir)]),
    ([S "r", S "aXb", S "inc"], openDir [("x.toml", .file)]) ]

/-- `/r/conf[1]/{main.toml,inc/x.toml}`, with or without a sibling `/r/conf1/inc/x.toml`. -/
def bracketTree (sibling : Bool) : Listing :=
  [ ([], openDir [("r", .dir)]),
    ([S "r"], openDir ([("conf[1]", .dir)] ++ if sibling then [("conf1", .dir)] else [])),
    ([S "r", S "conf[1]"], openDir [("main.toml", .file), ("inc", .dir)]),
    ([S "r", S "conf[1]", S "inc"], openDir [("x.toml", .file)]),
    ([S "r", S "conf1"], openDir [("inc", .dir)]),
    ([S "r", S "conf1", S "inc"], openDir [("x.toml", .file)]) ]

/-- Before 3e3e4c9 (the directory is part of the pattern): the include of `/r/a*b/main.toml` also reads the file of
the sibling `/r/aXb`, a path outside the including file's directory; in the current tree it does not. -/
theorem old_pattern_escapes_dir :
    resolveOld starTree.view 100 (S "/r/a*b") (S "inc/x.toml")
        = .paths [S "/r/a*b/inc/x.toml", S "/r/aXb/inc/x.toml"] ∧
    inDir (S "/r/a*b") (S "/r/aXb/inc/x.toml") = false ∧
    Spec.C14Glob.holds starTree (S "/r/a*b") (S "inc/x.toml") [S "/r/a*b/inc/x.toml", S "/r/aXb/inc/x.toml"] = false ∧
    resolve starTree.view 100 (S "/r/a*b") (S "inc/x.toml") = .paths [S "/r/a*b/inc/x.toml"] ∧
    Spec.C14Glob.holds starTree (S "/r/a*b") (S "inc/x.toml") [S "/r/a*b/inc/x.toml"] = true := by
  -- the kernel evaluates `"…".toList` by encoding and decoding the literal, slowly: read the characters off it first
  unfold S
  repeat rw [String.toList_ofList]
  decide +kernel

/-- Before 3e3e4c9: in `/r/conf[1]` the existing `inc/x.toml` is NOT returned (`[1]` is a class: the pattern
names `/r/conf1/…`; with such a sibling ITS file is returned instead); in the current tree it is. -/
theorem old_pattern_loses_include :
    resolveOld (bracketTree false).view 100 (S "/r/conf[1]") (S "inc/x.toml") = .paths [] ∧
    resolveOld (bracketTree true).view 100 (S "/r/conf[1]") (S "inc/x.toml") = .paths [S "/r/conf1/inc/x.toml"] ∧
    Spec.C14Glob.namesFile (bracketTree false) (S "/r/conf[1]") (S "inc/x.toml") = true ∧
    Spec.C14Glob.holds (bracketTree false) (S "/r/conf[1]") (S "inc/x.toml") [] = false ∧
    resolve (bracketTree false).view 100 (S "/r/conf[1]") (S "inc/x.toml") = .paths [S "/r/conf[1]/inc/x.toml"] ∧
    resolve (bracketTree true).view 100 (S "/r/conf[1]") (S "inc/x.toml") = .paths [S "/r/conf[1]/inc/x.toml"] := by
  unfold S
  repeat rw [String.toList_ofList]
  decide +kernel

/-- `/d/x/x/y`. -/
def nestedTree : Listing :=
  [ ([], openDir [("d", .dir)]),
    ([S "d"], openDir [("x", .dir), ("main.toml", .file)]),
    ([S "d", S "x"], openDir [("x", .dir)]),
    ([S "d", S "x", S "x"], openDir [("y", .file)]) ]

/-- The FULL statement "the resolver never returns a path twice" is false of the code as it is (and of the real
crate: same answer on disk): two `**` groups reach `/d/x/x/y` by two routes. -/
theorem resolve_nodup_full_is_false :
    ¬ (∀ (fs : FsView), fs.WF → ∀ (cs : List Str), (∀ c ∈ cs, validName c = true) → ∀ (file : Str) (fuel : Nat)
        (ps : List Str), resolve fs fuel (absDir cs) file = .paths ps → ps.Nodup) := by
  intro h
  have hres : resolve nestedTree.view 40 (absDir [S "d"]) (S "**/x/**/y") = .paths [S "/d/x/x/y", S "/d/x/x/y"] := by
    unfold S
    repeat rw [String.toList_ofList]
    decide +kernel
  exact absurd (h nestedTree.view (view_wf _ (by decide +kernel)) [S "d"] (by decide +kernel) _ _ _ hres) (by decide +kernel)

/-- `/p/{conf[1],conf1}/{main.toml,x.toml}`; `/p` can be searched, and listed or not. -/
def searchOnlyParent (canList : Bool) : Listing :=
  [ ([], openDir [("p", .dir)]),
    ([S "p"], ⟨canList, true, [(S "conf[1]", .dir), (S "conf1", .dir)]⟩),
    ([S "p", S "conf[1]"], openDir [("main.toml", .file), ("x.toml", .file)]),
    ([S "p", S "conf1"], openDir [("main.toml", .file), ("x.toml", .file)]) ]

/-- Observation outside the property (permissions are not in its quantifier).  `escape` turns `conf[1]` into
`conf[[]1[]]`, a component WITH metacharacters: glob lists the parent and matches its entries instead of asking
whether the entry exists.  A parent that can be searched but not listed therefore loses every relative include
of a file in `conf[1]` (an existing, literally named file is not returned), while the neighbour `conf1` under
the same parent keeps its includes. -/
theorem escaped_dir_needs_listable_parent :
    Spec.C14Glob.namesFile (searchOnlyParent false) (S "/p/conf[1]") (S "x.toml") = true ∧
    resolve (searchOnlyParent false).view 100 (S "/p/conf[1]") (S "x.toml") = .paths [] ∧
    resolve (searchOnlyParent true).view 100 (S "/p/conf[1]") (S "x.toml") = .paths [S "/p/conf[1]/x.toml"] ∧
    resolve (searchOnlyParent false).view 100 (S "/p/conf1") (S "x.toml") = .paths [S "/p/conf1/x.toml"] := by
  unfold S
  repeat rw [String.toList_ofList]
  decide +kernel

/-- The hypotheses of `relative_include_stays_in_dir_listing` hold of a tree with look-alike siblings and a glob
that finds something. -/
example : starTree.wf = true ∧ (∀ c ∈ [S "r", S "a*b"], validName c = true) ∧ (S "*/*.toml").head? ≠ some '/' ∧
    absDir [S "r", S "a*b"] = S "/r/a*b" ∧
    resolve starTree.view 100 (absDir [S "r", S "a*b"]) (S "*/*.toml") = .paths [S "/r/a*b/inc/x.toml"] := by
  unfold S
  repeat rw [String.toList_ofList]
  decide +kernel

/-- The hypothesis `LastTypeOk` of `relative_include_is_walk_from_dir` / `…_depends_on_dir_only_partial` holds of the
same tree (the parent's entry for `a*b` says "directory", and so does `metadata`). -/
example : LastTypeOk starTree.view [S "r", S "a*b"] := by
  intro k hk es t h hm
  have hk1 : k = 1 := by simp at hk; omega
  subst hk1
  have hr : starTree.view.readDir (absDir ([S "r", S "a*b"].take 1)) =
      some [(S "a*b", EntryType.dir), (S "aXb", EntryType.dir)] := by decide +kernel
  rw [hr] at h
  simp only [Option.some.injEq] at h
  subst h
  have ht : t = EntryType.dir := by
    simp only [List.mem_cons, Prod.mk.injEq, List.not_mem_nil, or_false] at hm
    rcases hm with ⟨_, rfl⟩ | ⟨_, rfl⟩ <;> rfl
  subst ht
  unfold S
  repeat rw [String.toList_ofList]
  decide +kernel

/-- `Except` has no decidable equality in core: the two sides of `tokenize`. -/
def tokOk (s : Str) : Option (List Token) := match tokenize s with | .ok t => some t | .error _ => none
def tokErr (s : Str) : Option PatternError := match tokenize s with | .ok _ => none | .error e => some e

/-- `escape_matches_only_itself` on a string made of metacharacters only. -/
example : tokOk (escape (S "[*]?")) = some (escPattern (S "[*]?")).tokens ∧ escape (S "[*]?") = S "[[][*][]][?]" ∧
    (escPattern (S "[*]?")).matches (S "[*]?") = true ∧ (escPattern (S "[*]?")).matches (S "[x]y") = false := by
  unfold S
  repeat rw [String.toList_ofList]
  decide +kernel

/-- The three error cases of `Pattern::new`, with the crate's positions. -/
example : tokErr (S "a***") = some ⟨3, .wildcards⟩ ∧ tokErr (S "a**") = some ⟨0, .recursiveWildcards⟩ ∧
    tokErr (S "**a") = some ⟨2, .recursiveWildcards⟩ ∧ tokErr (S "a[!") = some ⟨1, .invalidRange⟩ ∧
    tokOk (S "[]a]") = some [.anyWithin [.singleChar ']', .singleChar 'a']] ∧
    tokOk (S "**/a/**/**/[!x-z]") =
      some [.anyRecursiveSequence, .char 'a', .char '/', .anyRecursiveSequence, .anyExcept [.charRange 'x' 'z']] := by
  unfold S
  repeat rw [String.toList_ofList]
  decide +kernel

end AcmedVerif.Props.C14Glob
