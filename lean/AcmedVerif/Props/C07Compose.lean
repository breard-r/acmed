/-
C07, the clause "A certificate that keeps failing does not prevent other certificates (sharing its
account or endpoint, or neither) from being issued".

Certificates interact only through the account and endpoint `RwLock`s (`main.rs:64-65`) — every
other piece of state of `request_certificate` is per certificate.  So one certificate can prevent
another from being issued in one way only: by keeping the other waiting for a lock for ever.  This
file composes C12's theorems (`attempt_locks_wellOrdered`, `terminates`, `deadlock_free`) into that
sentence, in C07's words:

 * a *family* of certificates `certs`, any number, any sharing pattern of accounts and endpoints
   (the `account`/`endpoint` fields are arbitrary);
 * any of them *failing*, at any point: `failAfter := some k` (`Compose07.Fails`), with no
   hypothesis on which or how many — `withFailures certs failing` makes the failing subset an
   explicit, arbitrary parameter;
 * any interleaving (the scheduler is arbitrary: `Run`/`RunT`), any admissible lock `G`;
 * conclusion: no schedule is longer than the total number of lock operations, no reachable state
   with an unfinished certificate is stuck, and when nothing can move any more EVERY certificate —
   the healthy ones in particular — has run its whole path (`perTask evs c` = its program, down to
   the `write_certificate` segment for a healthy one) and holds no lock.

What an `io` stands for (an awaited exchange, hook or sleep) takes bounded time by
`Props.C07.attempt_bounded` and C08's retry bounds; here it is one step, of any task, at any time.
The path a certificate takes (`AttemptShape`) is an input: it is determined by the answers the CA
gives to THAT certificate; the theorems quantify over all of them.

Not covered (needs a fairness assumption on the executor and the lock, DESIGN §9): a certificate
retrying for ever is an infinite program; `no_interference_rounds` covers any finite number of
consecutive failed attempts, and `no_interference_never_stuck` any number of certificates each
making any number of attempts, state by state.
-/
import AcmedVerif.Lemmas.Compose07
import AcmedVerif.Props.C12

namespace AcmedVerif.Props.C07Compose
open AcmedVerif.Locks
open AcmedVerif.Spec.C12
open AcmedVerif.Compose07
open AcmedVerif.Props.C12

/-- Failing is allowed: an attempt that fails after any number `k` of segments — holding nothing,
because a failing statement drops exactly the guards its successful run drops — obeys the lock
discipline, like every other path. -/
theorem failing_attempt_wellOrdered (sh : AttemptShape) (k : Nat) :
    Fails { sh with failAfter := some k } ∧
    WellOrdered acmedRank (attemptLocks { sh with failAfter := some k }) :=
  ⟨⟨k, rfl⟩, attempt_locks_wellOrdered _⟩

/-- A certificate making any number of consecutive attempts (failed or not) obeys it too. -/
theorem cert_locks_wellOrdered (rounds : List AttemptShape) :
    WellOrdered acmedRank (certLocks rounds) :=
  wo_flatten _ _ (List.forall_mem_map.2 fun sh _ => attempt_locks_wellOrdered sh)

/-- Generic core (`terminates` + `deadlock_free` + trace bookkeeping) for any finite family of
well-ordered lock programs. -/
theorem family_all_finish {α : Type} (f : α → List Op) (hf : ∀ x, WellOrdered acmedRank (f x))
    (G : Grant) (hG : ∀ s l m, canGrant s l m → G s l m)
    (xs : List α) (evs : List (Nat × Op)) (s : Sys) (hr : RunT G (toSys (initL (xs.map f))) evs s) :
    evs.length ≤ totalOps (xs.map f) ∧
    ((∃ c, (s c).rest ≠ []) → ∃ u s', Step G s u s') ∧
    ((∀ u s', ¬ Step G s u s') →
      evs.length = totalOps (xs.map f) ∧
      ∀ c x, xs[c]? = some x → (s c).rest = [] ∧ (s c).held = [] ∧ perTask evs c = f x) := by
  have hwo : ∀ p ∈ xs.map f, WellOrdered acmedRank p := List.forall_mem_map.2 fun x _ => hf x
  have hrun := hr.toRun
  obtain ⟨hm, hmax⟩ := terminates acmedRank rankBound acmedRank_bounded G hG _ hwo evs.length s hrun
  rw [toSys_initL] at hr hrun
  have hinv : Inv acmedRank s := inv_of_init (wo_getD hwo) hrun
  refine ⟨by omega, ?_, fun hst => ?_⟩
  · rintro ⟨c, hc⟩
    exact deadlock_free acmedRank rankBound acmedRank_bounded G hG _ (wo_getD hwo) s ⟨_, hrun⟩ c hc
  · obtain ⟨hall, hk⟩ := hmax hst
    refine ⟨hk, fun c x hc => ⟨hall c, held_nil_of_done hinv (hall c), ?_⟩⟩
    have := perTask_run hr c
    rwa [hall c, List.append_nil, List.getD_eq_getElem?_getD, List.getElem?_map, hc] at this

/-- **Non-interference (C07), one attempt per certificate.**  For ANY finite family of
certificates `certs` — any sharing pattern of accounts and endpoints, any of them failing at any
point (`failAfter := some k`), no hypothesis on which — any admissible lock and ANY interleaving
`evs` of their attempts:

1. the interleaving has at most `totalOps` steps (no attempt spins);
2. as long as some certificate is unfinished, somebody can move (nobody waits for ever);
3. when nobody can move any more (a maximal schedule), it took exactly `totalOps` steps and EVERY
   certificate `c` has finished: it executed exactly its own path (`perTask evs c = attemptLocks sh`)
   and holds no lock; if `c` is healthy, that path is the whole of `request_certificate` and ends
   with the `write_certificate` segment — the certificate was issued and stored, whatever the
   failing certificates did. -/
theorem no_interference (G : Grant) (hG : ∀ s l m, canGrant s l m → G s l m)
    (certs : List AttemptShape) (evs : List (Nat × Op)) (s : Sys)
    (hr : RunT G (toSys (initL (certs.map attemptLocks))) evs s) :
    evs.length ≤ totalOps (certs.map attemptLocks) ∧
    ((∃ c, (s c).rest ≠ []) → ∃ u s', Step G s u s') ∧
    ((∀ u s', ¬ Step G s u s') →
      evs.length = totalOps (certs.map attemptLocks) ∧
      ∀ c sh, certs[c]? = some sh →
        (s c).rest = [] ∧ (s c).held = [] ∧ perTask evs c = attemptLocks sh ∧
        (Healthy sh → perTask evs c = (segments sh).flatten ∧
          ∃ pre, perTask evs c = pre ++ ios sh.storeIos)) := by
  obtain ⟨h1, h2, h3⟩ := family_all_finish attemptLocks attempt_locks_wellOrdered G hG certs evs s hr
  refine ⟨h1, h2, fun hst => ⟨(h3 hst).1, fun c sh hc => ?_⟩⟩
  obtain ⟨hr', hh, hp⟩ := (h3 hst).2 c sh hc
  exact ⟨hr', hh, hp, fun hhealthy => hp ▸ healthy_program sh hhealthy⟩

/-- **The failing subset made explicit.**  Take any family `certs` and let an ARBITRARY subset of
it fail at arbitrary points: `failing c = some k` — certificate `c` fails after `k` segments —
`failing c = none` — it does not.  In every maximal schedule every certificate outside the failing
subset has run the whole of `request_certificate`, down to `write_certificate`. -/
theorem failing_subset_cannot_block (G : Grant) (hG : ∀ s l m, canGrant s l m → G s l m)
    (certs : List AttemptShape) (failing : Nat → Option Nat)
    (evs : List (Nat × Op)) (s : Sys)
    (hr : RunT G (toSys (initL ((withFailures certs failing).map attemptLocks))) evs s)
    (hmax : ∀ u s', ¬ Step G s u s')
    (c : Nat) (sh : AttemptShape) (hc : certs[c]? = some sh) (hhealthy : failing c = none) :
    (s c).rest = [] ∧ (s c).held = [] ∧
    perTask evs c = (segments sh).flatten ∧ ∃ pre, perTask evs c = pre ++ ios sh.storeIos := by
  obtain ⟨_, _, h3⟩ := no_interference G hG (withFailures certs failing) evs s hr
  obtain ⟨_, hall⟩ := h3 hmax
  have hc' : (withFailures certs failing)[c]? = some { sh with failAfter := failing c } := by
    rw [withFailures_getElem?, hc]; rfl
  obtain ⟨h1, h2, _, h4⟩ := hall c _ hc'
  exact ⟨h1, h2, h4 hhealthy⟩

/-- **"Keeps failing".**  Each certificate makes any finite number of consecutive attempts
(`rounds`), each along any path, failed or not: the statement assumes nothing about which attempts fail,
so it covers a certificate whose attempts all fail (`KeepsFailing`) without mentioning it.  Same three
conclusions; in a maximal schedule every certificate has made all its attempts, each along its own path. -/
theorem no_interference_rounds (G : Grant) (hG : ∀ s l m, canGrant s l m → G s l m)
    (certs : List (List AttemptShape)) (evs : List (Nat × Op)) (s : Sys)
    (hr : RunT G (toSys (initL (certs.map certLocks))) evs s) :
    evs.length ≤ totalOps (certs.map certLocks) ∧
    ((∃ c, (s c).rest ≠ []) → ∃ u s', Step G s u s') ∧
    ((∀ u s', ¬ Step G s u s') →
      evs.length = totalOps (certs.map certLocks) ∧
      ∀ c rounds, certs[c]? = some rounds →
        (s c).rest = [] ∧ (s c).held = [] ∧ perTask evs c = certLocks rounds) :=
  family_all_finish certLocks cert_locks_wellOrdered G hG certs evs s hr

/-- A healthy attempt after any number of failed ones: the certificate's own earlier failures do
not matter either; the last thing it does is the `write_certificate` segment. -/
theorem eventually_healthy_stores (failed : List AttemptShape) (last : AttemptShape)
    (hl : Healthy last) :
    ∃ pre, certLocks (failed ++ [last]) = pre ++ ios last.storeIos := by
  obtain ⟨_, pre, hpre⟩ := healthy_program last hl
  refine ⟨certLocks failed ++ pre, ?_⟩
  simp only [certLocks, List.map_append, List.flatten_append, List.map_cons, List.map_nil,
    List.flatten_cons, List.flatten_nil, List.append_nil, hpre, List.append_assoc]

/-- **Unboundedly many certificates, state by state.**  Any number of certificates (`Nat →`), each
making any finite number of attempts along any paths, any of them failing: in every reachable
state, a certificate that has not finished is not stuck behind the others — somebody can move. -/
theorem no_interference_never_stuck (G : Grant) (hG : ∀ s l m, canGrant s l m → G s l m)
    (certs : Nat → List AttemptShape) (s : Sys)
    (hr : Reachable G (init fun c => certLocks (certs c)) s) (c : Nat)
    (hc : (s c).rest ≠ []) : ∃ u s', Step G s u s' :=
  deadlock_free acmedRank rankBound acmedRank_bounded G hG _ (fun c => cert_locks_wellOrdered (certs c))
    s hr c hc

/-- Two certificates on the SAME account and the SAME endpoint.  Certificate 0 fails after its
newOrder (4 segments), twice in a row; certificate 1 is healthy, with one pending authorization. -/
def badCert : AttemptShape :=
  { account := 0, endpoint := 0, dirIos := 1, syncIos := 1, order1Ios := 10, reReg := none,
    authz := [], readyIos := 1, keyIos := 1, finalizeIos := 1, validIos := 1, downloadIos := 1,
    storeIos := 1, failAfter := some 4 }

def goodCert : AttemptShape :=
  { account := 0, endpoint := 0, dirIos := 1, syncIos := 0, order1Ios := 1, reReg := none,
    authz := [.pending 1 [⟨1, 1⟩] 2 1], readyIos := 1, keyIos := 1, finalizeIos := 1,
    validIos := 1, downloadIos := 1, storeIos := 2, failAfter := none }

example : Fails badCert ∧ Healthy goodCert ∧ KeepsFailing [badCert, badCert] :=
  ⟨⟨4, rfl⟩, rfl, by intro sh hs; simp at hs; subst hs; exact ⟨4, rfl⟩⟩

/-- `withFailures` really produces the failing family from a healthy one. -/
example : withFailures [goodCert, goodCert] (fun c => if c = 0 then some 4 else none) =
    [{ goodCert with failAfter := some 4 }, goodCert] := rfl

/-- The round-robin interleaving of the failing and the healthy certificate under the most-refusing
lock is maximal and takes exactly `totalOps` steps (evaluated here, once, for the two examples below). -/
theorem badGood_roundRobin :
    let fam := [badCert, goodCert].map attemptLocks
    let r := roundRobin 1000 (initL fam) 0
    runL (initL fam) r.1 = some r.2 ∧ stuckL r.2 = true ∧ allDone r.2 = true ∧
      r.1.length = totalOps fam := by
  decide +kernel

/-- The hypotheses of `no_interference` are met by a real interleaving. -/
example :
    let fam := [badCert, goodCert].map attemptLocks
    let r := roundRobin 1000 (initL fam) 0
    runL (initL fam) r.1 = some r.2 ∧ stuckL r.2 = true ∧ allDone r.2 = true ∧
      r.1.length = totalOps fam :=
  badGood_roundRobin

/-- … hence a maximal `Run` of that family exists (so the premise "nobody can move" of clause 3 is
reachable), under `canGrant`. -/
example : ∃ k s, Run canGrant (toSys (initL ([badCert, goodCert].map attemptLocks))) k s ∧
    ∀ u s', ¬ Step canGrant s u s' :=
  ⟨_, _, runL_sound _ badGood_roundRobin.1, stuckL_sound badGood_roundRobin.2.1⟩

/-- The failing certificate does get in the healthy one's way for a while (so the theorem is not
about independent tasks): after it has taken the endpoint write lock, the healthy certificate's
first operation (a read of the same endpoint) is refused; it is enabled again two steps later. -/
example :
    ∃ ls1 ls2, runL (initL ([badCert, goodCert].map attemptLocks)) [0, 0, 0] = some ls1 ∧
      ¬ Enabled canGrant (toSys ls1) 1 ∧
      runL ls1 [0, 0] = some ls2 ∧ Enabled canGrant (toSys ls2) 1 := by
  refine ⟨_, _, rfl, ?_, rfl, ?_⟩ <;> (rw [← enabledL_iff]; decide)

/-- The keeps-failing family: certificate 0 fails twice, certificate 1 fails once and then succeeds. -/
example :
    let fam := [[badCert, badCert], [{ goodCert with failAfter := some 6 }, goodCert]].map certLocks
    let r := roundRobin 2000 (initL fam) 0
    runL (initL fam) r.1 = some r.2 ∧ stuckL r.2 = true ∧ allDone r.2 = true ∧
      r.1.length = totalOps fam := by
  decide +kernel

end AcmedVerif.Props.C07Compose
