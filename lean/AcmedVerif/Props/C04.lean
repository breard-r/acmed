/-
C04 — every ACME POST is a valid, fresh, correctly bound JWS.  The theorems live where their models
are: header / flattened form / signing input / fixed-width R‖S in `Props/C15.lean` (Model/Jose), the
nonce discipline in `Props/C08.lean` (Model/Http, section Nonce), `jwk` only for account creation in
`Props/FlowMisc.lean` (Model/Flow), URL binding and the key-change object in `Props/C04Bind.lean`, the
window after a lost answer in `Props/C04Lost.lean`.  This file ties the algorithm table to the COMPILED code
(`Gen/Tables.lean`, regenerated on every run by running `KeyType::get_default_signature_alg` and
`check_alg_compatibility` on their whole domains) and to the judge.
-/
import AcmedVerif.Props.C15
import AcmedVerif.Props.C08
import AcmedVerif.Props.FlowMisc
import AcmedVerif.Spec.C04
import AcmedVerif.Gen.Tables

namespace AcmedVerif.Props.C04
open AcmedVerif

/-- JWK key kind of each acmed key type. -/
def keyKindOf : String → String
  | "rsa2048" => "RSA" | "rsa4096" => "RSA"
  | "ecdsa-p256" => "P-256" | "ecdsa-p384" => "P-384" | "ecdsa-p521" => "P-521"
  | "ed25519" => "Ed25519" | "ed448" => "Ed448"
  | _ => "?"

/-- For all seven key types of the compiled code: the default algorithm is the only compatible one and
it is an algorithm the judge accepts for that kind of key (so `alg` in a header can only be right). -/
theorem alg_table_matches_keys :
    AcmedVerif.Gen.keyTypes.length = 7 ∧
    AcmedVerif.Gen.keyTypes.all (fun (kt, dflt, compat) =>
      compat == [dflt] && (Spec.C04.algFor (keyKindOf kt)).contains dflt) = true := by decide

/-- The judge's signature lengths for ECDSA are the fixed-width R‖S lengths of `sig_lengths`. -/
theorem judge_ecdsa_lengths :
    Spec.C04.sigLenOk "ES256" (2 * 32) = true ∧ Spec.C04.sigLenOk "ES384" (2 * 48) = true ∧
    Spec.C04.sigLenOk "ES512" (2 * 66) = true ∧ Spec.C04.sigLenOk "ES256" 63 = false ∧
    Spec.C04.sigLenOk "ES512" 131 = false := by decide

/-- The header shapes the judge demands: alg, (jwk xor kid), nonce?, url in that order = sorted order.
(That every call site produces them is `C04Bind.header_members_by_kind`.) -/
theorem judge_member_sets :
    Spec.C04.membersFor .newAccount = ["alg", "jwk", "nonce", "url"] ∧
    Spec.C04.membersFor .other = ["alg", "kid", "nonce", "url"] ∧
    Spec.C04.membersFor .keyChangeInner = ["alg", "jwk", "url"] ∧
    Spec.C04.membersFor .eabInner = ["alg", "kid", "url"] := by decide

/-- Non-vacuity: a well-formed kid request passes, a reused nonce or a DER-length ECDSA signature fails. -/
def exReq (reused : Bool) (sigLen : Nat) : Spec.C04.ReqObs where
  kind := .other
  flat := true
  hdrMembers := ["alg", "kid", "nonce", "url"]
  alg := "ES256"
  keyKind := "P-256"
  urlOk := true
  nonceIssued := true
  nonceReused := reused
  kidOk := true
  sigOk := true
  sigLen := sigLen

example : Spec.C04.reqOk (exReq false 64) = true := by decide
example : Spec.C04.reqOk (exReq true 64) = false := by decide
example : Spec.C04.reqOk (exReq false 71) = false := by decide

end AcmedVerif.Props.C04
