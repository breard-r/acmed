/-
C01, clause "IP addresses in canonical text form" — theorems about `Model/IpText.lean`, the model of
`IpAddr::from_str(value)?.to_string()` (`acmed/src/identifier.rs:62`) with Rust's `core::net` parser and
`Display`.  All statements are for ALL addresses / ALL texts (no bound); the finite enumerations used
are over the 256 zero / non-zero patterns of the eight groups of an IPv6 address and over the 16 / 10
digit characters.
-/
import AcmedVerif.Lemmas.IpText
import AcmedVerif.Spec.C01Ident

namespace AcmedVerif.Props.C01Ip
open AcmedVerif.IpText AcmedVerif.Spec.C01Ip

theorem parse_print_v4 (a : Addr4) : parseV4 (printV4 a) = some a := by
  simp only [parseV4, readV4_printV4_nil]

theorem parse_print_v6 (a : Addr6) : parseV6 (printV6 a) = some a := by
  simp only [parseV6, printV6, readV6_printGroups a.groups a.len, mkAddr6?, a.len, dite_true]

/-- `IpAddr::from_str(addr.to_string()) == Ok(addr)` for every address of either family (the IPv4
reader, which is tried first, does not accept any printed IPv6 text). -/
theorem parse_print_ip (x : IpAddr) : parseIp (printIp x) = some x := by
  cases x with
  | v4 a => simp [parseIp, printIp, readV4_printV4_nil]
  | v6 a =>
    simp [parseIp, printIp, printV6, readV4_printGroups a.groups a.len,
      readV6_printGroups a.groups a.len, mkAddr6?, a.len]

theorem printIp_ne_nil (x : IpAddr) : printIp x ≠ [] := fun h => by
  have := parse_print_ip x
  rw [h] at this
  cases this

theorem print_injective {x y : IpAddr} (h : printIp x = printIp y) : x = y := by
  have hx := parse_print_ip x
  rw [h, parse_print_ip y] at hx
  exact (Option.some.inj hx).symm

theorem canon_eq (s : String) :
    canon s = (parseIp s.toList).map fun x => String.ofList (printIp x) := by
  rw [canon, canonChars, Option.map_map]; rfl

theorem canon_eq_some {s t : String} (h : canon s = some t) :
    ∃ x, parseIp s.toList = some x ∧ t = String.ofList (printIp x) := by
  rw [canon_eq] at h
  obtain ⟨x, hx, rfl⟩ := Option.map_eq_some_iff.mp h
  exact ⟨x, hx, rfl⟩

theorem canon_ofList_iff (s t : List Char) :
    canon (String.ofList s) = some (String.ofList t) ↔ canonChars s = some t := by
  rw [canon, String.toList_ofList]
  cases canonChars s with
  | none => simp
  | some o =>
    simp only [Option.map_some, Option.some.injEq]
    exact ⟨fun h => by simpa using congrArg String.toList h, fun h => by rw [h]⟩

theorem canon_of_parse {s : String} {x : IpAddr} (h : parseIp s.toList = some x) :
    canon s = some (String.ofList (printIp x)) := by
  rw [canon_eq, h]; rfl

theorem canon_idempotent {s t : String} (h : canon s = some t) : canon t = some t := by
  obtain ⟨x, _, rfl⟩ := canon_eq_some h
  exact canon_of_parse (by rw [String.toList_ofList]; exact parse_print_ip x)

theorem canon_same_address {s t : String} (h : canon s = some t) :
    parseIp t.toList = parseIp s.toList := by
  obtain ⟨x, hs, rfl⟩ := canon_eq_some h
  rw [String.toList_ofList, parse_print_ip, hs]

theorem canon_unique {s t : String} (h : parseIp s.toList = parseIp t.toList)
    (_hs : parseIp s.toList ≠ none) : canon s = canon t := by
  rw [canon_eq, canon_eq, h]

theorem canon_eq_iff {s t : String} {x y : IpAddr} (hs : parseIp s.toList = some x)
    (ht : parseIp t.toList = some y) : canon s = canon t ↔ x = y := by
  rw [canon_of_parse hs, canon_of_parse ht]
  exact ⟨fun h => print_injective (by simpa using congrArg String.toList (Option.some.inj h)),
    fun h => by rw [h]⟩

theorem canon_none_iff (s : String) : canon s = none ↔ parseIp s.toList = none := by
  rw [canon_eq, Option.map_eq_none_iff]

/-- Every IPv6 address is printed in the RFC 5952 form (sections 4.1, 4.2.1, 4.2.2, 4.2.3, 4.3; section
5 mixed notation for IPv4-mapped addresses), as described on the text by `Spec.C01Ip.rfc5952`. -/
theorem printV6_rfc5952 (a : Addr6) : rfc5952 (printV6 a) = true :=
  rfc5952_printGroups a.groups a.len

theorem printV4_shape (a : Addr4) : v4shape (printV4 a) = true :=
  v4shape_printV4 a

/-- The printed text of every address has the canonical shape (`canonicalShape`): a dotted quad of
decimal numbers without leading zeros, or the RFC 5952 form (lower case, no leading zeros, first longest
zero run compressed). -/
theorem print_lowercase_no_leading_zero (x : IpAddr) : canonicalShape (printIp x) = true := by
  cases x with
  | v4 a => simp [canonicalShape, printIp, printV4_shape]
  | v6 a => simp [canonicalShape, printIp, printV6_rfc5952]

theorem canon_shape {s t : String} (h : canon s = some t) : canonicalShape t.toList = true := by
  obtain ⟨x, _, rfl⟩ := canon_eq_some h
  rw [String.toList_ofList]
  exact print_lowercase_no_leading_zero x

/-- The alphabet of the canonical text: the hypothesis `hip` of
`Props.C01Ident.judge_accepts_model`, for `ipCanon := IpText.canonChars`. -/
theorem ipCanon_shape (s o : List Char) (h : canonChars s = some o) :
    Spec.C01Ident.ipShapeOk o = true := by
  obtain ⟨x, -, rfl⟩ := Option.map_eq_some_iff.mp h
  have hall : (printIp x).all canonChar = true := by
    cases x with
    | v4 a => exact all_canonChar_printV4 a
    | v6 a => exact all_canonChar_printGroups a.groups a.len
  rw [Spec.C01Ident.ipShapeOk, List.isEmpty_eq_false_iff.mpr (printIp_ne_nil x)]
  exact hall

/-- The judge accepts exactly the canonical text of the configured address (its shape conjunct
follows from the first one: it is there to state the shape independently of the printer). -/
theorem judge_iff_canon (configured sent : String) :
    holds configured sent = true ↔ canon configured = some sent := by
  simp only [holds, Bool.and_eq_true, beq_iff_eq]
  constructor
  · exact fun h => h.1
  · exact fun h => ⟨h, canon_shape h⟩

theorem judge_accepts_model {s t : String} (h : canon s = some t) : holds s t = true :=
  (judge_iff_canon s t).mpr h

/-- The judge refuses a text left as configured unless it was configured in canonical form, and
refuses every second spelling of the same address. -/
theorem judge_refuses_other_spelling {s t u : String} (h : canon s = some t) (hu : u ≠ t) :
    holds s u = false := by
  cases hh : holds s u with
  | false => rfl
  | true =>
    have := (judge_iff_canon s u).mp hh
    rw [h] at this
    exact absurd (Option.some.inj this).symm hu

theorem octets_injective {x y : IpAddr} (h : octets x = octets y) : x = y := by
  have hp := congrArg pairUp h
  cases x with
  | v4 a =>
    cases y with
    | v4 b =>
      cases a; cases b
      simp only [octets, List.cons.injEq, and_true] at h
      obtain ⟨rfl, rfl, rfl, rfl⟩ := h
      rfl
    | v6 b =>
      have := congrArg List.length hp
      rw [pairUp_octets, b.len] at this
      cases this
  | v6 a =>
    rw [pairUp_octets] at hp
    cases y with
    | v4 b =>
      have := congrArg List.length hp
      rw [a.len] at this
      cases this
    | v6 b =>
      rw [pairUp_octets] at hp
      cases a; cases b; cases hp; rfl

theorem holdsOctets_iff (configured : String) (o : List UInt8) :
    holdsOctets configured o = true ↔ ∃ x, parseIp configured.toList = some x ∧ o = octets x := by
  simp only [holdsOctets, beq_iff_eq]
  cases h : parseIp configured.toList with
  | none => simp
  | some x => simp [eq_comm]

/-- Octets accepted for the configured text are accepted for its canonical text too: when both
judges hold, the order (text) and the CSR (octets) name the same address. -/
theorem holds_and_holdsOctets {configured sent : String} {o : List UInt8}
    (h1 : holds configured sent = true) (h2 : holdsOctets configured o = true) :
    holdsOctets sent o = true := by
  have hc := (judge_iff_canon configured sent).mp h1
  simp only [holdsOctets] at h2 ⊢
  rw [canon_same_address hc]
  exact h2

/-! ## Non-vacuity: concrete spellings

The kernel decodes a string literal in quadratic time, so the literals are first spelt as lists of
characters (`String.toList_ofList`) and then the model is evaluated. -/

example : canon "2001:DB8::1" = some "2001:db8::1" := by rw [canon_ofList_iff]; decide +kernel
example : canon "2001:0db8:0:0:0:0:0:1" = some "2001:db8::1" := by rw [canon_ofList_iff]; decide +kernel
example : canon "0:0:0:0:0:0:0:1" = some "::1" := by rw [canon_ofList_iff]; decide +kernel
example : canon "::ffff:192.0.2.1" = some "::ffff:192.0.2.1" := by rw [canon_ofList_iff]; decide +kernel
example : canon "0:0:0:0:0:FFFF:C000:201" = some "::ffff:192.0.2.1" := by
  rw [canon_ofList_iff]; decide +kernel
example : canon "1:0:0:2:0:0:0:3" = some "1:0:0:2::3" := by rw [canon_ofList_iff]; decide +kernel
-- first of two longest runs
example : canon "1:0:0:0:2:0:0:0" = some "1::2:0:0:0" := by rw [canon_ofList_iff]; decide +kernel
-- one zero group: no "::"
example : canon "1:0:2:3:4:5:6:7" = some "1:0:2:3:4:5:6:7" := by rw [canon_ofList_iff]; decide +kernel
-- IPv4-compatible: all hex
example : canon "::1.2.3.4" = some "::102:304" := by rw [canon_ofList_iff]; decide +kernel
example : canon "1:2:3:4:5:6:77.88.99.100" = some "1:2:3:4:5:6:4d58:6364" := by
  rw [canon_ofList_iff]; decide +kernel
example : canon "0::0" = some "::" := by rw [canon_ofList_iff]; decide +kernel
example : canon "192.0.2.1" = some "192.0.2.1" := by rw [canon_ofList_iff]; decide +kernel
-- leading zero (octal look-alike)
example : canon "01.2.3.4" = none := by rw [canon, String.toList_ofList]; decide +kernel
example : canon "256.1.1.1" = none := by rw [canon, String.toList_ofList]; decide +kernel
example : canon "1.2.3" = none := by rw [canon, String.toList_ofList]; decide +kernel
example : canon "12345::" = none := by rw [canon, String.toList_ofList]; decide +kernel
example : canon "1::2::3" = none := by rw [canon, String.toList_ofList]; decide +kernel
example : canon "fe80::1%eth0" = none := by rw [canon, String.toList_ofList]; decide +kernel
example : canon "[::1]" = none := by rw [canon, String.toList_ofList]; decide +kernel
example : canon "" = none := by rw [canon, String.toList_ofList]; decide +kernel
example : canon "1:2:3:4:5:6:7:" = none := by rw [canon, String.toList_ofList]; decide +kernel
example : canon "1:2:3:4:5:6:7:8:9" = none := by rw [canon, String.toList_ofList]; decide +kernel
-- "::" must stand for ≥ 1 group
example : canon "1:2:3:4::5:6:7:8" = none := by rw [canon, String.toList_ofList]; decide +kernel
example : canon " ::1" = none := by rw [canon, String.toList_ofList]; decide +kernel
example : canon "1.2.3.4::" = none := by rw [canon, String.toList_ofList]; decide +kernel
example : holds "2001:DB8::1" "2001:db8::1" = true :=
  judge_accepts_model (by rw [canon_ofList_iff]; decide +kernel)
example : holds "2001:DB8::1" "2001:DB8::1" = false :=
  judge_refuses_other_spelling (t := "2001:db8::1")
    (by rw [canon_ofList_iff]; decide +kernel) (by simp)
example : holds "2001:db8:0:0:0:0:0:1" "2001:db8:0:0:0:0:0:1" = false :=
  judge_refuses_other_spelling (t := "2001:db8::1")
    (by rw [canon_ofList_iff]; decide +kernel) (by simp)
-- the text-level description alone refuses non-canonical spellings …
example : rfc5952 "2001:DB8::1".toList = false := by rw [String.toList_ofList]; decide +kernel
example : rfc5952 "2001:db8:0:0:0:0:0:1".toList = false := by rw [String.toList_ofList]; decide +kernel
example : rfc5952 "2001:db8::0:1".toList = false := by rw [String.toList_ofList]; decide +kernel
-- not the longest run
example : rfc5952 "1::2:0:0:0:3".toList = false := by rw [String.toList_ofList]; decide +kernel
-- not the first longest run
example : rfc5952 "1:0:0:0:2::".toList = false := by rw [String.toList_ofList]; decide +kernel
-- "::" for one group
example : rfc5952 "1:2:3:4:5:6:7::".toList = false := by rw [String.toList_ofList]; decide +kernel
example : rfc5952 "::ffff:192.0.02.1".toList = false := by rw [String.toList_ofList]; decide +kernel
-- … and accepts the canonical ones
example : rfc5952 "2001:db8::1".toList = true := by rw [String.toList_ofList]; decide +kernel
example : rfc5952 "1:0:0:2::3".toList = true := by rw [String.toList_ofList]; decide +kernel
example : rfc5952 "::ffff:192.0.2.1".toList = true := by rw [String.toList_ofList]; decide +kernel
example : rfc5952 "::".toList = true := by rw [String.toList_ofList]; decide +kernel
example : holdsOctets "::FFFF:1.2.3.4" [0,0,0,0,0,0,0,0,0,0,255,255,1,2,3,4] = true := by
  rw [holdsOctets, String.toList_ofList]; decide +kernel
example : holdsOctets "1.2.3.4" [0,0,0,0,0,0,0,0,0,0,255,255,1,2,3,4] = false := by
  rw [holdsOctets, String.toList_ofList]; decide +kernel
example : holdsOctets "1.2.3.4" [1,2,3,4] = true := by
  rw [holdsOctets, String.toList_ofList]; decide +kernel

end AcmedVerif.Props.C01Ip
