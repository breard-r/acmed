/-
C19 — property theorems about `parse_duration` (time periods are accepted exactly per the
documented grammar and equal the sum of their parts; no input makes the parser panic).
-/
import AcmedVerif.Model.Period
import AcmedVerif.Lemmas.Period
import AcmedVerif.Gen.Consts

namespace AcmedVerif.Props.C19
open AcmedVerif.Period

/-- Full statement, clause C19.2: a string is accepted iff it is a non-empty sequence of
`<digits><unit>` items in which every number, every product and the total fit 64 bits, and the
value is then the sum of the parts. -/
theorem period_grammar (s : List Char) (v : Nat) :
    parse s = .ok v ↔
      ∃ is : List Item, is ≠ [] ∧ (∀ i ∈ is, i.wf = true) ∧ itemsText is = s ∧
        itemsFit is = true ∧ v = itemsValue is := by
  -- `parse_eq_ok_iff` has the running checked sum; `sumItems_some` says when that succeeds
  rw [parse_eq_ok_iff]
  constructor
  · rintro ⟨is, hne, hall, hs, hsum⟩
    have h := (sumItems_some is 0 v (Nat.zero_le _)).mp hsum
    rw [Nat.zero_add] at h
    refine ⟨is, hne, fun i hi => (hall i hi).1, hs, ?_, h.2.2⟩
    rw [itemsFit_iff]
    exact ⟨fun i hi => ⟨(hall i hi).2, h.1 i hi⟩, h.2.1⟩
  · rintro ⟨is, hne, hwf, hs, hfit, hv⟩
    rw [itemsFit_iff] at hfit
    refine ⟨is, hne, fun i hi => ⟨hwf i hi, (hfit.1 i hi).1⟩, hs, ?_⟩
    refine (sumItems_some is 0 v (Nat.zero_le _)).mpr ⟨fun i hi => (hfit.1 i hi).2, ?_⟩
    rw [Nat.zero_add]
    exact ⟨hfit.2, hv⟩

/-- Clause C19.1 for the period parser: whatever the input, the repaired parser answers
`ok` or `reject` — it has no panic outcome. -/
theorem period_total (s : List Char) :
    (∃ v, parse s = .ok v) ∨ parse s = .reject :=
  parse_no_panic s

/-- An accepted value always fits 64 bits (so `Duration::from_secs` is total on it). -/
theorem period_value_fits (s : List Char) (v : Nat) (h : parse s = .ok v) : v ≤ u64Max := by
  obtain ⟨is, -, -, -, hfit, hv⟩ := (period_grammar s v).mp h
  exact hv ▸ ((itemsFit_iff is).1 hfit).2

/-- The fuel of the model's fold is a proof device, not a bound: giving more fuel than
`s.length` never changes the answer. -/
theorem parse_fuel_enough (a : Arith) (s : List Char) (acc : Acc) (extra : Nat) :
    fold a (s.length + extra) s acc = fold a s.length s acc :=
  fold_fuel_irrel a _ _ s acc (Nat.le_add_right ..) (Nat.le_refl _)

/-- The code before the repair (unchecked arithmetic): four evaluated witnesses, not a negated
universal — panics of the multiplication (dev) and of the `Duration` addition (both profiles), and
the wrap-around below. -/
theorem period_total_unchecked_is_false :
    parseWith .uncheckedDev "30500568904944w".toList = .panicMul ∧
    parseWith .uncheckedDev "18446744073709551615s18446744073709551615s".toList = .panicAdd ∧
    parseWith .uncheckedRelease "18446744073709551615s18446744073709551615s".toList = .panicAdd ∧
    -- release profile: wrap-around accepted with a value that is NOT the sum of the parts
    (∃ v, parseWith .uncheckedRelease "30500568904944w".toList = .ok v ∧
          v ≠ 30500568904944 * 604800) := by
  -- `String.toList_ofList` gives the character list; evaluating the UTF-8 decoder is slow to check
  rw [String.toList_ofList, String.toList_ofList]
  refine ⟨by decide +kernel, by decide +kernel, by decide +kernel, 579584, by decide +kernel,
    by decide +kernel⟩

/-- Non-vacuity of `period_grammar`. -/
example : parse "1d12h30m".toList = .ok (86400 + 12 * 3600 + 30 * 60) := by
  rw [String.toList_ofList]; decide +kernel

example : parse "".toList = .reject ∧ parse "5".toList = .reject ∧ parse "5x".toList = .reject ∧
    parse "5s ".toList = .reject ∧ parse "s".toList = .reject ∧
    parse "18446744073709551616s".toList = .reject ∧
    parse "30500568904944w".toList = .reject := by
  rw [String.toList_ofList, String.toList_ofList, String.toList_ofList, String.toList_ofList,
    String.toList_ofList, String.toList_ofList, String.toList_ofList]
  decide +kernel

/-- The unit letters and multipliers the model uses are the ones `duration.rs` contains
(`Gen/Consts.lean` is rewritten from the source on every run; if the Rust table changes, this stops
checking). -/
theorem gen_unit_table :
    AcmedVerif.Gen.unitTable = [('s', 1), ('m', 60), ('h', 3600), ('d', 86400), ('w', 604800)] ∧
    AcmedVerif.Gen.unitChars = ['s', 'm', 'h', 'd', 'w'] := by decide

/-- … and the model's `unitMult` is exactly the look-up in that table, for every character. -/
theorem unitMult_is_gen_table (c : Char) :
    unitMult c = if c ∈ AcmedVerif.Gen.unitChars then AcmedVerif.Gen.unitTable.lookup c else none := by
  by_cases h : c ∈ AcmedVerif.Gen.unitChars
  · rw [if_pos h]
    simp only [AcmedVerif.Gen.unitChars, List.mem_cons, List.not_mem_nil, or_false] at h
    rcases h with rfl | rfl | rfl | rfl | rfl <;> rfl
  · rw [if_neg h]
    simp only [AcmedVerif.Gen.unitChars, List.mem_cons, List.not_mem_nil, or_false, not_or] at h
    unfold unitMult
    rw [if_neg h.1, if_neg h.2.1, if_neg h.2.2.1, if_neg h.2.2.2.1, if_neg h.2.2.2.2]

end AcmedVerif.Props.C19
