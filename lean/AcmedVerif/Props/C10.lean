/-
C10 — hooks run in declared order, by type, one at a time, with the documented data.
Theorems about `Model/Hooks.lean`, stated with the reference notions of `Spec/C10.lean`; helper
lemmas in `Lemmas/Hooks.lean`.  All statements are for every input (no bound on the number of hooks,
groups, nesting depth, exits, challenges or environment sizes).
-/
import AcmedVerif.Lemmas.Hooks
import AcmedVerif.Gen.Tables
import AcmedVerif.Props.C02  -- for `Audit/C10.lean` (`C02.bracket`, C10.4)

namespace AcmedVerif.Props.C10
open AcmedVerif.Hooks AcmedVerif.Spec.C10

/-! ## Expansion of the `hooks = [...]` list (clause C10.1, "declaration order, groups in place") -/

/-- The hook list of a certificate/account is the concatenation, in declaration order, of the
expansion of each listed name; the first name that fails decides the error; a hook shadows a group of
the same name; a group that is accepted is replaced, in place, by the expansions of its members in
their order (a group may also be refused — nested too deeply, too many members visited: commits
537f12e / a9033b3 — which is why this is stated for accepted names: the equation
`getHook … n = mapCat (expand … [n]) g.hooks` does not hold of the code). -/
theorem expand_order (hooks : List Hook) (groups : List Group) (names : List Name) :
    (∀ r, expandAll hooks groups names = .ok r ↔
      ∃ parts : List (List Hook),
        names.map (getHook hooks groups) = parts.map .ok ∧ r = parts.flatten) ∧
    (∀ e, expandAll hooks groups names = .error e ↔
      ∃ pre n post, names = pre ++ n :: post ∧ (∀ m ∈ pre, ∃ r, getHook hooks groups m = .ok r) ∧
        getHook hooks groups n = .error e) ∧
    (∀ n h, findHook hooks n = some h → getHook hooks groups n = .ok [h]) ∧
    (∀ n g r, findHook hooks n = none → findGroup groups n = some g → getHook hooks groups n = .ok r →
      mapCat (expand hooks groups (enoughFuel groups) [n]) g.hooks = .ok r) := by
  refine ⟨fun r => mapCat_ok_iff _ _ _, fun e => mapCat_error_iff _ _ _, ?_, ?_⟩
  · intro n h hh
    -- MAX_HOOK_GROUP_MEMBERS is not 0
    have hpos : maxMembers = (maxMembers - 1) + 1 := by decide
    simp only [getHook, getHookFuel, enoughFuel]
    rw [hpos, expandB_succ]
    simp only [hh, dropBudget]
  · intro n g r hh hg hr
    have h1 := getHookFuel_ok_expand hr
    simp only [enoughFuel, expand_succ, hh, hg, List.not_mem_nil, if_false] at h1
    rw [← h1]
    apply mapCat_congr
    intro m _
    exact expand_stable hooks groups groups.length [n] m
      ((PathInv.nil groups).cons List.not_mem_nil hg) (by simp)

/-- Concatenating two name lists concatenates their expansions. -/
theorem expand_order_append (hooks : List Hook) (groups : List Group) (a b : List Name)
    (ra rb : List Hook) (ha : expandAll hooks groups a = .ok ra)
    (hb : expandAll hooks groups b = .ok rb) :
    expandAll hooks groups (a ++ b) = .ok (ra ++ rb) := by
  unfold expandAll at *
  rw [mapCat_append, ha, hb]

/-- `#groups + 1` units of fuel are enough for every configuration: more fuel changes nothing and
the model's own `fuel` error never comes out; and what is accepted is what the names denote (`expand`,
the expansion without the two limits). -/
theorem expand_total (hooks : List Hook) (groups : List Group) (fuel : Nat)
    (hf : enoughFuel groups ≤ fuel) :
    (∀ n, getHookFuel hooks groups fuel n = getHook hooks groups n) ∧
    (∀ n, getHook hooks groups n ≠ .error .fuel) ∧
    (∀ names, expandAllFuel hooks groups fuel names = expandAll hooks groups names) ∧
    (∀ names, expandAll hooks groups names ≠ .error .fuel) ∧
    (∀ n r, getHook hooks groups n = .ok r → expand hooks groups fuel [] n = .ok r) := by
  have h1 : ∀ n, getHookFuel hooks groups fuel n = getHook hooks groups n := by
    intro n
    obtain ⟨k, rfl⟩ := Nat.exists_eq_add_of_le hf
    simp only [getHook, getHookFuel]
    rw [expandB_stable_add hooks groups (enoughFuel groups) [] _ n (PathInv.nil groups)
      (by simp [enoughFuel]) k]
  have h2 : ∀ n, getHook hooks groups n ≠ .error .fuel := fun n h =>
    expandB_no_fuel_error hooks groups (enoughFuel groups) [] _ n (PathInv.nil groups)
      (by simp [enoughFuel]) (dropBudget_error h)
  refine ⟨h1, h2, ?_, ?_, ?_⟩
  · intro names
    exact mapCat_congr names (fun n _ => h1 n)
  · intro names h
    obtain ⟨n, _, hn⟩ := mapCat_error_mem h
    exact h2 n hn
  · intro n r hr
    rw [← h1 n] at hr
    exact getHookFuel_ok_expand hr

/-- The two limits of `get_hook_rec` (537f12e, a9033b3): whatever one `Config::get_hook` returns has at
most MAX_HOOK_GROUP_MEMBERS hooks — each hook returned was charged to the budget (`|r| + left ≤ budget`
at every level) — and is what the name denotes without the limits. -/
theorem expand_limits (hooks : List Hook) (groups : List Group) :
    (∀ fuel path budget n r left, expandB hooks groups fuel path budget n = .ok (r, left) →
      r.length + left ≤ budget ∧ expand hooks groups fuel path n = .ok r) ∧
    (∀ n r, getHook hooks groups n = .ok r → r.length ≤ maxMembers) := by
  have key : ∀ fuel path budget n r left, expandB hooks groups fuel path budget n = .ok (r, left) →
      r.length + left ≤ budget ∧ expand hooks groups fuel path n = .ok r := by
    intro fuel path budget n r left h
    have := expandB_refines hooks groups fuel path budget n
    rw [h] at this
    exact ⟨this.2, this.1⟩
  refine ⟨key, fun n r h => ?_⟩
  obtain ⟨b, hb⟩ := dropBudget_ok h
  have := (key _ _ _ _ _ _ hb).1
  omega

/-- A listed name from which a cycle of groups can be reached makes the whole list fail (with any
amount of fuel) … -/
theorem expand_rejects_cycles (hooks : List Hook) (groups : List Group) (names : List Name)
    (s n : Name) (hs : s ∈ names) (hreach : Star hooks groups s n) (hcyc : Plus hooks groups n n) :
    (∀ fuel r, expandAllFuel hooks groups fuel names ≠ .ok r) ∧
    (∀ r, expandAll hooks groups names ≠ .ok r) := by
  have h1 : ∀ fuel r, expandAllFuel hooks groups fuel names ≠ .ok r := fun fuel r h => by
    obtain ⟨r', hr'⟩ := mapCat_ok_mem h s hs
    exact expand_cycle_not_ok hreach hcyc fuel [] r' (getHookFuel_ok_expand hr')
  exact ⟨h1, h1 (enoughFuel groups)⟩

/-- … and the "hook group contains itself" error is only ever raised for a real cycle reachable from
a listed name. -/
theorem expand_cycle_error_is_real (hooks : List Hook) (groups : List Group) (names : List Name)
    (n : Name) (h : expandAll hooks groups names = .error (.cycle n)) :
    ∃ s ∈ names, Star hooks groups s n ∧ Plus hooks groups n n := by
  obtain ⟨s, hs, he⟩ := mapCat_error_mem h
  exact ⟨s, hs, expandB_cycle_error_sound _ [] _ s n (fun _ hp => by cases hp) (dropBudget_error he)⟩

/-! ## `hooks::call` (clauses C10.1 and C10.3) -/

/-- The executed hooks are exactly the attached hooks having the event's type, in order, up to and
including the first hard failure; the call succeeds iff there was none; one exit per executed hook
is consumed. -/
theorem call_runs_prefix (hooks : List Hook) (ty : HookType) (ex : List Exit) :
    (call hooks ty ex).1 = expectedRun hooks ty ex ∧
    ((call hooks ty ex).2.1 = true ↔ noHard (call hooks ty ex).1 = true) ∧
    (call hooks ty ex).2.2 = ex.drop (call hooks ty ex).1.length := by
  refine ⟨call_fst hooks ty ex, ?_, call_rest hooks ty ex⟩
  rw [call_ok]

/-- What "up to and including the first hard failure" means: a prefix of the candidates; nothing
before its last entry is a hard failure; it is the whole list iff it holds no hard failure, and
otherwise it ends with one.  The i-th candidate receives the i-th exit. -/
theorem expectedRun_spec (hooks : List Hook) (ty : HookType) (ex : List Exit) :
    let cand := zipExits (hooks.filter fun h => h.hasType ty) ex
    expectedRun hooks ty ex <+: cand ∧
    cand.map Prod.fst = hooks.filter (fun h => h.hasType ty) ∧
    (∀ i (h : i < cand.length), (cand[i]).2 = ex.getD i .ok) ∧
    (∀ i (h : i + 1 < (expectedRun hooks ty ex).length),
      ((expectedRun hooks ty ex)[i]'(by omega)).2.hard
        ((expectedRun hooks ty ex)[i]'(by omega)).1.allowFailure = false) ∧
    (noHard (expectedRun hooks ty ex) = true → expectedRun hooks ty ex = cand) ∧
    (noHard (expectedRun hooks ty ex) = false →
      ∃ p, (expectedRun hooks ty ex).getLast? = some p ∧ p.2.hard p.1.allowFailure = true) := by
  intro cand
  exact ⟨uptoHard_prefix cand, zipExits_map_fst _ _, zipExits_snd _ _, uptoHard_init cand,
    (uptoHard_noHard cand).1, (uptoHard_noHard cand).2⟩

/-- A hook with `allow_failure` that exits non-zero (or is killed) does not stop the sequence … -/
theorem allow_failure_continues (h : Hook) (hs : List Hook) (ty : HookType) (e : Exit)
    (ex : List Exit) (ht : h.hasType ty = true) (ha : h.allowFailure = true)
    (he : e = .ok ∨ (∃ c, e = .fail c) ∨ e = .signal) :
    call (h :: hs) ty (e :: ex) =
      ((h, e) :: (call hs ty ex).1, (call hs ty ex).2.1, (call hs ty ex).2.2) := by
  have hh : ((e :: ex).headD Exit.ok).hard h.allowFailure = false := by
    rcases he with rfl | ⟨c, rfl⟩ | rfl <;> simp [Exit.hard, ha]
  rw [call_cons_soft ht hh]
  rfl

/-- … whereas without it the sequence stops there and the operation is aborted; a failure to render
a template, to spawn, or to feed stdin aborts whatever `allow_failure` says. -/
theorem hard_failure_aborts (h : Hook) (hs : List Hook) (ty : HookType) (e : Exit)
    (ex : List Exit) (ht : h.hasType ty = true)
    (he : (h.allowFailure = false ∧ ((∃ c, e = .fail c) ∨ e = .signal)) ∨
      e = .spawnError ∨ e = .templateError ∨ e = .stdinError) :
    call (h :: hs) ty (e :: ex) = ([(h, e)], false, ex) := by
  have hh : ((e :: ex).headD Exit.ok).hard h.allowFailure = true := by
    rcases he with ⟨ha, ⟨c, rfl⟩ | rfl⟩ | rfl | rfl | rfl <;> simp [Exit.hard, *]
  rw [call_cons_hard ht hh]
  rfl

/-- One at a time: in program order every child that is started is awaited before the next one is
started (the only child that may be left un-awaited is the one whose stdin could not be fed, and the
call ends there); no two starts are adjacent; the events are those of the executed hooks. -/
theorem one_at_a_time (hooks : List Hook) (ty : HookType) (ex : List Exit) :
    alternates (callTrace hooks ty ex) = true ∧
    noAdjacentStarts (callTrace hooks ty ex) = true ∧
    callTrace hooks ty ex =
      ((call hooks ty ex).1.map fun p => singleTrace p.1 p.2).flatten := by
  exact ⟨alternates_callTrace hooks ty ex,
    noAdjacentStarts_of_alternates _ (alternates_callTrace hooks ty ex), callTrace_eq hooks ty ex⟩

/-- Only hooks with the event's type run; those that run are an initial segment of the attached
hooks of that type (each once, in order); all of them when the call succeeds, and otherwise the last
one that ran is the hard failure. -/
theorem only_matching_types (hooks : List Hook) (ty : HookType) (ex : List Exit) :
    (∀ p ∈ (call hooks ty ex).1, p.1 ∈ hooks ∧ ty ∈ p.1.types) ∧
    (call hooks ty ex).1.map Prod.fst <+: hooks.filter (fun h => h.hasType ty) ∧
    ((call hooks ty ex).2.1 = true →
      (call hooks ty ex).1.map Prod.fst = hooks.filter (fun h => h.hasType ty)) ∧
    ((call hooks ty ex).2.1 = false →
      ∃ p, (call hooks ty ex).1.getLast? = some p ∧ p.2.hard p.1.allowFailure = true) := by
  have hpre : (call hooks ty ex).1.map Prod.fst <+: hooks.filter (fun h => h.hasType ty) := by
    rw [call_fst]
    have := (uptoHard_prefix (zipExits (hooks.filter fun h => h.hasType ty) ex)).map Prod.fst
    rw [zipExits_map_fst] at this
    exact this
  refine ⟨?_, hpre, ?_, ?_⟩
  · intro p hp
    have : p.1 ∈ hooks.filter (fun h => h.hasType ty) :=
      hpre.subset (List.mem_map.mpr ⟨p, hp, rfl⟩)
    rw [List.mem_filter] at this
    exact ⟨this.1, by simpa [Hook.hasType] using this.2⟩
  · intro hok
    rw [call_ok] at hok
    rw [call_fst] at hok ⊢
    unfold expectedRun at hok ⊢
    rw [(uptoHard_noHard _).1 hok, zipExits_map_fst]
  · intro hok
    rw [call_ok] at hok
    rw [call_fst] at hok ⊢
    exact (uptoHard_noHard _).2 hok

/-! ## The file / certificate split (`main_event_loop.rs`) -/

/-- Both lists keep the declaration order, no hook having a file type (certificate type) is lost
from the file list (certificate list), and an event of a file type (certificate type) runs the same
hooks with the same outcome on the split list as on the whole list. -/
theorem split_preserves_order (hooks : List Hook) :
    (splitHooks hooks).1.Sublist hooks ∧ (splitHooks hooks).2.Sublist hooks ∧
    (∀ h ∈ hooks, (∃ t ∈ h.types, t ∈ fileTypes) → h ∈ (splitHooks hooks).1) ∧
    (∀ h ∈ hooks, (∃ t ∈ h.types, t ∈ certTypes) → h ∈ (splitHooks hooks).2) ∧
    (∀ ty ∈ fileTypes, ∀ ex, call (splitHooks hooks).1 ty ex = call hooks ty ex) ∧
    (∀ ty ∈ certTypes, ∀ ex, call (splitHooks hooks).2 ty ex = call hooks ty ex) := by
  refine ⟨List.filter_sublist, List.filter_sublist, ?_, ?_, ?_, ?_⟩
  · rintro h hh ⟨t, ht, htf⟩
    exact List.mem_filter.mpr ⟨hh, intersects_of_hasType htf (by simpa [Hook.hasType] using ht)⟩
  · rintro h hh ⟨t, ht, htf⟩
    exact List.mem_filter.mpr ⟨hh, intersects_of_hasType htf (by simpa [Hook.hasType] using ht)⟩
  · intro ty hty ex
    exact call_filter _ hooks ty ex (fun h _ ht => intersects_of_hasType hty ht)
  · intro ty hty ex
    exact call_filter _ hooks ty ex (fun h _ ht => intersects_of_hasType hty ht)

/-- Every hook type is a file type or a certificate type, never both: each event sees the list it
needs. -/
theorem types_partition (ty : HookType) : (ty ∈ fileTypes ∨ ty ∈ certTypes) ∧
    ¬(ty ∈ fileTypes ∧ ty ∈ certTypes) := by
  cases ty <;> decide

/-! ## Environment (clause C10.2) -/

/-- Repaired `set_env`: for every key the child process of a challenge (or clean) hook sees the
identifier's value if set, else the certificate's, else the global one, else the daemon's own; the
child of a post-operation hook or of a certificate's file hook sees certificate ▸ global ▸ daemon. -/
theorem env_precedence (proc global cert ident : Env) (k : Key) :
    lookup (challengeChildEnv .repaired proc global cert ident) k =
      expectedEnv proc global cert ident k ∧
    lookup (postOpChildEnv .repaired proc global cert) k = expectedEnv proc global cert [] k ∧
    lookup (certFileChildEnv .repaired proc global cert) k = expectedEnv proc global cert [] k := by
  simp only [challengeChildEnv, postOpChildEnv, certFileChildEnv, childEnv, challengeEnv, postOpEnv,
    fileEnv, lookup_append, lookup_setEnv_repaired, lookup_dispatchGlobal, expectedEnv, lookup,
    orElse_none_left, orElse_assoc, orElse_self, and_self]

/-- An account's file hooks (repaired `dispatch_global_env_vars`, commit 703ab3f): account ▸ global ▸
daemon, for every key. -/
theorem env_precedence_account (proc global account : Env) (k : Key) :
    lookup (accountFileChildEnv .repaired .repaired proc global account) k =
      expectedEnv proc global account [] k := by
  simp only [accountFileChildEnv, accountEnvAfterDispatch, childEnv, fileEnv, lookup_append,
    lookup_setEnv_repaired, lookup_dispatchGlobal, expectedEnv, lookup, orElse_none_left,
    orElse_assoc, orElse_self]

/-- Before that repair the `global` table was not consulted for accounts (only certificates were
visited): account ▸ daemon … -/
theorem env_precedence_account_old (proc global account : Env) (k : Key) :
    lookup (accountFileChildEnv .repaired .old proc global account) k =
      orElse (lookup account k) (lookup proc k) := by
  simp only [accountFileChildEnv, accountEnvAfterDispatch, childEnv, fileEnv, lookup_append,
    lookup_setEnv_repaired, lookup, orElse_none_left, orElse_assoc, orElse_self]

/-- … so "account over global over the daemon's own" was false: a variable set only in
`[global] env` did not reach an account's file hooks. -/
theorem env_precedence_account_old_is_false :
    ¬ ∀ (proc global account : Env) (k : Key),
      lookup (accountFileChildEnv .repaired .old proc global account) k =
        expectedEnv proc global account [] k := by
  intro h
  have := h [] [(['K'], ['g'])] [] ['K']
  revert this
  decide

/-- It held for every key the global table does not set. -/
theorem env_precedence_account_old_partial (proc global account : Env) (k : Key)
    (hk : lookup global k = none) :
    lookup (accountFileChildEnv .repaired .old proc global account) k =
      expectedEnv proc global account [] k := by
  rw [env_precedence_account_old]
  simp only [expectedEnv, hk, lookup, orElse_none_left]

/-- Before the repair: a variable present both in the daemon's environment and in the certificate's
table reached a challenge hook with the daemon's value (observation f). -/
theorem env_precedence_old_is_false :
    ¬ ∀ (proc global cert ident : Env) (k : Key),
      lookup (challengeChildEnv .old proc global cert ident) k =
        expectedEnv proc global cert ident k := by
  intro h
  have := h [(['K'], ['d'])] [] [(['K'], ['c'])] [] ['K']
  revert this
  decide

/-- Before the repair the precedence was right for every key not set in the daemon's environment. -/
theorem env_precedence_old_partial (proc global cert ident : Env) (k : Key)
    (hk : lookup proc k = none) :
    lookup (challengeChildEnv .old proc global cert ident) k =
      expectedEnv proc global cert ident k ∧
    lookup (postOpChildEnv .old proc global cert) k = expectedEnv proc global cert [] k ∧
    lookup (certFileChildEnv .old proc global cert) k = expectedEnv proc global cert [] k := by
  simp only [challengeChildEnv, postOpChildEnv, certFileChildEnv, childEnv, challengeEnv, postOpEnv,
    fileEnv, lookup_append, lookup_setEnv_old_absent _ _ _ _ hk, lookup_dispatchGlobal, expectedEnv,
    lookup, hk, orElse_none_left, orElse_none_right, and_self]

/-! ## Challenge hooks and their clean hooks (clause C10.5) -/

/-- `markClean` changes `is_clean_hook` and nothing else. -/
theorem markClean_only_flag (d : ChallengeData) :
    (markClean d).isCleanHook = true ∧ (markClean d).identifier = d.identifier ∧
    (markClean d).identifierTlsAlpn = d.identifierTlsAlpn ∧ (markClean d).challenge = d.challenge ∧
    (markClean d).fileName = d.fileName ∧ (markClean d).proof = d.proof ∧
    (markClean d).rawProof = d.rawProof ∧ (markClean d).env = d.env ∧
    { markClean d with isCleanHook := d.isCleanHook } = d :=
  ⟨rfl, rfl, rfl, rfl, rfl, rfl, rfl, rfl, rfl⟩

/-- The authorization fragment, as the code is.  With `p` the challenge phase:
1. the challenge phase never makes a clean call, and its data has `is_clean_hook = false`;
2. whatever happens, what was collected is `cleanEntry` of the first `k` challenges, and exactly
   those were POSTed (a hook hard failure ⇒ that challenge is neither pushed nor POSTed);
3. if a challenge hook fails hard, or a POST fails, or the poll fails, NO clean hook is called — not
   even for the challenges already collected (`?` returns early);
4. if all of that succeeds: the events are, per challenge, hooks (no hard failure) then POST; then
   the poll; then, for each challenge in order, one call of its clean type with the challenge's own
   data marked clean — up to the first clean call that fails (at least one if there was a
   challenge, all of them if the fragment succeeds). -/
theorem clean_follows_validated (mode : EnvMode) (proc certEnv : Env) (hooks : List Hook)
    (chals : List ChallengeIn) (pollOk : Bool) (ex : List Exit) :
    let p := challengePhase mode proc certEnv hooks chals [] ex
    let r := authFragment mode proc certEnv hooks chals pollOk ex
    (∀ e ∈ p.events, isCleanCall e = false) ∧
    (∃ k, k ≤ chals.length ∧ p.pushed = (chals.take k).map (cleanEntry mode proc certEnv) ∧
      (p.events.filterMap fun e => match e with | .post d => some d | _ => none) =
        (chals.take k).map (mkChallengeData mode proc certEnv)) ∧
    (p.ok = false → r.1 = p.events ∧ r.2.1 = false) ∧
    (p.ok = true → pollOk = false → r.1 = p.events ++ [AuthEvent.poll] ∧ r.2.1 = false) ∧
    (p.ok = true → pollOk = true →
      ∃ rans cleanRans : List (List (Hook × Exit)),
        rans.length = chals.length ∧ (∀ ran ∈ rans, noHard ran = true) ∧
        cleanRans.length ≤ chals.length ∧ (1 ≤ chals.length → 1 ≤ cleanRans.length) ∧
        (r.2.1 = true → cleanRans.length = chals.length) ∧
        r.1 = okEvents mode proc certEnv chals rans ++ AuthEvent.poll ::
          cleanEvents (chals.map (cleanEntry mode proc certEnv)) cleanRans) := by
  intro p r
  obtain ⟨hnc, ⟨k, hk, hpk, hek⟩, hall⟩ := challengePhase_spec mode proc certEnv hooks chals [] ex
  have e : r = _ := authFragment_eq mode proc certEnv hooks chals pollOk ex p rfl
  refine ⟨hnc, ⟨k, hk, hpk.trans (List.nil_append _), hek⟩, fun hok => ?_, fun hok hpoll => ?_,
    fun hok hpoll => ?_⟩
  · rw [e, hok]; exact ⟨rfl, rfl⟩
  · rw [e, hok, hpoll]; exact ⟨rfl, rfl⟩
  · obtain ⟨hp, rans, hlen, hno, hev⟩ := hall hok
    obtain ⟨crans, hcl, hcok, hc1, hcev⟩ := cleanPhase_events hooks p.pushed p.exits
    have hpl : p.pushed.length = chals.length := by rw [hp, List.nil_append, List.length_map]
    rw [hpl] at hcl hcok hc1
    rw [e, hok, hpoll, if_pos rfl, if_pos rfl, hcev, hev]
    exact ⟨rans, crans, hlen, hno, hcl, hc1, hcok, by rw [hp, List.nil_append]⟩

/-! ## Template variables (clause C10.2) -/

/-- Given the table of serde field names of the three hook data structures (tabulated from the
compiled code), if the decidable check passes then every variable the man page documents for a hook
type is a member of the structure serialised for that type. -/
theorem documented_vars_provided (table : List (String × List String))
    (h : coversDocumented table = true) :
    ∀ ty v, v ∈ documentedVars ty → v ∈ membersOf table (dataStruct ty) := by
  intro ty v hv
  simp only [coversDocumented, List.all_eq_true] at h
  have := h ty (by cases ty <;> decide) v hv
  simpa using this

/-- The field names read from `hooks.rs:50-84` pass the check. -/
example : coversDocumented providedVars = true := by decide +kernel

/-- The check is not vacuous: dropping `raw_proof` from `ChallengeHookData` fails it. -/
example : coversDocumented
    [("PostOperationHookData",
        ["identifiers", "key_type", "status", "is_success", "certificate_path", "private_key_path",
         "env"]),
     ("ChallengeHookData",
        ["identifier", "identifier_tls_alpn", "challenge", "file_name", "proof", "is_clean_hook",
         "env"]),
     ("FileStorageHookData", ["file_name", "file_directory", "file_path", "env"])] = false := by
  decide +kernel

/-! ## The judge accepts the model (the `Spec` predicates are satisfiable and tied to the model) -/

theorem obsHard_code (h : Hook) (e : Exit) (ho : Exit.observable e = true) :
    obsHard h (Exit.code e) = e.hard h.allowFailure := by
  cases e with
  | fail c =>
    have hc : c ≠ 0 := by simpa [Exit.observable] using ho
    simp [obsHard, Exit.code, Exit.hard, hc]
  | ok | signal => simp [obsHard, Exit.code, Exit.hard]
  | spawnError | templateError | stdinError => cases ho

/-- With children that can be spawned, fed and awaited, the observed log of a `call` of the model
satisfies `Spec.C10.holds`. -/
theorem model_satisfies_holds (hooks : List Hook) (ty : HookType) (ex : List Exit)
    (hobs : ∀ p ∈ (call hooks ty ex).1, Exit.observable p.2 = true) :
    holds hooks ty (obsOf (call hooks ty ex).1) (call hooks ty ex).2.1 = true := by
  unfold holds
  induction hooks generalizing ex with
  | nil => rfl
  | cons h hs ih =>
    cases ht : h.hasType ty with
    | false =>
      rw [call_cons_skip ht] at hobs ⊢
      simp only [List.filter_cons, ht, Bool.false_eq_true, if_false]
      exact ih ex hobs
    | true =>
      simp only [List.filter_cons, ht, if_true]
      cases hh : (ex.headD Exit.ok).hard h.allowFailure with
      | true =>
        rw [call_cons_hard ht hh] at hobs ⊢
        have ho : obsHard h (Exit.code (ex.headD Exit.ok)) = true :=
          hh ▸ obsHard_code h _ (hobs (h, ex.headD Exit.ok) List.mem_cons_self)
        simp only [obsOf, List.map_cons, List.map_nil, holdsAux, decide_true, Bool.true_and, ho, if_true]
        rfl
      | false =>
        rw [call_cons_soft ht hh] at hobs ⊢
        have ho : obsHard h (Exit.code (ex.headD Exit.ok)) = false :=
          hh ▸ obsHard_code h _ (hobs (h, ex.headD Exit.ok) List.mem_cons_self)
        simp only [obsOf, List.map_cons, holdsAux, decide_true, Bool.true_and, ho, Bool.false_eq_true,
          if_false]
        exact ih ex.tail (fun p hp => hobs p (List.mem_cons_of_mem _ hp))

/-- The repaired model's child environments satisfy `Spec.C10.envHolds` for any keys of interest. -/
theorem model_satisfies_envHolds (proc global owner ident : Env) (keys : List Key) :
    envHolds proc global owner ident (challengeChildEnv .repaired proc global owner ident) keys = true ∧
    envHolds proc global owner [] (postOpChildEnv .repaired proc global owner) keys = true ∧
    envHolds proc global owner [] (certFileChildEnv .repaired proc global owner) keys = true ∧
    envHolds proc global owner [] (accountFileChildEnv .repaired .repaired proc global owner) keys =
      true := by
  simp only [envHolds, List.all_eq_true, beq_iff_eq]
  exact ⟨fun k _ => (env_precedence proc global owner ident k).1,
    fun k _ => (env_precedence proc global owner ident k).2.1,
    fun k _ => (env_precedence proc global owner ident k).2.2,
    fun k _ => env_precedence_account proc global owner k⟩

/-- `expectedChildEnv` (what the harness compares observed child environments with) is exactly what
the repaired model's child sees, for every kind and every list of keys. -/
theorem model_matches_expectedChildEnv (kind : EnvKind) (proc global owner ident : Env)
    (keys : List Key) :
    expectedChildEnv kind proc global owner ident keys =
      keys.map fun k => (k, lookup (modelChildEnv kind proc global owner ident) k) := by
  unfold expectedChildEnv
  apply List.map_congr_left
  intro k _
  cases kind
  · simp only [modelChildEnv, (env_precedence proc global owner ident k).1]
  · simp only [modelChildEnv, (env_precedence proc global owner ident k).2.1]
  · simp only [modelChildEnv, (env_precedence proc global owner ident k).2.2]
  · simp only [modelChildEnv, env_precedence_account proc global owner k]

section Examples

private def hk (s : String) (t : List HookType) (a : Bool := false) : Hook := ⟨s.toList, t, a⟩
private def exHooks : List Hook :=
  [hk "a" [.postOperation], hk "b" [.filePreCreate, .postOperation] true,
   hk "c" [.challengeHttp01, .challengeHttp01Clean, .postOperation]]
private def exGroups : List Group :=
  [⟨"g".toList, ["b".toList, "g2".toList]⟩, ⟨"g2".toList, ["c".toList, "a".toList]⟩,
   ⟨"loop".toList, ["a".toList, "loop2".toList]⟩, ⟨"loop2".toList, ["loop".toList]⟩,
   ⟨"a".toList, ["loop".toList]⟩]

/-- Nested groups are expanded in place; the group called `a` is shadowed by the hook `a`. -/
example : expandAll exHooks exGroups ["g".toList, "a".toList] =
    .ok [hk "b" [.filePreCreate, .postOperation] true,
         hk "c" [.challengeHttp01, .challengeHttp01Clean, .postOperation],
         hk "a" [.postOperation], hk "a" [.postOperation]] := by rfl
example : expandAll exHooks exGroups ["a".toList, "loop".toList] = .error (.cycle "loop".toList) := by
  rfl
example : expandAll exHooks exGroups ["zz".toList] = .error (.notFound "zz".toList) := by rfl
/-- The hypotheses of `expand_rejects_cycles` are satisfiable. -/
example : Star exHooks exGroups "loop".toList "loop2".toList ∧
    Plus exHooks exGroups "loop2".toList "loop2".toList := by
  have s1 : Step exHooks exGroups "loop".toList "loop2".toList :=
    ⟨by decide +kernel, ⟨"loop".toList, ["a".toList, "loop2".toList]⟩, by decide +kernel,
      by decide +kernel⟩
  have s2 : Step exHooks exGroups "loop2".toList "loop".toList :=
    ⟨by decide +kernel, ⟨"loop2".toList, ["loop".toList]⟩, by decide +kernel, by decide +kernel⟩
  exact ⟨.head s1 (.refl _), "loop".toList, s2, .head s1 (.refl _)⟩

/-- `allow_failure` continues, a plain failure stops; the unconsumed exit is handed back. -/
example : call exHooks .postOperation [.ok, .fail 2, .fail 3, .ok] =
    ([(hk "a" [.postOperation], .ok), (hk "b" [.filePreCreate, .postOperation] true, .fail 2),
      (hk "c" [.challengeHttp01, .challengeHttp01Clean, .postOperation], .fail 3)], false, [.ok]) := by
  decide +kernel
example : callTrace exHooks .postOperation [.ok, .signal, .stdinError] =
    [.start "a".toList, .finish "a".toList .ok, .start "b".toList, .finish "b".toList .signal,
     .start "c".toList] := by decide +kernel
example : holds exHooks .postOperation
    [⟨"a".toList, some 0⟩, ⟨"b".toList, some 2⟩, ⟨"c".toList, some 3⟩] false = true := by decide +kernel
/-- The judge rejects a skipped hook, a wrong order, a continuation after a hard failure. -/
example : holds exHooks .postOperation [⟨"a".toList, some 0⟩, ⟨"c".toList, some 0⟩] true = false := by
  decide +kernel
example : holds exHooks .postOperation
    [⟨"b".toList, some 0⟩, ⟨"a".toList, some 0⟩, ⟨"c".toList, some 0⟩] true = false := by decide +kernel
example : holds exHooks .postOperation
    [⟨"a".toList, some 1⟩, ⟨"b".toList, some 0⟩, ⟨"c".toList, some 0⟩] true = false := by decide +kernel

example : splitHooks exHooks =
    ([hk "b" [.filePreCreate, .postOperation] true], exHooks) := by decide +kernel

/-- `expectedChildEnv` on witness f and on the account witness. -/
example : expectedChildEnv .challenge [(['K'], ['d'])] [] [(['K'], ['c'])] [] [['K'], ['L']] =
    [(['K'], some ['c']), (['L'], none)] := by decide +kernel
example : expectedChildEnv .accountFile [] [(['K'], ['g'])] [] [(['Z'], ['i'])] [['K'], ['Z']] =
    [(['K'], some ['g']), (['Z'], none)] := by decide +kernel

private def exChal (id : String) (postOk : Bool) : ChallengeIn :=
  { kind := .http01, identifier := id.toList, identifierTlsAlpn := [], fileName := "tok".toList,
    proof := "prf".toList, rawProof := [], identEnv := [("I".toList, id.toList)], postOk := postOk }

/-- Two validated challenges: each is followed, after the poll, by its clean hook with the same data
but `is_clean_hook`. -/
example :
    let d1 := mkChallengeData .repaired [] [] (exChal "x" true)
    let d2 := mkChallengeData .repaired [] [] (exChal "y" true)
    let c := hk "c" [.challengeHttp01, .challengeHttp01Clean, .postOperation]
    authFragment .repaired [] [] exHooks [exChal "x" true, exChal "y" true] true [] =
      ([.hooks .challengeHttp01 d1 [(c, .ok)], .post d1, .hooks .challengeHttp01 d2 [(c, .ok)],
        .post d2, .poll, .hooks .challengeHttp01Clean (markClean d1) [(c, .ok)],
        .hooks .challengeHttp01Clean (markClean d2) [(c, .ok)]], true, []) := by decide +kernel

/-- The second POST fails: the first challenge's proof is never cleaned. -/
example :
    let d1 := mkChallengeData .repaired [] [] (exChal "x" true)
    let d2 := mkChallengeData .repaired [] [] (exChal "y" false)
    let c := hk "c" [.challengeHttp01, .challengeHttp01Clean, .postOperation]
    authFragment .repaired [] [] exHooks [exChal "x" true, exChal "y" false] true [] =
      ([.hooks .challengeHttp01 d1 [(c, .ok)], .post d1, .hooks .challengeHttp01 d2 [(c, .ok)],
        .post d2], false, []) := by decide +kernel

end Examples

/-! ## Tie to the compiled code: the serde member names of the three hook data structures

`AcmedVerif.Gen.hookDataMembers` is regenerated on every run by `py/gen.py: gen_tables()` from the
COMPILED crate (probe op `tables` serialises one value of each structure with serde_json and lists
the keys).  The probe labels the three rows by the hook family; `compiledStructs` gives them the
names of the Rust structures (`Hooks.dataStruct`).  Removing or renaming a member that the man page
documents in `hooks.rs` makes `documented_vars_in_compiled_structs` fail to check. -/

/-- Row label of `Gen.hookDataMembers` → Rust structure name (a row already labelled with a structure
name is kept). -/
def structOfLabel (s : String) : String :=
  if s == "post-operation" then "PostOperationHookData"
  else if s == "challenge" then "ChallengeHookData"
  else if s == "file" then "FileStorageHookData"
  else s

def compiledStructs : List (String × List String) :=
  AcmedVerif.Gen.hookDataMembers.map fun p => (structOfLabel p.1, p.2)

theorem documented_vars_in_compiled_structs : Hooks.coversDocumented compiledStructs = true := by
  decide +kernel

/-- Every variable the man page documents for a hook type is a member of the structure the compiled
code serialises into the template context for that type. -/
theorem documented_vars_compiled :
    ∀ ty v, v ∈ documentedVars ty → v ∈ membersOf compiledStructs (dataStruct ty) :=
  documented_vars_provided compiledStructs documented_vars_in_compiled_structs

end AcmedVerif.Props.C10
