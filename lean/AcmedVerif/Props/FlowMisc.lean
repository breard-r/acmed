/-
Flow clauses of C01 (last sentence), C02 (what is written is what was issued), C04
(`jwk_only_where_allowed`) and C05 (last sentence).  Theorems about `Flow.attempt` and the
authorisation step `Flow.processAuthz`; lemmas in `Lemmas/Flow.lean`.
For EVERY world: scripts of any length, any configuration, any files, any account state.
-/
import AcmedVerif.Lemmas.Flow
import AcmedVerif.Props.C03

namespace AcmedVerif.Props.FlowMisc
open AcmedVerif.Flow

/-- **C01, last sentence (current tree).** If the attempt succeeds, EVERY key a CSR was built with
in this attempt (there is exactly one, used for the finalize request) is the key that sits in the
key file at the end. -/
theorem csr_key_is_stored_key (cfg : Cfg) (w : World) (h : (attempt .current cfg w).1 = .ok)
    (k : KeyId) (hk : .csr k ∈ (attempt .current cfg w).2.1) :
    (attempt .current cfg w).2.2.files.keyFile = some k := by
  obtain ⟨w', hr, hw⟩ := attempt_ok_inv h
  obtain ⟨k1, isNew, _, _, es1, es3, pre, htr, ha1, ha3, _, haI, _, _, hkey, _⟩ :=
    attempt_ok_trace hr
  rw [hw] at hk ⊢
  -- the only CSR event of the trace is the one of `fetchPre`, for the key of the anatomy
  rw [htr] at hk
  simp only [List.nil_append, List.mem_append, List.mem_cons, List.not_mem_nil, or_false] at hk
  rcases hk with ((hm | hm | hm) | hm | hm) | hm | hm
  · exact (ha1 _ hm).elim
  · cases isNew <;> cases hm
  · rw [hkey, ha3 _ hm]
  · cases hm
  · exact (haI _ hm).elim
  · cases hm
  · cases hm

/-- **C02, flow clause (any variant).** If the attempt succeeds, the certificate file holds exactly
the body the CA served in the (one) certificate download. -/
theorem cert_bytes_are_served_bytes (v : Variant) (cfg : Cfg) (w : World)
    (h : (attempt v cfg w).1 = .ok) (a : Auth) (s : KeyId) (body : Body)
    (hb : .exch .certDownload a s (.ok body) ∈ (attempt v cfg w).2.1) :
    (attempt v cfg w).2.2.files.certFile = some body.certClass.content := by
  obtain ⟨w', hr, hw⟩ := attempt_ok_inv h
  obtain ⟨_, isNew, body1, _, es1, es3, pre, htr, ha1, ha3, _, haI, _, hcert, _⟩ :=
    attempt_ok_trace hr
  rw [hw] at hb ⊢
  rw [htr] at hb
  simp only [List.nil_append, List.mem_append, List.mem_cons, List.not_mem_nil, or_false] at hb
  rcases hb with ((hm | hm | hm) | hm | hm) | hm | hm
  · exact absurd rfl (ha1 _ hm).2.2
  · cases isNew <;> cases hm
  · rcases (ha3 _ hm).2 with h' | h' <;> cases h'
  · cases hm; exact hcert
  · exact (haI _ hm).elim
  · cases hm
  · cases hm

/-- **C04 `jwk_only_where_allowed`** (any variant): in every attempt every request is
authenticated as its kind demands — the public key as `jwk` exactly in account creation, the
account URL as `kid` in every other signed request (the outer JWS of a key change included; its
inner object, which carries the new key as `jwk`, is `Model/Jose`), nothing for the directory GET. -/
theorem jwk_only_where_allowed (v : Variant) (cfg : Cfg) (w : World) (k : ReqKind) (a : Auth)
    (s : KeyId) (r : ExRes) (h : .exch k a s r ∈ (attempt v cfg w).2.1) :
    a = authOf k ∧ (a = .jwk ↔ k = .newAccount) ∧
      (k ≠ .newAccount → k ≠ .directory → a = .kid) := by
  have hall : Sat (TR (AllEv fun e => ∀ k a s r, e = .exch k a s r → a = authOf k))
      (attemptM v cfg) :=
    .bind (AllEv.tlaw _).law
      (AllEv.obtainM _ v cfg (fun e he k a s r heq => by subst heq; exact he.1)
        (fun k0 n e he k a s r heq => by subst heq; exact he.1)
        (fun _ _ _ _ _ heq => nomatch heq) (fun _ _ _ _ _ heq => nomatch heq)
        (fun _ _ _ _ _ _ heq => by cases heq; rfl))
      fun q => AllEv.install _
        (fun _ => ⟨fun _ _ _ _ heq => (nomatch heq), fun _ _ _ _ heq => (nomatch heq)⟩)
        (fun _ _ _ _ _ heq => nomatch heq) (fun _ _ _ _ _ heq => nomatch heq) v q.1 q.2.1 q.2.2
  have ha := hall.attempt w _ h k a s r rfl
  subst ha
  exact ⟨rfl, authOf_eq_jwk, authOf_eq_kid⟩

/-- **C05 `ready_after_hooks`** (any variant): in every attempt, a "challenge ready" POST for
challenge `c` is immediately preceded by the successful hook group of that same challenge (the
proof computation in between emits no event). -/
theorem ready_after_hooks (v : Variant) (cfg : Cfg) (w : World) (pre post : List Ev) (c : Nat)
    (a : Auth) (s : KeyId) (r : ExRes)
    (h : (attempt v cfg w).2.1 = pre ++ .exch (.challengeReady c) a s r :: post) :
    ∃ pre', pre = pre' ++ [.hooks (.challenge c) true] := by
  have hm := ((ready_attemptM v cfg).attempt w).1 none
  rw [h] at hm
  rcases readyMon_sound pre none hm with ⟨_, h0⟩ | h1
  · cases h0
  · exact h1

/-- … and an attempt whose trace has a failed challenge hook group fails with the hook error.  (That
no "ready" POST follows the failed group is not part of this statement; it is the previous theorem:
a POST needs a SUCCESSFUL hook group right before it.) -/
theorem hooks_failed_no_ready (v : Variant) (cfg : Cfg) (w : World) (c : Nat)
    (h : .hooks (.challenge c) false ∈ (attempt v cfg w).2.1) :
    (attempt v cfg w).1 = .failed .challengeHooks := by
  exact ((ready_attemptM v cfg).attempt w).2 ⟨c, h⟩

/-- **C05 `no_hook_for_valid`**: an authorisation answered `valid` produces nothing but its fetch:
no hook event, no "ready" POST, no poll — the step returns at once. -/
theorem no_hook_for_valid (cfg : Cfg) (a : Nat) (w : World) (b : AuthzBody) (rest : List ExRes)
    (hx : w.exs = .ok (.authz b) :: rest) (hv : b.status = .valid) :
    (processAuthz cfg a w).1.tag = .ok ∧
    (processAuthz cfg a w).2.trace =
      w.trace ++ [.exch (.authz a) .kid w.acc.curKey (.ok (.authz b))] ∧
    (processAuthz cfg a w).2.hks = w.hks := by
  rw [processAuthz_valid cfg a w b rest hx hv]
  exact ⟨rfl, rfl, rfl⟩

/-- **C05 `clean_after_poll`**: for a pending authorisation whose identifier is configured, the
step is: solve the offered challenges of the configured type (`cs` = the challenges whose "ready"
POST was answered 2xx, which are ALL offered challenges of that type, in order), poll; and once
the poll has succeeded the clean hooks run for exactly `cs`, in order — all of them if the step
returns, a prefix (up to the first failing clean hook) otherwise; nothing else happens after the
poll. -/
theorem clean_after_poll (cfg : Cfg) (a : Nat) (w : World) (b : AuthzBody) (rest : List ExRes)
    (d : Ident) (hx : w.exs = .ok (.authz b) :: rest) (hp : b.status = .pending)
    (hl : lookup cfg.ids b.ident b.wildcard = some d)
    (cs : List Nat) (w2 w3 : World)
    (hs : solveChallenges d.chal b.challenges
      (w.afterExch (.authz a) w.acc.curKey (.ok (.authz b)) rest) = (.val cs, w2))
    (hpoll : pollAuthz a Gen.DEFAULT_POOL_NB_TRIES w2 = (.val (), w3)) :
    processAuthz cfg a w = cleanHooks cs w3 ∧
    cs = (b.challenges.filter fun x => x.1 == d.chal).map (·.2) ∧
    (∃ es, w2.trace = (w.afterExch (.authz a) w.acc.curKey (.ok (.authz b)) rest).trace ++ es ∧
      readyIds es = cs) ∧
    (∃ es, (processAuthz cfg a w).2.trace = w3.trace ++ es ∧ cleanIds es <+: cs ∧
      ∀ e ∈ es, ∃ c ok, e = .hooks (.clean c) ok) ∧
    ((processAuthz cfg a w).1.tag = .ok →
      (processAuthz cfg a w).2.trace = w3.trace ++ cs.map fun c => .hooks (.clean c) true) := by
  have hrun : processAuthz cfg a w = cleanHooks cs w3 := by
    rw [processAuthz_pending cfg a w b rest d hx hp hl]
    simp only [bind_run, hs, hpoll]
  obtain ⟨hcs, es, he, hr⟩ := solve_val _ _ _ _ _ hs
  refine ⟨hrun, hcs, ⟨es, he, hr⟩, ?_, ?_⟩
  · rw [hrun]; exact cleanHooks_prefix cs w3
  · rw [hrun]
    intro hok
    rcases hc : cleanHooks cs w3 with ⟨o, w4⟩
    rw [hc] at hok
    cases o with
    | val u => exact cleanHooks_val cs w3 w4 u hc
    | fail s => simp at hok
    | stuck => simp at hok

/-- Non-vacuity of `clean_after_poll` / `ready_after_hooks`: the happy path of `Props/C03`'s
conforming CA runs the http-01 hooks for challenge 5, posts "ready", polls, cleans. -/
example : ((attempt .current C03.cfg1 (C03.world1
    (C03.caScript (C03.okOrder .processing) (.chainFor 8)) (List.replicate 6 true))).2.1.filter
    fun e => match e with
      | .hooks (.challenge _) _ | .hooks (.clean _) _ | .exch (.challengeReady _) .. => true
      | _ => false) =
    [.hooks (.challenge 5) true, .exch (.challengeReady 5) .kid 100 (.ok .undecodable),
     .hooks (.clean 5) true] := by decide +kernel

end AcmedVerif.Props.FlowMisc
